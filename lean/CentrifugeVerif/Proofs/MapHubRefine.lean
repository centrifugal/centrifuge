import CentrifugeVerif.Proofs.MapHub
import CentrifugeVerif.Spec.RefMap
/-!
# `MapHub.step` refines `RefMap.step`

The executable model of the in-memory map broker (`Model/MapHub.lean`), seen through the abstraction
`abs` (forget heap, deadline table, scores, ordered flag), *is* the reference map of `Spec/RefMap.lean`:
same abstract state after every supported operation, identical outputs (result and broadcasts).
-/
namespace CentrifugeVerif.RefMap
open CentrifugeVerif.MapHub

/-! ### abstraction -/

/-- forget heap, deadline table, scores, ordered flag -/
def absChan (c : Chan) : RChan := ⟨c.stream.epoch, c.stream.top, c.stream.items, c.state⟩

def abs (h : Hub) : RefMap := ⟨h.chans.map (fun kv => (kv.1, absChan kv.2)), h.cache, h.nextEpoch⟩

/-- the implementation's current `ordered` flag of a channel (only labels read-state replies) -/
def orderedOf (h : Hub) (ch : Nat) : Bool :=
  match aget h.chans ch with
  | some c => c.ordered
  | none => false

/-- a step result seen through the abstraction -/
def absOut (r : Hub × MOut) : RefMap × MOut := (abs r.1, r.2)

@[simp] theorem absChan_state (c : Chan) : (absChan c).state = c.state := rfl
@[simp] theorem absChan_top (c : Chan) : (absChan c).top = c.stream.top := rfl
@[simp] theorem absChan_epoch (c : Chan) : (absChan c).epoch = c.stream.epoch := rfl
@[simp] theorem absChan_stream (c : Chan) : (absChan c).stream = c.stream.items := rfl
@[simp] theorem absChan_pos (c : Chan) : (absChan c).pos = c.stream.pos := rfl
@[simp] theorem abs_cache (h : Hub) : (abs h).cache = h.cache := rfl
@[simp] theorem abs_nextEpoch (h : Hub) : (abs h).nextEpoch = h.nextEpoch := rfl

theorem abs_get (h : Hub) (ch : Nat) : aget (abs h).chans ch = (aget h.chans ch).map absChan :=
  aget_map absChan h.chans ch

/-- `abs` looks at channels, result cache and `nextEpoch` only: writing one channel -/
theorem abs_aset {h h' : Hub} {ch : Nat} {c : Chan} (hc : h'.chans = aset h.chans ch c)
    (hca : h'.cache = h.cache) (hn : h'.nextEpoch = h.nextEpoch) :
    abs h' = { abs h with chans := aset (abs h).chans ch (absChan c) } := by
  simp only [abs, hc, hca, hn, aset_map]

theorem abs_setChan (h : Hub) (ch : Nat) (c : Chan) :
    abs (h.setChan ch c) = { abs h with chans := aset (abs h).chans ch (absChan c) } :=
  abs_aset rfl rfl rfl

theorem abs_trackTTL (h : Hub) (ck : ChKey) (e : Nat) : abs (h.trackTTL ck e) = abs h := rfl

theorem abs_cachePut (h : Hub) (now ch i : Nat) (p : Pos) (t : Nat) :
    abs (MapHub.cachePut h now ch i p t) = RefMap.cachePut (abs h) now ch i p t := rfl

theorem cacheGet_abs (h : Hub) (now ch i : Nat) :
    RefMap.cacheGet (abs h) now ch i = MapHub.cacheGet h now ch i := rfl

/-- the spec's get-or-fresh channel is the abstraction of the model's get-or-create step -/
theorem touch_abs (cfg : Cfg) (h : Hub) (ch : Nat) :
    touch (abs h) ch = (abs (hubFor cfg h ch), absChan (chanFor cfg h ch)) := by
  unfold touch hubFor chanFor
  rw [abs_get]
  cases hq : aget h.chans ch with
  | none => simp only [Option.map, abs, aset_map]; rfl
  | some c =>
    simp only [Option.map]
    split
    · have ha : aget (abs h).chans ch = some (absChan c) := by rw [abs_get, hq]; rfl
      rw [abs_aset (h' := h.setChan ch { c with ordered := true }) rfl rfl rfl]
      show _ = ({ abs h with chans := aset (abs h).chans ch (absChan c) }, absChan c)
      rw [aset_self _ _ _ ha]
    · rfl

/-! ### the checks agree -/

theorem checkVersion_abs (cfg : Cfg) (c : Chan) (key : Key) (o : PubOpts) :
    checkVersion cfg (absChan c) key o = if versionBlocked cfg c key o then some .version else none := by
  unfold checkVersion versionBlocked
  rw [absChan_state]
  cases aget c.state key with
  | none => simp
  | some e => simp [and_assoc]

theorem checkKeyMode_abs (c : Chan) (key : Key) (o : PubOpts) :
    checkKeyMode (absChan c) key o = keyModeBlocked c key o := by
  unfold checkKeyMode keyModeBlocked
  simp only [absChan_state]
  by_cases hk : key = []
  · simp [hk]
  · cases hm : o.mode <;> cases hq : aget c.state key <;> simp [hk]

theorem checkCAS_abs (c : Chan) (key : Key) (cas : Option Pos) :
    checkCAS (absChan c) key cas = (casBlocked c key cas).map (fun _ => .positionMismatch) := by
  unfold checkCAS casBlocked
  simp only [absChan_state, absChan_epoch]
  cases cas with
  | none => rfl
  | some exp =>
    cases aget c.state key with
    | none => rfl
    | some e =>
      simp only []
      by_cases h1 : e.pub.offset = exp.offset <;> by_cases h2 : c.stream.epoch = exp.epoch <;> simp [h1, h2]

/-- the specification's verdict is the decision `decideSup` the model is proved to take (`add_sup`) -/
theorem verdict_abs (cfg : Cfg) (c : Chan) (key : Key) (o : PubOpts) :
    verdict cfg (absChan c) key o = decideSup cfg c key o := by
  unfold verdict decideSup
  rw [checkVersion_abs, checkKeyMode_abs, checkCAS_abs]
  cases hv : versionBlocked cfg c key o with
  | true => simp
  | false =>
    simp only [Bool.false_eq_true, if_false]
    cases hk : keyModeBlocked c key o with
    | some r => rfl
    | none =>
      simp only []
      by_cases hne : key = []
      · simp [hne]
      · cases hc : casBlocked c key o.cas <;> simp [hne]

/-! ### clear, read-stream, read-state -/

theorem clear_refines (h : Hub) (ch : Nat) : abs (MapHub.clear h ch) = RefMap.clear (abs h) ch := by
  unfold MapHub.clear RefMap.clear
  cases hq : aget h.chans ch with
  | none =>
    have : aget (abs h).chans ch = none := by rw [abs_get, hq]; rfl
    simp only [adel_absent _ _ this]
    rfl
  | some c => simp only [abs, adel_map]

theorem createPos_abs (h : Hub) (ch : Nat) (hq : aget h.chans ch = none) :
    touch (abs h) ch = (abs (h.createPos ch).1, RChan.fresh h.nextEpoch) ∧
    (h.createPos ch).2 = (RChan.fresh h.nextEpoch).pos := by
  have : aget (abs h).chans ch = none := by rw [abs_get, hq]; rfl
  unfold touch
  simp only [this]
  simp only [Hub.createPos, abs, aset_map]
  exact ⟨rfl, rfl⟩

theorem readStream_refines (h : Hub) (ch : Nat) (o : StreamOpts) :
    absOut (getStream h ch o) = readStream (abs h) ch o := by
  unfold getStream readStream
  rw [abs_get]
  cases hq : aget h.chans ch with
  | none =>
    obtain ⟨h1, h2⟩ := createPos_abs h ch hq
    simp only [Option.map, h1, h2, absOut]
  | some c =>
    simp only [Option.map]
    cases o.since <;> simp only [apply_ite absOut] <;> rfl

theorem readKey_refines (rc : RawCfg) (h : Hub) (ch : Nat) (o : StateOpts)
    (hs : o.key ≠ [] ∨ o.limit = 0) :
    absOut (getState rc h ch o) = readKey rc (abs h) ch o (orderedOf h ch) := by
  -- the paged branch `x` of `getState` is excluded by `hs`
  have hx : ∀ (K L x : Hub × MOut), (if (o.key != []) = true then K else if o.limit = 0 then L else x)
      = if (o.key != []) = true then K else L := by
    intro K L x
    rcases hs with hs | hs
    · have : (o.key != []) = true := by simpa using hs
      rw [if_pos this, if_pos this]
    · rw [if_pos hs]
  unfold getState readKey orderedOf
  rw [abs_get]
  cases resolve rc with
  | none => rfl
  | some cfg =>
    simp only []
    cases hq : aget h.chans ch with
    | none =>
      obtain ⟨h1, h2⟩ := createPos_abs h ch hq
      simp only [Option.map, h1, h2]
      cases o.rev with
      | none => rfl
      | some rv => simp only [apply_ite absOut]; rfl
    | some c =>
      simp only [Option.map, hx, absChan_state]
      cases o.rev <;> cases aget c.state o.key <;> simp only [apply_ite absOut] <;> rfl

/-! ### remove -/

/-- model: what `removeOp` does with the result of `remove` (after the idempotency lookup) -/
def rmTail (r : Hub × Pos × Option Pub × Suppress) (now ch : Nat) (o : RmOpts) : Hub × MOut :=
  if r.2.2.2 ≠ .none then
    (r.1, ⟨.update r.2.1 r.2.2.2
      (if r.2.2.2 = .positionMismatch then r.2.2.1.map (fun p => (p.offset, p.data)) else none), []⟩)
  else
    match r.2.2.1 with
    | some pub =>
      (if o.idem ≠ 0 then MapHub.cachePut r.1 now ch o.idem r.2.1 o.ittl else r.1,
        ⟨.update r.2.1 .none none, [⟨ch, pub, r.2.1, false, none⟩]⟩)
    | none =>
      (if o.idem ≠ 0 then MapHub.cachePut r.1 now ch o.idem r.2.1 o.ittl else r.1,
        ⟨.update r.2.1 .none none, []⟩)

/-- spec: `RefMap.remove` after the idempotency lookup -/
def rmCore (cfg : Cfg) (m : RefMap) (now ch : Nat) (key : Key) (o : RmOpts) : RefMap × MOut :=
  match aget m.chans ch with
  | none => (m, ⟨.update ⟨0, 0⟩ (if o.cas.isSome then .positionMismatch else .keyNotFound) none, []⟩)
  | some c =>
    match checkCAS c key o.cas with
    | some _ =>
      (m, ⟨.update c.pos .positionMismatch ((aget c.state key).map (fun e => (e.pub.offset, e.pub.data))), []⟩)
    | none =>
      match aget c.state key with
      | none => (m, ⟨.update c.pos .keyNotFound none, []⟩)
      | some e =>
        let pub0 : Pub := { key := key, data := 0, tag := if o.tag ≠ 0 then o.tag else e.pub.tag, score := 0,
                            offset := 0, removed := true, time := now }
        let c1 : RChan := { c with state := adel c.state key }
        let r : RChan × Pub := if cfg.hasStream then append c1 pub0 cfg.streamSize else (c1, pub0)
        let m2 := { m with chans := aset m.chans ch r.1 }
        let m3 := if o.idem ≠ 0 then RefMap.cachePut m2 now ch o.idem r.1.pos o.ittl else m2
        (m3, ⟨.update r.1.pos .none none, [⟨ch, r.2, r.1.pos, false, none⟩]⟩)

theorem remove_of_nochan (cfg : Cfg) (h : Hub) (now ch : Nat) (key : Key) (o : RmOpts)
    (hq : aget h.chans ch = none) :
    MapHub.remove cfg h now ch key o
      = (h, ⟨0, 0⟩, none, if o.cas.isSome then .positionMismatch else .keyNotFound) := by
  unfold MapHub.remove
  simp only [hq]
  split <;> rfl

theorem rmTail_ok (h1 : Hub) (pos : Pos) (pub : Pub) (now ch : Nat) (o : RmOpts) :
    rmTail (h1, pos, some pub, .none) now ch o
      = (if o.idem ≠ 0 then MapHub.cachePut h1 now ch o.idem pos o.ittl else h1,
          ⟨.update pos .none none, [⟨ch, pub, pos, false, none⟩]⟩) := rfl

theorem rmTail_refines (cfg : Cfg) (h : Hub) (now ch : Nat) (key : Key) (o : RmOpts) :
    absOut (rmTail (MapHub.remove cfg h now ch key o) now ch o) = rmCore cfg (abs h) now ch key o := by
  unfold rmCore
  rw [abs_get]
  cases hq : aget h.chans ch with
  | none =>
    rw [remove_of_nochan cfg h now ch key o hq]
    cases o.cas.isSome <;> rfl
  | some c =>
    simp only [Option.map, checkCAS_abs, absChan_state]
    refine remove_elim cfg h now ch key o (motive := fun r => absOut (rmTail r now ch o) = _) ?_ ?_ ?_ ?_ ?_
    · intro hq'; rw [hq] at hq'; cases hq'
    · intro c' cur hq' hc
      obtain rfl : c = c' := Option.some.inj (hq.symm.trans hq')
      rw [hc, casBlocked_cur hc]
      cases aget c.state key <;> rfl
    · intro c' hq' hc he
      obtain rfl : c = c' := Option.some.inj (hq.symm.trans hq')
      rw [hc, he]; rfl
    · intro c' e hq' hc he hst
      obtain rfl : c = c' := Option.some.inj (hq.symm.trans hq')
      rw [hc, rmTail_ok]
      simp only [he, hst, if_true, absOut, apply_ite abs, abs_cachePut, abs_setChan]
      rfl
    · intro c' e hq' hc he hst
      obtain rfl : c = c' := Option.some.inj (hq.symm.trans hq')
      rw [hc, rmTail_ok]
      simp only [he, hst, absOut, apply_ite abs, abs_cachePut, abs_setChan]
      rfl

theorem remove_refines (rc : RawCfg) (h : Hub) (now ch : Nat) (key : Key) (o : RmOpts) :
    absOut (removeOp rc h now ch key o) = RefMap.remove rc (abs h) now ch key o := by
  unfold removeOp RefMap.remove
  rw [cacheGet_abs]
  cases resolve rc with
  | none => rfl
  | some cfg =>
    simp only []
    split
    · rfl
    · cases (if o.idem ≠ 0 then MapHub.cacheGet h now ch o.idem else none) with
      | some p => rfl
      | none => exact rmTail_refines cfg h now ch key o

/-! ### publish -/

/-- model: what `publish` does with the result of `add` (after the idempotency lookup) -/
def pubTail (r : Hub × Pos × Option Pub × Suppress × Pub) (now ch : Nat) (o : PubOpts) : Hub × MOut :=
  if r.2.2.2.1 ≠ .none then
    (r.1, ⟨.update r.2.1 r.2.2.2.1
      (if r.2.2.2.1 = .positionMismatch then r.2.2.1.map (fun p => (p.offset, p.data)) else none), []⟩)
  else
    (if o.idem ≠ 0 then MapHub.cachePut r.1 now ch o.idem r.2.1 o.ittl else r.1,
      ⟨.update r.2.1 .none none, [⟨ch, r.2.2.2.2, r.2.1, o.delta, r.2.2.1⟩]⟩)

/-- spec: `RefMap.publish` once the channel `c` exists in `m1` -/
def pubCoreC (cfg : Cfg) (m1 : RefMap) (c : RChan) (now ch : Nat) (key : Key) (o : PubOpts) : RefMap × MOut :=
  match verdict cfg c key o with
  | .none =>
    let r := applyPub cfg c now key o
    let prev := if o.delta && key != [] then (aget c.state key).map (·.pub) else none
    let m2 := { m1 with chans := aset m1.chans ch r.1 }
    let m3 := if o.idem ≠ 0 then RefMap.cachePut m2 now ch o.idem r.1.pos o.ittl else m2
    (m3, ⟨.update r.1.pos .none none, [⟨ch, r.2, r.1.pos, o.delta, prev⟩]⟩)
  | .keyExists =>
    let m2 :=
      if o.refresh && decide (cfg.keyTTL > 0) then
        match aget c.state key with
        | some e => { m1 with chans := aset m1.chans ch { c with state := aset c.state key { e with expireAt := now + cfg.keyTTL } } }
        | none => m1
      else m1
    (m2, ⟨.update c.pos .keyExists none, []⟩)
  | .positionMismatch =>
    (m1, ⟨.update c.pos .positionMismatch ((aget c.state key).map (fun e => (e.pub.offset, e.pub.data))), []⟩)
  | r => (m1, ⟨.update c.pos r none, []⟩)

/-- spec: `RefMap.publish` after the idempotency lookup -/
def pubCore (cfg : Cfg) (m : RefMap) (now ch : Nat) (key : Key) (o : PubOpts) : RefMap × MOut :=
  pubCoreC cfg (touch m ch).1 (touch m ch).2 now ch key o

theorem prevOf_eq (cfg : Cfg) (h : Hub) (ch : Nat) (key : Key) (o : PubOpts) :
    prevOf h ch key o
      = if o.delta && key != [] then (aget (chanFor cfg h ch).state key).map (·.pub) else none := by
  unfold prevOf chanFor
  cases aget h.chans ch with
  | none => simp [Hub.newChan]
  | some c =>
    simp only []
    by_cases hc : (cfg.ordered && !c.ordered) = true
    · rw [if_pos hc]
    · rw [if_neg hc]

theorem pubTail_ok (h1 : Hub) (pos : Pos) (prev : Option Pub) (pub : Pub) (now ch : Nat) (o : PubOpts) :
    pubTail (h1, pos, prev, .none, pub) now ch o
      = (if o.idem ≠ 0 then MapHub.cachePut h1 now ch o.idem pos o.ittl else h1,
          ⟨.update pos .none none, [⟨ch, pub, pos, o.delta, prev⟩]⟩) := rfl

theorem applyPub_abs (cfg : Cfg) (c : Chan) (now : Nat) (key : Key) (o : PubOpts) :
    applyPub cfg (absChan c) now key o = (absChan (okChan cfg c now key o), okPub cfg c now key o) := by
  by_cases hk : key = []
  · subst hk
    cases hs : cfg.hasStream <;>
      simp [applyPub, okChan, okPub, streamStep, hs, append, Stream.add, absChan, pub0Of]
  · cases hs : cfg.hasStream <;>
      (simp [applyPub, okChan, chanPut, okPub, streamStep, hs, hk, append, Stream.add, absChan, pub0Of,
        entryOf, verOf] <;> rfl)

theorem pubCoreC_refines (cfg : Cfg) (h1 : Hub) (c : Chan) (now ch : Nat) (key : Key) (o : PubOpts)
    (prev : Option Pub)
    (hprev : prev = if o.delta && key != [] then (aget c.state key).map (·.pub) else none) :
    absOut (pubTail (addCore cfg h1 c now ch key o prev) now ch o)
      = pubCoreC cfg (abs h1) (absChan c) now ch key o := by
  rw [addCore_eq]
  unfold pubCoreC
  rw [verdict_abs]
  cases hd : decideSup cfg c key o
  case none =>
    have hok : addOk cfg h1 c now ch key o prev
        = ((addOk cfg h1 c now ch key o prev).1, (streamStep cfg c (pub0Of now key o)).2.2, prev, .none,
            okPub cfg c now key o) := Prod.ext rfl (addOk_out ..)
    have habs := abs_aset (addOk_chans cfg h1 c now ch key o prev) (addOk_frame ..).1 (addOk_frame ..).2
    rw [if_pos rfl, hok, pubTail_ok]
    simp only [applyPub_abs, absChan_pos, absChan_state, ← hprev]
    rw [show (okChan cfg c now key o).stream.pos = _ from streamStep_pos cfg c _]
    simp only [absOut, apply_ite abs, abs_cachePut, habs]
  case keyExists =>
    have hb : (o.refresh = true ∧ cfg.keyTTL > 0) ↔ (o.refresh && decide (cfg.keyTTL > 0)) = true := by simp
    simp only [reduceCtorEq, if_false, true_and, hb, refreshHub, absChan_state]
    split
    · cases aget c.state key with
      | none => rfl
      | some e =>
        simp only [pubTail, ne_eq, reduceCtorEq, not_false_eq_true, if_true, absOut, abs_trackTTL, abs_setChan]
        rfl
    · rfl
  case positionMismatch => simp only [absChan_state]; cases aget c.state key <;> rfl
  all_goals rfl

theorem pubTail_refines (cfg : Cfg) (h : Hub) (now ch : Nat) (key : Key) (o : PubOpts) :
    absOut (pubTail (add cfg h now ch key o) now ch o) = pubCore cfg (abs h) now ch key o := by
  rw [add_eq]
  unfold pubCore
  rw [touch_abs cfg h ch]
  exact pubCoreC_refines cfg _ _ now ch key o _ (prevOf_eq cfg h ch key o)

theorem publish_refines (rc : RawCfg) (h : Hub) (now ch : Nat) (key : Key) (o : PubOpts) :
    absOut (MapHub.publish rc h now ch key o) = RefMap.publish rc (abs h) now ch key o := by
  unfold MapHub.publish RefMap.publish
  rw [cacheGet_abs]
  cases resolve rc with
  | none => rfl
  | some cfg =>
    simp only []
    split
    · rfl
    · split
      · rfl
      · cases (if o.idem ≠ 0 then MapHub.cacheGet h now ch o.idem else none) with
        | some p => rfl
        | none => exact pubTail_refines cfg h now ch key o

/-! ### the refinement theorem -/

/-- **Refinement (one step).**  For every hub, time and supported operation (publish with any options,
remove, clear, read-stream, single-key / position-only read-state) the model's step seen through `abs`
*is* the reference map's step: same abstract state, identical result and broadcasts. -/
theorem mapHub_refines_refMap (cfg : Nat → RawCfg) (h : Hub) (now : Nat) (op : MOp) (hs : Supported op) :
    abs (MapHub.step cfg h now op).1 = (RefMap.step cfg (orderedOf h) (abs h) now op).1 ∧
    (MapHub.step cfg h now op).2 = (RefMap.step cfg (orderedOf h) (abs h) now op).2 := by
  have both : ∀ (r : Hub × MOut) (r' : RefMap × MOut), absOut r = r' → abs r.1 = r'.1 ∧ r.2 = r'.2 := by
    intro r r' hr; subst hr; exact ⟨rfl, rfl⟩
  cases op with
  | publish ch key o => exact both _ _ (publish_refines (cfg ch) h now ch key o)
  | remove ch key o => exact both _ _ (remove_refines (cfg ch) h now ch key o)
  | clear ch => exact ⟨clear_refines h ch, rfl⟩
  | readState ch o => exact both _ _ (readKey_refines (cfg ch) h ch o hs)
  | readStream ch o => exact both _ _ (readStream_refines h ch o)
  | sweep => exact absurd hs (by simp [Supported])

/-- the reference run: `m` is stepped by `RefMap.step`; the hub is stepped alongside by `MapHub.step`
only to supply the `ordered` label of read-state replies. -/
def refRun (cfg : Nat → RawCfg) : Hub → RefMap → List (Nat × MOp) → RefMap × List MOut
  | _, m, [] => (m, [])
  | h, m, (now, op) :: rest =>
    let r := RefMap.step cfg (orderedOf h) m now op
    let r' := refRun cfg (MapHub.step cfg h now op).1 r.1 rest
    (r'.1, r.2 :: r'.2)

/-- the empty hub is the empty reference map -/
theorem abs_init : abs Hub.init = ⟨[], [], 1⟩ := rfl

/-- the hypothesis is satisfiable by a non-trivial sequence (publish, suppressed publish, remove, reads, clear) -/
example : ∀ x ∈ ([(0, .publish 1 [7] { data := 5, version := 3 }),
      (1, .publish 1 [7] { version := 2, mode := .ifNew, cas := some ⟨9, 9⟩ }),
      (2, .readState 1 { key := [7] }), (3, .readStream 1 { limit := -1 }),
      (4, .remove 1 [7] {}), (5, .clear 1)] : List (Nat × MOp)), Supported x.2 := by
  simp [Supported]


end CentrifugeVerif.RefMap
