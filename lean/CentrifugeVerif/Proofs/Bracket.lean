import CentrifugeVerif.Model.Bracket
/-!
Invariant proof for C10 (`Model/Bracket.lean`) for the `Good` configurations.  `Inv s o`: the frames
emitted so far scan to bracket state `o`, and the table `Ctl` ties `o`, the channel entry and the hub
entry to the program counter of the one thread in flight.
-/
namespace CentrifugeVerif.Bracket

theorem scanFrom_append (o : Bool) (a b : List Frame) :
    scanFrom o (a ++ b) = (scanFrom o a).bind (fun o' => scanFrom o' b) := by
  induction a generalizing o with
  | nil => rfl
  | cons f fs ih =>
    simp only [List.cons_append, scanFrom]
    cases stepF o f with
    | none => rfl
    | some o1 => exact ih o1

theorem scanFrom_snoc {l : List Frame} {o : Bool} (f : Frame) (h : scanFrom false l = some o) :
    scanFrom false (l ++ [f]) = stepF o f := by
  rw [scanFrom_append, h]
  simp only [Option.bind_some, scanFrom, Option.bind_fun_some]

theorem scanFrom_prefix {o : Bool} {a b : List Frame} (h : (scanFrom o (a ++ b)).isSome) :
    (scanFrom o a).isSome := by
  rw [scanFrom_append] at h
  cases hs : scanFrom o a with
  | none => rw [hs] at h; exact h
  | some x => rfl

/-- the configurations for which `bracket` is proved -/
structure Good (cfg : Cfg) : Prop where
  fix : cfg.offset0Checked = true
  cs : cfg.serverSide = false
  q : cfg.rwq = false
  nb : cfg.batching = false
  ser : cfg.serial = true

/-- enqueue order of everything that was emitted -/
def emitted (s : State) : List Frame := s.wire ++ s.inflight ++ s.queue

theorem scan_enqueue {s s' : State} {o : Bool} (f : Frame) (hs : scanFrom false (emitted s) = some o)
    (hw : s'.wire = s.wire) (hf : s'.inflight = s.inflight) (hq : s'.queue = s.queue ++ [f]) :
    scanFrom false (emitted s') = stepF o f := by
  rw [emitted] at hs ⊢
  rw [hw, hf, hq, ← List.append_assoc, scanFrom_snoc f hs]

/-- `serial` keeps the two threads apart, so at most one is in flight.  With the state
destructured a row is reached by `whnf`. -/
def Ctl (S : Option SThread) (U : Option UThread) (chan : Option (Nat × Bool)) (hub : Option Nat)
    (o : Bool) : Prop :=
  match S, U with
  | some _, some _ => False
  | some t, none =>
    match t.pc with
    | .reserved | .started => chan = some (t.gen, false) ∧ hub = none
    | .hubAdded | .subUnlocked | .presAdded | .bufLocked => chan = some (t.gen, false) ∧ hub = some t.gen
    | .replied => chan = some (t.gen, false) ∧ hub = some t.gen ∧ o = true
    | .committed | .stopped => chan = some (t.gen, true) ∧ hub = some t.gen ∧ o = true
    | .pushed => False  -- server-side only
  | none, some u =>
    match u.pc with
    | .snap => chan = some (u.gen, true) ∧ hub = some u.gen ∧ o = true
    | .removed => chan = none ∧ hub = some u.gen ∧ o = true
    | .hubRemoved => chan = none ∧ hub = none
  | none, none =>
    match chan with
    | none => hub = none
    | some (g, live) => live = true ∧ hub = some g ∧ o = true

theorem Ctl.open_of_live {S : Option SThread} {U : Option UThread} {hub : Option Nat} {o : Bool}
    {g : Nat} (h : Ctl S U (some (g, true)) hub o) : o = true :=
  match S, U, h with
  | none, none, h => h.2.2
  | none, some ⟨.snap, _, _, _⟩, h => h.2.2
  | none, some ⟨.removed, _, _, _⟩, h => nomatch h.1
  | none, some ⟨.hubRemoved, _, _, _⟩, h => nomatch h.1
  | some ⟨pc, _⟩, none, h =>
    match pc, h with
    | .committed, h | .stopped, h => h.2.2
    | .reserved, h | .started, h | .hubAdded, h | .subUnlocked, h | .presAdded, h | .bufLocked, h
    | .replied, h => nomatch h.1
    | .pushed, h => h.elim
  | some _, some _, h => h.elim

structure Inv (s : State) (o : Bool) : Prop where
  scan : scanFrom false (emitted s) = some o
  ctl : Ctl s.S s.U s.chan s.hub o
  /-- a broadcaster past the `flagSubscribed` check will enqueue a push -/
  chk : s.checked ≠ [] → o = true
  /-- broadcasters are inside only for a client they found in the hub -/
  lists : s.hub = none → s.looked = [] ∧ s.checked = []
  batchNil : s.batch = []

theorem inv_init : Inv State.init false :=
  ⟨rfl, rfl, fun h => absurd rfl h, fun _ => ⟨rfl, rfl⟩, rfl⟩

variable {cfg : Cfg} {s s' : State} {o : Bool}

theorem inv_wGrab (hi : Inv s o) (h : next cfg s .wGrab = some s') : Inv s' o := by
  simp only [next, Option.ite_none_right_eq_some, Bool.and_eq_true, List.isEmpty_iff,
    Option.some.injEq] at h
  obtain ⟨⟨hin, _⟩, rfl⟩ := h
  have hs := hi.scan
  rw [emitted, hin, List.append_nil] at hs
  exact { hi with scan := by rw [emitted, List.append_nil]; exact hs }

theorem inv_wWrite (hi : Inv s o) (h : next cfg s .wWrite = some s') : Inv s' o := by
  simp only [next, Option.ite_none_right_eq_some, Option.some.injEq] at h
  obtain ⟨_, rfl⟩ := h
  exact { hi with scan := by rw [emitted, List.append_nil]; exact hi.scan }

theorem inv_tFlush (hi : Inv s o) (h : next cfg s .tFlush = some s') : Inv s' o := by
  simp only [next, hi.batchNil, List.isEmpty_nil, Bool.not_true, Bool.false_eq_true, if_false,
    reduceCtorEq] at h

theorem bStart_cases {k : Kind} {id : Nat} (hg : Good cfg)
    (h : next cfg s (.bStart k id) = some s') :
    s' = s ∨ (s.hub ≠ none ∧ s' = { s with looked := s.looked ++ [(k, id)] }) := by
  simp only [next] at h
  split at h
  · cases h
  · split at h
    · exact .inl (Option.some.inj h).symm
    · rename_i g hh
      have hne : s.hub ≠ none := by rw [hh]; nofun
      cases k <;> simp only [hg.fix, if_true] at h
      case pub0 | join | leave =>
        cases h
        exact .inr ⟨hne, rfl⟩
      case pubPos =>
        split at h
        · split at h <;> cases h
          · exact .inl rfl
          · exact .inr ⟨hne, rfl⟩
        · cases h
          exact .inr ⟨hne, rfl⟩

theorem inv_bStart {k : Kind} {id : Nat} (hg : Good cfg) (hi : Inv s o)
    (h : next cfg s (.bStart k id) = some s') : Inv s' o := by
  rcases bStart_cases hg h with rfl | ⟨hne, rfl⟩
  · exact hi
  · exact { hi with lists := fun hn => absurd hn hne }

theorem inv_bCheck {i : Nat} (hi : Inv s o) (h : next cfg s (.bCheck i) = some s') : Inv s' o := by
  simp only [next] at h
  split at h
  · cases h
  · rename_i k hk
    have hhub : s.hub ≠ none := fun hn =>
      List.ne_nil_of_mem (List.mem_of_getElem? hk) (hi.lists hn).1
    split at h
    · rename_i g hc
      cases h
      have ho : o = true := (hc ▸ hi.ctl).open_of_live
      exact { hi with chk := fun _ => ho, lists := fun hn => absurd hn hhub }
    · cases h
      exact { hi with lists := fun hn => absurd hn hhub }

theorem inv_bEnqueue {i : Nat} (hg : Good cfg) (hi : Inv s o) (h : next cfg s (.bEnqueue i) = some s') :
    Inv s' o := by
  simp only [next] at h
  split at h
  · cases h
  · rename_i k hk
    have hne := List.ne_nil_of_mem (List.mem_of_getElem? hk)
    obtain rfl : o = true := hi.chk hne
    simp only [emitChanPush, hg.nb, Bool.false_eq_true, if_false, Option.some.injEq] at h
    subst h
    exact { hi with
      scan := scan_enqueue (.push k.1 k.2) hi.scan rfl rfl rfl
      chk := fun _ => rfl
      lists := fun hn => absurd (hi.lists hn).2 hne }

theorem inv_sSpawn (hg : Good cfg) (hi : Inv s o) (h : next cfg s .sSpawn = some s') : Inv s' o := by
  obtain ⟨chan, hub, _, _, _, S, U, _, _, _, _, _, _⟩ := s
  simp only [next, hg.ser, Option.ite_none_right_eq_some, Bool.not_true, Bool.false_or,
    Bool.and_eq_true, Option.isNone_iff_eq_none, Option.some.injEq] at h
  obtain ⟨⟨⟨rfl, rfl⟩, rfl⟩, rfl⟩ := h
  exact { hi with ctl := ⟨rfl, hi.ctl⟩ }

theorem inv_sStep (hg : Good cfg) (hi : Inv s o) (h : next cfg s .sStep = some s') :
    ∃ o', Inv s' o' := by
  obtain ⟨chan, hub, _, _, _, S, U, _, _, _, _, _, _⟩ := s
  rcases S with _ | ⟨pc, gen⟩
  · cases h
  rcases U with _ | _
  case some => exact hi.ctl.elim
  have hc := hi.ctl
  cases pc <;>
    simp only [next, sStep, hg.cs, hg.q, emitReply, Bool.false_eq_true, if_false,
      Option.some.injEq] at h
  case reserved | hubAdded | subUnlocked | presAdded | committed =>
    -- the step stays in its row or moves to one that says the same
    subst h
    exact ⟨o, { hi with ctl := hc }⟩
  case started =>
    simp only [Option.ite_none_right_eq_some, Option.some.injEq] at h
    obtain ⟨_, rfl⟩ := h
    exact ⟨o, { hi with ctl := ⟨hc.1, rfl⟩, lists := nofun }⟩
  case bufLocked =>
    -- the bracket opens
    subst h
    exact ⟨true, { hi with
      scan := scan_enqueue .subStart hi.scan rfl rfl rfl
      ctl := ⟨hc.1, hc.2, rfl⟩
      chk := fun _ => rfl }⟩
  case replied =>
    -- its own reservation
    obtain ⟨rfl, hc⟩ := hc
    simp only [if_true, Option.some.injEq] at h
    subst h
    exact ⟨o, { hi with ctl := ⟨rfl, hc⟩ }⟩
  case pushed => exact hc.elim
  case stopped =>
    obtain ⟨rfl, hc⟩ := hc
    subst h
    exact ⟨o, { hi with ctl := ⟨rfl, hc⟩ }⟩

theorem inv_uSpawn {v : Bool} (hg : Good cfg) (hi : Inv s o) (h : next cfg s (.uSpawn v) = some s') :
    Inv s' o := by
  obtain ⟨chan, hub, _, _, _, S, U, _, _, _, _, _, _⟩ := s
  simp only [next, hg.ser, Option.ite_none_right_eq_some, Bool.not_true, Bool.false_or,
    Bool.and_eq_true, Option.isNone_iff_eq_none] at h
  obtain ⟨⟨rfl, rfl⟩, h⟩ := h
  have hc := hi.ctl
  rcases chan with _ | ⟨g, _ | _⟩ <;> cases h
  · exact { hi with ctl := ⟨rfl, hc⟩ }
  · exact { hi with ctl := ⟨rfl, hc.2⟩ }

theorem inv_uStep (hg : Good cfg) (hi : Inv s o) (h : next cfg s .uStep = some s') :
    ∃ o', Inv s' o' := by
  obtain ⟨chan, hub, _, _, _, S, U, _, _, _, _, _, _⟩ := s
  rcases U with _ | ⟨pc, gen, viaPush, owns⟩
  · cases h
  rcases S with _ | _
  case some => exact hi.ctl.elim
  have hc := hi.ctl
  cases pc <;>
    simp only [next, uStep, hg.q, hg.nb, emitReply, emitQueue, Bool.false_eq_true, if_false,
      ite_self, Option.some.injEq] at h
  case snap =>
    obtain ⟨rfl, hc⟩ := hc
    simp only [if_true, Option.some.injEq] at h
    subst h
    exact ⟨o, { hi with ctl := ⟨rfl, hc⟩ }⟩
  case removed =>
    -- under the shard write lock no broadcaster is inside
    obtain ⟨rfl, rfl, -⟩ := hc
    simp only [Option.ite_none_right_eq_some, shardFree, Bool.and_eq_true, List.isEmpty_iff,
      if_true, Option.some.injEq] at h
    obtain ⟨⟨hfree, _⟩, rfl⟩ := h
    exact ⟨o, { hi with ctl := ⟨rfl, rfl⟩, lists := fun _ => hfree }⟩
  case hubRemoved =>
    -- the bracket closes
    obtain ⟨rfl, rfl⟩ := hc
    subst h
    exact ⟨false, { hi with
      scan := scan_enqueue .subEnd hi.scan rfl rfl rfl
      ctl := rfl
      chk := fun hne => absurd (hi.lists rfl).2 hne }⟩

theorem inv_next (hg : Good cfg) (hi : Inv s o) (l : Label) (h : next cfg s l = some s') :
    ∃ o', Inv s' o' := by
  cases l with
  | sSpawn => exact ⟨o, inv_sSpawn hg hi h⟩
  | sStep => exact inv_sStep hg hi h
  | uSpawn v => exact ⟨o, inv_uSpawn hg hi h⟩
  | uStep => exact inv_uStep hg hi h
  | bStart k id => exact ⟨o, inv_bStart hg hi h⟩
  | bCheck i => exact ⟨o, inv_bCheck hi h⟩
  | bEnqueue i => exact ⟨o, inv_bEnqueue hg hi h⟩
  | wGrab => exact ⟨o, inv_wGrab hi h⟩
  | wWrite => exact ⟨o, inv_wWrite hi h⟩
  | tFlush => exact ⟨o, inv_tFlush hi h⟩

theorem inv_run (hg : Good cfg) (ls : List Label) (hi : Inv s o) (h : run cfg s ls = some s') :
    ∃ o', Inv s' o' := by
  induction ls generalizing s o with
  | nil => cases h; exact ⟨o, hi⟩
  | cons l r ih =>
    obtain ⟨s1, hn, h⟩ := Option.bind_eq_some_iff.mp h
    obtain ⟨o1, h1⟩ := inv_next hg hi l hn
    exact ih h1 h

theorem inv_reachable (hg : Good cfg) (hr : Reachable cfg s) : ∃ o, Inv s o := by
  obtain ⟨ls, h⟩ := hr
  exact inv_run hg ls inv_init h

end CentrifugeVerif.Bracket
