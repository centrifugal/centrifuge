import CentrifugeVerif.Proofs.RecoveryCache
/-! What `finish` delivers when publications were buffered while the subscribe was in flight:
stream mode after a successful recovery (C02), cache mode on the populate-then-retry path (C03). -/
namespace CentrifugeVerif.Recovery
open CentrifugeVerif.Merge

theorem toM_pass {pass : Pub → Bool} {p : Pub} (h : pass p = true) : toM pass p = toPlain p := by
  simp [toM, toPlain, h]

theorem toM_filtered (pass : Pub → Bool) (p : Pub) : (toM pass p).filtered = false ↔ pass p = true := by
  simp [toM]

theorem eq_of_sorted_mem_iff (a b : List MPub)
    (ha : a.Pairwise (fun x y => x.offset < y.offset)) (hb : b.Pairwise (fun x y => x.offset < y.offset))
    (h : ∀ x, x ∈ a ↔ x ∈ b) : a = b := by
  have hne : ∀ {x y : MPub}, x.offset < y.offset → x ≠ y := fun hlt e => Nat.lt_irrefl _ (e ▸ hlt)
  exact List.Perm.eq_of_pairwise (fun _ _ _ _ h1 h2 => absurd h1 (Nat.lt_asymm h2)) ha hb
    ((List.perm_ext_iff_of_nodup (ha.imp hne) (hb.imp hne)).mpr h)

/-- when equal offsets among the inputs mean equal entries, the merge returns exactly the
unfiltered inputs -/
theorem mem_merge_iff {r b l : List MPub} {m : Nat} (h : merge r b = some (l, m))
    (hinj : ∀ x ∈ r ++ b, ∀ y ∈ r ++ b, x.offset = y.offset → x = y) (x : MPub) :
    x ∈ l ↔ x ∈ r ++ b ∧ x.filtered = false := by
  obtain ⟨rfl, _⟩ := merge_eq_some h
  constructor
  · intro hx
    exact ⟨(mem_isort _ _).mp (uniq_mem hx).1, (uniq_mem hx).2.1⟩
  · rintro ⟨hx, hf⟩
    obtain ⟨y, hy, hyo⟩ := (uniq_sorted_offset _ x.offset).mpr ⟨x, hx, hf, rfl⟩
    rwa [← hinj y ((mem_isort _ _).mp (uniq_mem hy).1) x hx hyo]

theorem dropStale_sublist (off : Nat) (b l : List MPub) : (dropStale off b l).Sublist l := by
  unfold dropStale
  split
  · exact List.Sublist.refl l
  · exact List.filter_sublist

/-- the merge of a history read `rp` with the buffer, stale copies dropped, is `all` after `off`
minus the filtered ones, when the inputs are copies of entries of `all` and cover it after `off` -/
theorem dropStale_merge_exact {all : List Pub} (hall : all.Pairwise (fun x y => x.offset < y.offset))
    {pass : Pub → Bool} {rp buffered l : List MPub} {mx off : Nat}
    (hm : merge rp buffered = some (l, mx))
    (hin : ∀ y ∈ rp ++ buffered, ∃ p ∈ all, y = toM pass p)
    (hcov : ∀ p ∈ all, off < p.offset → toM pass p ∈ rp ++ buffered)
    (hrp : ∀ y ∈ rp, off < y.offset) :
    dropStale off buffered l =
      ((all.filter (fun p => decide (off < p.offset))).filter pass).map toPlain := by
  have hmemL := mem_merge_iff hm fun x hx y hy hxy => by
    obtain ⟨p, hp, rfl⟩ := hin x hx
    obtain ⟨q, hq, rfl⟩ := hin y hy
    rw [pw_inj hall hp hq hxy]
  apply eq_of_sorted_mem_iff
  · rw [(merge_eq_some hm).1]
    exact (uniq_sorted_strict _).sublist (dropStale_sublist off buffered _)
  · rw [List.pairwise_map]
    exact hall.sublist (List.filter_sublist.trans List.filter_sublist)
  · intro x
    have hmem : x ∈ dropStale off buffered l ↔ x ∈ l ∧ off < x.offset := by
      unfold dropStale
      split
      · -- nothing buffered: every entry comes from the history read
        next hbe =>
        refine ⟨fun hx => ⟨hx, hrp x ?_⟩, fun hx => hx.1⟩
        simpa [List.isEmpty_iff.mp hbe] using ((hmemL x).mp hx).1
      · simp [List.mem_filter]
    rw [hmem, hmemL]
    simp only [List.mem_map, List.mem_filter, decide_eq_true_eq]
    constructor
    · rintro ⟨⟨hxin, hnf⟩, hxo⟩
      obtain ⟨p, hp, rfl⟩ := hin x hxin
      have hpp := (toM_filtered pass p).mp hnf
      exact ⟨p, ⟨⟨hp, hxo⟩, hpp⟩, (toM_pass hpp).symm⟩
    · rintro ⟨p, ⟨⟨hp, hpo⟩, hpp⟩, rfl⟩
      rw [← toM_pass hpp]
      exact ⟨⟨hcov p hp hpo, (toM_filtered pass p).mpr hpp⟩, hpo⟩

/-- the whole reply behind `recovered_pubs_exact_buffered` (hypotheses as explained there), with
the client put at the new top -/
theorem finish_stream_exact {s : RStream} (hi : s.Inv) (off : Nat) (pass : Pub → Bool)
    (news : List Pub) (buffered : List MPub)
    (hnews : offs news = List.range' (s.top + 1) news.length)
    (hbuf : ∀ b ∈ buffered, ∃ p ∈ s.log ++ news, b = toM pass p)
    (hnew : ∀ p ∈ news, toM pass p ∈ buffered) :
    finish false false true ((s.log.drop off).map (toM pass)) buffered s.top s.epoch off true = .insufficient ∨
    finish false false true ((s.log.drop off).map (toM pass)) buffered s.top s.epoch off true =
      .reply true ((((s.log ++ news).filter (fun p => decide (off < p.offset))).filter pass).map toPlain)
        off s.epoch (s.top + news.length) true := by
  have hall : offs (s.log ++ news) = List.range' 1 (s.top + news.length) := by
    have h1 := hi.logOff
    unfold offs at hnews h1 ⊢
    rw [List.map_append, h1, hnews, Nat.add_comm s.top 1, List.range'_append_1]
  generalize hrp : (s.log.drop off).map (toM pass) = rp
  have hin : ∀ y ∈ rp ++ buffered, ∃ p ∈ s.log ++ news, y = toM pass p := by
    intro y hy
    rcases List.mem_append.mp hy with h1 | h1
    · obtain ⟨p, hp, rfl⟩ := List.mem_map.mp (hrp ▸ h1)
      exact ⟨p, List.mem_append_left _ (List.mem_of_mem_drop hp), rfl⟩
    · exact hbuf y h1
  have hcov : ∀ p ∈ s.log ++ news, off < p.offset → toM pass p ∈ rp ++ buffered := by
    intro p hp hpo
    rcases List.mem_append.mp hp with h1 | h1
    · exact List.mem_append_left _ (hrp ▸ List.mem_map_of_mem ((hi.mem_log_drop off p).mpr ⟨h1, hpo⟩))
    · exact List.mem_append_right _ (hnew p h1)
  have hoff : ∀ y ∈ rp, off < y.offset := by
    intro y hy
    obtain ⟨p, hp, rfl⟩ := List.mem_map.mp (hrp ▸ hy)
    exact ((hi.mem_log_drop off p).mp hp).2
  unfold finish
  cases hm : merge rp buffered with
  | none => exact Or.inl rfl
  | some lm =>
    obtain ⟨l, mx⟩ := lm
    right
    have hpubs := dropStale_merge_exact (pairwise_of_offs hall) hm hin hcov hoff
    -- the position: the largest offset seen is the new top, unless nothing was published meanwhile
    obtain ⟨hl, hmxe⟩ := merge_eq_some hm
    have hmax := hmxe ▸ maxSeen_isort_spec (rp ++ buffered)
    have hmx : mx ≤ s.top + news.length := by
      rcases hmax.2 with h0 | ⟨y, hy, hyo⟩
      · omega
      · obtain ⟨p, hp, rfl⟩ := hin y hy
        have := (mem_offs hall p.offset).mp ⟨p, hp, rfl⟩
        rw [← hyo]; simp only [toM]; omega
    have hnewtop : 0 < news.length → s.top + news.length ≤ mx := by
      intro hn
      obtain ⟨p, hp, hpo⟩ := (mem_offs hnews (s.top + news.length)).mpr (by omega)
      exact hpo ▸ hmax.1 _ (List.mem_append_right _ (hnew p hp))
    have hlast : ∀ q, (dropStale off buffered l).getLast? = some q → q.offset ≤ mx := fun q hq =>
      hmax.1 q ((mem_isort _ _).mp
        (uniq_mem (hl ▸ (dropStale_sublist off buffered l).subset (List.mem_of_getLast? hq))).1)
    simp only [Bool.not_false, Bool.and_true, Bool.and_self, if_true, Bool.false_and,
      Bool.false_eq_true, if_false]
    rw [← hpubs]
    congr 1
    cases hgl : (dropStale off buffered l).getLast? with
    | none => simp only; split <;> omega
    | some q =>
      have := hlast q hgl
      simp only
      split <;> split <;> omega

theorem drop_max {l : List MPub} (hp : l.Pairwise (fun x y => x.offset < y.offset)) {k : Nat}
    (hk : l.length ≤ k + 1) : ∀ m ∈ l.drop k, ∀ x ∈ l, x.offset ≤ m.offset := by
  intro m hm x hx
  rw [← List.take_append_drop k l] at hp hx
  rcases List.mem_append.mp hx with hx | hx
  · exact Nat.le_of_lt ((List.pairwise_append.mp hp).2.2 x hx m hm)
  · have hl : (l.drop k).length ≤ 1 := by rw [List.length_drop]; omega
    match hd : l.drop k, hl with
    | [y], _ =>
      rw [hd, List.mem_singleton] at hm hx
      rw [hm, hx]; exact Nat.le_refl _
    | [], _ => rw [hd] at hm; cases hm

theorem trim_last (l : List MPub) (hp : l.Pairwise (fun x y => x.offset < y.offset)) :
    ∀ m ∈ (if decide (l.length > 1) then l.drop (l.length - 1) else l),
      m ∈ l ∧ ∀ x ∈ l, x.offset ≤ m.offset := by
  intro m hm
  split at hm
  · exact ⟨List.mem_of_mem_drop hm, drop_max hp (by omega) m hm⟩
  · next hl =>
    rw [decide_eq_true_eq] at hl
    exact ⟨hm, drop_max hp (k := 0) (by omega) m hm⟩

/-- what `finish` delivers in cache mode without delta: a non-placeholder entry of the merged input
with the maximum offset among all non-placeholder inputs -/
theorem finish_cache_pubs (r : Bool) (rp b : List MPub) (top e off : Nat) (w : Bool) :
    ∀ m ∈ (finish true false r rp b top e off w).pubs,
      m.filtered = false ∧ m ∈ rp ++ b ∧ ∀ y ∈ rp ++ b, y.filtered = false → y.offset ≤ m.offset := by
  intro m hm
  unfold finish at hm
  split at hm
  · cases hm
  · next l mx hmerge =>
    simp only [Outcome.pubs, Bool.true_and, Bool.not_false, Bool.and_true] at hm
    cases r
    · cases hm
    · rw [if_pos rfl] at hm
      obtain ⟨rfl, _⟩ := merge_eq_some hmerge
      obtain ⟨hml, hmax⟩ := trim_last _ (uniq_sorted_strict _) m hm
      refine ⟨(uniq_mem hml).2.1, (mem_isort _ _).mp (uniq_mem hml).1, fun y hy hyf => ?_⟩
      obtain ⟨x, hx, hxo⟩ := (uniq_sorted_offset _ y.offset).mpr ⟨y, hy, hyf, rfl⟩
      exact hxo ▸ hmax x hx

theorem finish_cache_length (r : Bool) (rp b : List MPub) (top e off : Nat) (w : Bool) :
    (finish true false r rp b top e off w).pubs.length ≤ 1 := by
  unfold finish
  split
  · exact Nat.zero_le _
  · next l mx _ =>
    cases r
    · exact Nat.zero_le _
    · simp only [Outcome.pubs, Bool.not_true, Bool.and_false, Bool.false_eq_true, if_false, Bool.true_and,
        Bool.not_false, Bool.and_true, if_true]
      split
      · rw [List.length_drop]; omega
      · next hl => rw [decide_eq_true_eq] at hl; omega

end CentrifugeVerif.Recovery
