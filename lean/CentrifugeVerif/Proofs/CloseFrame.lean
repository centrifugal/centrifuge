import CentrifugeVerif.Model.CloseCode
/-! `recvClose`, `writeClose` and `transportClose` of `Model/CloseCode.lean`, branch by branch. -/
namespace CentrifugeVerif.C31
open CentrifugeVerif.Sha1 (Bytes ascii be)
open CentrifugeVerif.CloseCode

theorem record_some (v : Nat × Bool) (code : Nat) (inc : Bool) : record (some v) code inc = some v := by
  unfold record; split <;> rfl

/-- the close payloads `advanceFrame` accepts -/
def GoodClose (payload : Bytes) : Prop :=
  payload.length = 0 ∨
    (payload.length ≥ 2 ∧ isValidReceivedCloseCode (u16 payload) = true ∧ utf8Valid (payload.drop 2) = true)

/-- … and those it answers with a protocol error -/
def BadClose (payload : Bytes) : Prop :=
  payload.length = 1 ∨ (payload.length ≥ 2 ∧
    (isValidReceivedCloseCode (u16 payload) = false ∨ utf8Valid (payload.drop 2) = false))

theorem badClose_of_not_good {payload : Bytes} (h : ¬ GoodClose payload) : BadClose payload := by
  by_cases h2 : payload.length ≥ 2
  · refine .inr ⟨h2, ?_⟩
    cases hv : isValidReceivedCloseCode (u16 payload)
    · exact .inl rfl
    · cases hu : utf8Valid (payload.drop 2)
      · exact .inr rfl
      · exact absurd (.inr ⟨h2, hv, hu⟩) h
  · have h0 : payload.length ≠ 0 := fun h0 => h (.inl h0)
    exact .inl (by omega)

theorem recvClose_good (c : Conn) {payload : Bytes} (h : GoodClose payload) :
    ∃ code text, recvClose c payload =
      let (c', w) := writeClose { c with recorded := record c.recorded code true } (formatCloseMessage code [])
      (c', .closeError code text, w) := by
  rcases h with h0 | ⟨h2, hv, hu⟩
  · rw [List.eq_nil_of_length_eq_zero h0]
    exact ⟨closeNoStatusReceived, [], rfl⟩
  · have h1 : ¬ payload.length = 1 := by omega
    refine ⟨u16 payload, payload.drop 2, ?_⟩
    unfold recvClose
    rw [if_neg h1, if_pos h2]
    simp only [hv, hu, Bool.not_true, Bool.false_eq_true, if_false]

theorem recvClose_bad (c : Conn) {payload : Bytes} (h : BadClose payload) :
    ∃ kind msg, recvClose c payload =
      let (c', w) := handleProtocolError c msg
      (c', .protoErr kind, w) := by
  unfold recvClose
  rcases h with h1 | ⟨h2, hbad⟩
  · exact ⟨_, _, by rw [if_pos h1]⟩
  · have h1 : ¬ payload.length = 1 := by omega
    rw [if_neg h1, if_pos h2]
    cases hv : isValidReceivedCloseCode (u16 payload)
    · exact ⟨_, _, by simp only [hv, Bool.not_false, if_true]; rfl⟩
    · have hu : utf8Valid (payload.drop 2) = false := by simpa [hv] using hbad
      exact ⟨_, _, by simp only [hv, hu, Bool.not_false, Bool.not_true, Bool.false_eq_true, if_true, if_false]; rfl⟩

theorem writeClose_fits (c : Conn) (data : Bytes) (hs : c.closeSent = false)
    (hfit : data.length ≤ maxControlFramePayloadSize) :
    writeClose c data =
      ({ recorded := record c.recorded (if data.length ≥ 2 then u16 data else closeNoStatusReceived) false,
         closeSent := true }, .wrote ([0x88, UInt8.ofNat data.length] ++ data)) := by
  simp [writeClose, Nat.not_lt.mpr hfit, hs]

theorem handleProtocolError_wrote (c : Conn) (msg : Bytes) (hs : c.closeSent = false) :
    ∃ len rest, (handleProtocolError c msg).2 = .wrote ([0x88, len, 0x03, 0xEA] ++ rest) := by
  have hf : (formatCloseMessage closeProtocolError msg).take maxControlFramePayloadSize =
      0x03 :: 0xEA :: msg.take 123 := rfl
  rw [handleProtocolError, hf, writeClose_fits c _ hs]
  · exact ⟨_, _, rfl⟩
  · simp only [List.length_cons, List.length_take, maxControlFramePayloadSize]
    omega

theorem be2_append_length (v : Nat) (reason : Bytes) : (be 2 v ++ reason).length = 2 + reason.length := by
  rw [List.length_append]
  rfl

theorem transportClose_eq (c : Conn) (code : Nat) (reason : Bytes)
    (h3000 : code ≠ 3000) (h1005 : code ≠ 1005) (h16 : code ≤ 0xFFFF) :
    transportClose c code reason =
      ((writeClose c (be 2 code ++ reason)).1, framesOf (writeClose c (be 2 code ++ reason)).2) := by
  have hm : code % 65536 = code := Nat.mod_eq_of_lt (by omega)
  simp only [transportClose, disconnectConnectionClosedCode, h3000, if_false, formatCloseMessage,
    closeNoStatusReceived, h1005, hm]

end CentrifugeVerif.C31
