import CentrifugeVerif.Model.RecoveryHub
import CentrifugeVerif.Proofs.Merge
/-!
For C02 / C03: the stream invariant, and `RStream.since`, `isStreamRecovered`, `finish` and
`streamSubscribe` in closed form under it.
-/
namespace CentrifugeVerif.Recovery
open CentrifugeVerif.Merge

/-- offsets of a list of publications -/
abbrev offs (l : List Pub) : List Nat := l.map (·.offset)

theorem offs_length {l : List Pub} {a n : Nat} (h : offs l = List.range' a n) : l.length = n := by
  simpa using congrArg List.length h

theorem offs_nil_iff {l : List Pub} {a n : Nat} (h : offs l = List.range' a n) : l = [] ↔ n = 0 := by
  rw [← offs_length h, List.length_eq_zero_iff]

theorem offs_cons {p : Pub} {ps : List Pub} {a n : Nat} (h : offs (p :: ps) = List.range' a n) :
    ∃ m, n = m + 1 ∧ p.offset = a ∧ offs ps = List.range' (a + 1) m := by
  cases n with
  | zero => simp at h
  | succ m =>
    rw [List.range'_succ] at h
    simp only [offs, List.map_cons, List.cons.injEq] at h
    exact ⟨m, rfl, h.1, h.2⟩

/-- the `index[offset]` lookup + walk to the end on a contiguous list -/
theorem dropWhile_offs {l : List Pub} {a n : Nat} (h : offs l = List.range' a n) (so : Nat) :
    l.dropWhile (fun p => p.offset != so) = if a ≤ so then l.drop (so - a) else [] := by
  induction l generalizing a n with
  | nil => simp
  | cons p ps ih =>
    obtain ⟨m, rfl, hp, hps⟩ := offs_cons h
    rw [List.dropWhile_cons, hp]
    by_cases hso : a = so
    · simp [hso]
    · rw [if_pos (by simpa using hso), ih hps]
      by_cases hlt : a + 1 ≤ so
      · rw [if_pos hlt, if_pos (by omega), show so - a = so - (a + 1) + 1 by omega,
          List.drop_succ_cons]
      · rw [if_neg hlt, if_neg (by omega)]

theorem offs_drop {l : List Pub} {a n : Nat} (h : offs l = List.range' a n) (k : Nat) :
    offs (l.drop k) = List.range' (a + k) (n - k) := by
  unfold offs at h ⊢
  rw [List.map_drop, h, List.drop_range', Nat.mul_one]

theorem offs_take {l : List Pub} {a n : Nat} (h : offs l = List.range' a n) (k : Nat) :
    offs (l.take k) = List.range' a (min k n) := by
  unfold offs at h ⊢
  rw [List.map_take, h]
  rcases Nat.le_total n k with hk | hk
  · rw [List.take_range'_of_length_le hk, Nat.min_eq_right hk]
  · rw [List.take_range'_of_length_ge hk, Nat.min_eq_left hk]

theorem offs_takeLim {l : List Pub} {a n : Nat} (h : offs l = List.range' a n) (limit : Nat) :
    offs (takeLim limit l) = List.range' a (if limit = 0 ∨ n ≤ limit then n else limit) := by
  unfold takeLim
  by_cases hl : limit = 0
  · rw [if_pos hl, if_pos (Or.inl hl), h]
  · rw [if_neg hl, offs_take h]
    congr 1
    split <;> omega

theorem offs_head_last {l : List Pub} {a n : Nat} (h : offs l = List.range' a n) (hn : 0 < n) :
    ∃ p ps q, l = p :: ps ∧ l.getLast? = some q ∧ p.offset = a ∧ q.offset = a + n - 1 := by
  cases l with
  | nil => have := (offs_nil_iff h).mp rfl; omega
  | cons p ps =>
    obtain ⟨m, rfl, hp, _⟩ := offs_cons h
    have hl := congrArg List.getLast? h
    rw [List.getLast?_map, List.getLast?_range', if_neg (by omega)] at hl
    obtain ⟨q, hq, hqo⟩ := Option.map_eq_some_iff.mp hl
    exact ⟨p, ps, q, rfl, hq, hp, hqo⟩

theorem mem_offs {l : List Pub} {a n : Nat} (h : offs l = List.range' a n) (o : Nat) :
    (∃ p ∈ l, p.offset = o) ↔ a ≤ o ∧ o < a + n := by
  rw [← List.mem_range'_1, ← h]
  simp [offs]

theorem pairwise_of_offs {l : List Pub} {a n : Nat} (h : offs l = List.range' a n) :
    l.Pairwise (fun x y => x.offset < y.offset) := by
  have := List.pairwise_lt_range' (s := a) (n := n)
  rw [← h] at this
  exact List.pairwise_map.mp this

theorem pw_inj {l : List Pub} (h : l.Pairwise (fun x y => x.offset < y.offset)) {a b : Pub}
    (ha : a ∈ l) (hb : b ∈ l) (he : a.offset = b.offset) : a = b :=
  -- entries at different places have different offsets, whichever comes first
  List.Pairwise.forall_of_forall_of_flip (R := fun x y => x.offset = y.offset → x = y) (fun _ _ _ => rfl)
    (h.imp fun hlt e => absurd e (Nat.ne_of_lt hlt)) (h.imp fun hlt e => absurd e.symm (Nat.ne_of_lt hlt))
    ha hb he

/-- `Inv`: offsets of everything ever published in this epoch are `1 … top`, the retained list is a
suffix of that log (so it is the contiguous range `(top - len, top]`), the epoch is not the empty
one, and `top + 1` does not wrap. -/
structure RStream.Inv (s : RStream) : Prop where
  bound : s.top + 1 < U64
  logOff : offs s.log = List.range' 1 s.top
  suffix : s.items = s.log.drop (s.top - s.items.length)
  len : s.items.length ≤ s.top
  epos : 0 < s.epoch

/-- lower end of the retained range: the retained offsets are `(lo, top]` -/
def RStream.lo (s : RStream) : Nat := s.top - s.items.length

theorem RStream.Inv.logLen {s : RStream} (hi : s.Inv) : s.log.length = s.top :=
  offs_length hi.logOff

theorem RStream.Inv.logDropOff {s : RStream} (hi : s.Inv) (k : Nat) :
    offs (s.log.drop k) = List.range' (k + 1) (s.top - k) := by
  rw [offs_drop hi.logOff, Nat.add_comm]

theorem RStream.Inv.lo_add {s : RStream} (hi : s.Inv) : s.lo + s.items.length = s.top :=
  Nat.sub_add_cancel hi.len

theorem RStream.Inv.items_eq {s : RStream} (hi : s.Inv) : s.items = s.log.drop s.lo := hi.suffix

theorem RStream.Inv.itemsOff {s : RStream} (hi : s.Inv) :
    offs s.items = List.range' (s.lo + 1) s.items.length := by
  have := hi.logDropOff s.lo
  rwa [← hi.items_eq, show s.top - s.lo = s.items.length by have := hi.lo_add; omega] at this

theorem RStream.Inv.items_le_top {s : RStream} (hi : s.Inv) {p : Pub} (hp : p ∈ s.items) :
    p.offset ≤ s.top := by
  have := (mem_offs hi.itemsOff p.offset).mp ⟨p, hp, rfl⟩
  have := hi.lo_add
  omega

theorem RStream.Inv.mem_log_drop {s : RStream} (hi : s.Inv) (k : Nat) (p : Pub) :
    p ∈ s.log.drop k ↔ p ∈ s.log ∧ k < p.offset := by
  constructor
  · intro hp
    exact ⟨List.mem_of_mem_drop hp, ((mem_offs (hi.logDropOff k) _).mp ⟨p, hp, rfl⟩).1⟩
  · rintro ⟨hp, hk⟩
    rw [← List.take_append_drop k s.log, List.mem_append] at hp
    rcases hp with hp | hp
    · have := (mem_offs (offs_take hi.logOff k) _).mp ⟨p, hp, rfl⟩
      omega
    · exact hp

theorem inv_new (e : Nat) (he : 0 < e) : (RStream.new e).Inv :=
  ⟨by simp [RStream.new, U64], rfl, rfl, Nat.le_refl _, he⟩

theorem inv_clear {s : RStream} (hi : s.Inv) : s.clear.Inv :=
  ⟨hi.bound, hi.logOff, by simp [RStream.clear, hi.logLen], by simp [RStream.clear], hi.epos⟩

theorem add_top {s : RStream} (hi : s.Inv) (tag id size : Nat) :
    (s.add tag id size).top = s.top + 1 :=
  Nat.mod_eq_of_lt hi.bound

theorem inv_add {s : RStream} (hi : s.Inv) (hb : s.top + 2 < U64) (tag id size : Nat) :
    (s.add tag id size).Inv := by
  have hmod : (s.top + 1) % U64 = s.top + 1 := Nat.mod_eq_of_lt hi.bound
  have hlen := hi.len
  -- the new retained list drops `j` entries from the front of the old one with the publication appended
  generalize hj : (s.items ++ [(⟨s.top + 1, tag, id⟩ : Pub)]).length - size = j
  have hjl : j ≤ s.items.length + 1 := by rw [← hj, List.length_append]; exact Nat.sub_le _ _
  have hitems : (s.add tag id size).items =
      (s.log ++ [(⟨s.top + 1, tag, id⟩ : Pub)]).drop (s.top - s.items.length + j) := by
    simp only [RStream.add, hmod, hj]
    conv => lhs; rw [hi.suffix]
    rw [← List.drop_append_of_le_length (by rw [hi.logLen]; omega), List.drop_drop]
  have hlen' : (s.add tag id size).items.length = s.items.length + 1 - j := by
    rw [hitems, List.length_drop, List.length_append, hi.logLen]
    simp only [List.length_cons, List.length_nil]
    omega
  refine ⟨?_, ?_, ?_, ?_, hi.epos⟩
  · rw [add_top hi]; omega
  · simp only [RStream.add, hmod, offs, List.map_append, List.map_cons, List.map_nil]
    rw [List.range'_1_concat, ← hi.logOff, Nat.add_comm]
  · rw [hlen', add_top hi, hitems]
    simp only [RStream.add, hmod]
    congr 1
    omega
  · rw [hlen', add_top hi]; omega

/-- a forward read is a prefix (the publication limit) of a suffix of the log: from `so` when that
offset is retained, else the whole retained list -/
theorem getFwd_eq {s : RStream} (hi : s.Inv) (so limit : Nat) :
    s.getFwd so limit =
      if s.top < so then [] else takeLim limit (s.log.drop (if s.lo < so then so - 1 else s.lo)) := by
  have hlo := hi.lo_add
  unfold RStream.getFwd
  rw [Nat.mod_eq_of_lt hi.bound]
  by_cases hgt : s.top < so
  · rw [if_pos hgt, if_pos (by omega)]
  · rw [if_neg hgt, if_neg (by omega)]
    simp only [dropWhile_offs hi.itemsOff so]
    by_cases hin : s.lo + 1 ≤ so
    · -- the position is retained: `index[so]` is found and the walk starts there
      have hne : (s.items.drop (so - (s.lo + 1))).isEmpty = false := by
        rw [List.isEmpty_eq_false_iff, ← List.length_pos_iff, List.length_drop]; omega
      rw [if_pos hin, if_pos (show s.lo < so from hin), hne, hi.items_eq, List.drop_drop]
      simp only [Bool.false_eq_true, if_false]
      congr 2
      omega
    · -- trimmed or cleared: nothing found, the front of the list is used
      rw [if_neg hin, if_neg (show ¬ s.lo < so from hin), hi.items_eq]
      simp only [List.isEmpty_nil, if_true]

/-- the `top == since.Offset` shortcut of `getLocked` agrees with what `Get` finds -/
theorem since_eq_getFwd {s : RStream} (hi : s.Inv) (off ep limit : Nat) :
    s.since off ep limit = s.getFwd ((off + 1) % U64) limit := by
  unfold RStream.since
  split
  · next h =>
    have hso : (off + 1) % U64 = s.top + 1 := h.1 ▸ Nat.mod_eq_of_lt hi.bound
    rw [getFwd_eq hi, if_pos (by omega)]
  · rfl

theorem recFlag_offs {pubs : List Pub} {a m : Nat} (h : offs pubs = List.range' a m) (top off : Nat) :
    recFlag pubs top off =
      if m = 0 then top == off else (a == (off + 1) % U64 && a + m - 1 == top) := by
  by_cases hm : m = 0
  · rw [(offs_nil_iff h).mpr hm, if_pos hm]; rfl
  · obtain ⟨p, ps, q, rfl, hq, hp, hqo⟩ := offs_head_last h (by omega)
    rw [if_neg hm]
    unfold recFlag
    rw [hq]
    simp only [hp, hqo]

/-- the recovery publication limit cuts the answer short -/
def truncated (limit : Nat) (s : RStream) (off : Nat) : Prop := limit ≠ 0 ∧ limit < s.top - off

instance (limit : Nat) (s : RStream) (off : Nat) : Decidable (truncated limit s off) := by
  unfold truncated; infer_instance

theorem recFlag_takeLim {l : List Pub} {a n top : Nat} (h : offs l = List.range' a n)
    (hn : a + n = top + 1) (limit off : Nat) :
    recFlag (takeLim limit l) top off = true ↔
      (n = 0 ∧ top = off) ∨ (0 < n ∧ a = (off + 1) % U64 ∧ (limit = 0 ∨ n ≤ limit)) := by
  rw [recFlag_offs (offs_takeLim h limit)]
  generalize (off + 1) % U64 = so
  by_cases hc : limit = 0 ∨ n ≤ limit
  · rw [if_pos hc]
    split
    · rw [beq_iff_eq]; omega
    · rw [Bool.and_eq_true, beq_iff_eq, beq_iff_eq]; omega
  · rw [if_neg hc, if_neg (by omega), Bool.and_eq_true, beq_iff_eq, beq_iff_eq]
    omega

theorem recFlag_since {s : RStream} (hi : s.Inv) {off : Nat} (hoff : off < U64) (ep limit : Nat) :
    recFlag (s.since off ep limit) s.top off = true ↔
      off ≤ s.top ∧ s.lo ≤ off ∧ ¬ truncated limit s off := by
  have hb := hi.bound
  have hlo := hi.lo_add
  rw [since_eq_getFwd hi, getFwd_eq hi]
  unfold truncated
  -- `off + 1` wraps to 0 at MaxUint64
  have hso : (off + 1) % U64 = off + 1 ∨ ((off + 1) % U64 = 0 ∧ s.top < off) := by
    by_cases hw : off + 1 = U64
    · rw [hw, Nat.mod_self]; omega
    · exact Or.inl (Nat.mod_eq_of_lt (by omega))
  split
  · rw [show recFlag [] s.top off = (s.top == off) from rfl, beq_iff_eq]
    omega
  · rw [recFlag_takeLim (hi.logDropOff _) (by split <;> omega)]
    split <;> omega

theorem since_of_retained {s : RStream} (hi : s.Inv) {off limit : Nat} (hle : off ≤ s.top)
    (hlo : s.lo ≤ off) (ht : ¬ truncated limit s off) (ep : Nat) :
    s.since off ep limit = s.log.drop off := by
  have hb := hi.bound
  rw [since_eq_getFwd hi, getFwd_eq hi, Nat.mod_eq_of_lt (by omega)]
  split
  · exact (List.drop_of_length_le (by rw [hi.logLen]; omega)).symm
  · rw [Nat.add_sub_cancel, if_pos (by omega)]
    unfold takeLim
    split
    · rfl
    · apply List.take_of_length_le
      rw [List.length_drop, hi.logLen]
      unfold truncated at ht
      omega

/-- "every offset in `(off, top]` is retained" -/
def gapRetained (s : RStream) (off : Nat) : Prop :=
  ∀ o, off < o → o ≤ s.top → ∃ p ∈ s.items, p.offset = o

theorem gap_iff {s : RStream} (hi : s.Inv) {off : Nat} (hle : off ≤ s.top) :
    gapRetained s off ↔ s.lo ≤ off := by
  have hlo := hi.lo_add
  unfold gapRetained
  simp only [mem_offs hi.itemsOff]
  constructor
  · intro h
    by_cases heq : off = s.top
    · omega
    · have := h (off + 1) (by omega) (by omega)
      omega
  · intro h o h1 h2
    omega

/-- the position `(off, ep)` can be recovered from `s`: the epoch is acceptable, the offset is not
beyond the top, nothing after it was trimmed, and the publication limit does not cut the answer.
Unfolded, this is the right-hand side of `recovered_true_iff` in `Props/C02.lean`, whose proofs
pass hypotheses of that shape for it. -/
def Recoverable (limit : Nat) (s : RStream) (off ep : Nat) : Prop :=
  (ep = 0 ∨ ep = s.epoch) ∧ off ≤ s.top ∧ gapRetained s off ∧ ¬ truncated limit s off

theorem isr_of_recoverable {s : RStream} (hi : s.Inv) {off ep limit : Nat}
    (hr : Recoverable limit s off ep) (pass : Pub → Bool) :
    isStreamRecovered (s.since off ep limit) s.top s.epoch off ep pass =
      some ((s.log.drop off).map (toM pass)) := by
  obtain ⟨he, hle, hg, ht⟩ := hr
  have hlo := (gap_iff hi hle).mp hg
  have hoff : off < U64 := Nat.lt_of_le_of_lt hle (Nat.lt_of_succ_lt hi.bound)
  rw [isStreamRecovered, if_neg (by omega), if_pos ((recFlag_since hi hoff ep limit).mpr ⟨hle, hlo, ht⟩),
    since_of_retained hi hle hlo ht]

theorem isr_of_not_recoverable {s : RStream} (hi : s.Inv) {off ep limit : Nat} (hoff : off < U64)
    (hr : ¬ Recoverable limit s off ep) (pass : Pub → Bool) :
    isStreamRecovered (s.since off ep limit) s.top s.epoch off ep pass = none := by
  unfold isStreamRecovered
  split
  · rfl
  · next he =>
    rw [if_neg]
    intro hf
    obtain ⟨hle, hlo, ht⟩ := (recFlag_since hi hoff ep limit).mp hf
    exact hr ⟨by omega, hle, (gap_iff hi hle).mpr hlo, ht⟩

theorem dropStale_nil (off : Nat) (l : List MPub) : dropStale off [] l = l := rfl

theorem finish_cases (c d r : Bool) (rp b : List MPub) (top e off : Nat) (w : Bool) :
    finish c d r rp b top e off w = .insufficient ∨ (finish c d r rp b top e off w).recovered = r := by
  unfold finish
  split
  · exact Or.inl rfl
  · exact Or.inr rfl

theorem finish_ne_unrecoverable (c d r : Bool) (rp b : List MPub) (top e off : Nat) (w : Bool) :
    finish c d r rp b top e off w ≠ .unrecoverable := by
  unfold finish
  split <;> exact Outcome.noConfusion

theorem finish_nobuf (c d r : Bool) (rp : List MPub) (top e off : Nat) (w : Bool) :
    finish c d r rp [] top e off w ≠ .insufficient := by
  unfold finish
  split
  · next h => exact absurd rfl ((merge_eq_none_iff rp []).mp h).1
  · exact Outcome.noConfusion

theorem finish_false_empty (c d r : Bool) (rp b : List MPub) (top e off : Nat) (w : Bool)
    (h : (finish c d r rp b top e off w).recovered = false) :
    (finish c d r rp b top e off w).pubs = [] := by
  unfold finish at h ⊢
  split
  · rfl
  · next l mx hm =>
    rw [hm] at h
    simp only [Outcome.recovered] at h
    subst h
    rfl

theorem finish_nil (c d r : Bool) (top e off : Nat) (w : Bool) :
    finish c d r [] [] top e off w = .reply r [] (if r then off else top) e top w := by
  cases c <;> cases d <;> cases r <;> simp [finish, merge, isort, uniq, maxSeen, skipped, gapsCovered, dropStale]

theorem streamSubscribe_some {limit : Nat} {s : RStream} {req : Req} {pass : Pub → Bool} {rp : List MPub}
    (h : isStreamRecovered (s.since req.offset req.epoch limit) s.top s.epoch req.offset req.epoch pass
      = some rp) (buffered : List MPub) :
    streamSubscribe limit s req pass buffered =
      finish false false true rp buffered s.top s.epoch req.offset true := by
  have he : (req.epoch == 0 || req.epoch == s.epoch) = true := by
    unfold isStreamRecovered at h
    split at h
    · cases h
    · rw [Bool.or_eq_true, beq_iff_eq, beq_iff_eq]; omega
  simp only [streamSubscribe, he, h, Bool.not_true, Bool.false_eq_true, if_false]

theorem streamSubscribe_none {limit : Nat} {s : RStream} {req : Req} {pass : Pub → Bool}
    (h : isStreamRecovered (s.since req.offset req.epoch limit) s.top s.epoch req.offset req.epoch pass
      = none) (buffered : List MPub) :
    streamSubscribe limit s req pass buffered =
      match req.reject with
      | true => .unrecoverable
      | false => finish false false false [] buffered s.top s.epoch req.offset true := by
  simp only [streamSubscribe, h]
  cases req.reject <;> simp

theorem streamSubscribe_recoverable {limit : Nat} {s : RStream} (hi : s.Inv) {req : Req}
    (hr : Recoverable limit s req.offset req.epoch) (pass : Pub → Bool) (buffered : List MPub) :
    streamSubscribe limit s req pass buffered =
      finish false false true ((s.log.drop req.offset).map (toM pass)) buffered s.top s.epoch req.offset true :=
  streamSubscribe_some (isr_of_recoverable hi hr pass) buffered

theorem streamSubscribe_not_recoverable {limit : Nat} {s : RStream} (hi : s.Inv) {req : Req}
    (hoff : req.offset < U64) (hr : ¬ Recoverable limit s req.offset req.epoch) (pass : Pub → Bool)
    (buffered : List MPub) :
    streamSubscribe limit s req pass buffered =
      match req.reject with
      | true => .unrecoverable
      | false => finish false false false [] buffered s.top s.epoch req.offset true :=
  streamSubscribe_none (isr_of_not_recoverable hi hoff hr pass) buffered

theorem streamSubscribe_cases (limit : Nat) (s : RStream) (req : Req) (pass : Pub → Bool)
    (buffered : List MPub) :
    streamSubscribe limit s req pass buffered = .unrecoverable ∨
    ∃ r rp, streamSubscribe limit s req pass buffered =
      finish false false r rp buffered s.top s.epoch req.offset true := by
  cases h : isStreamRecovered (s.since req.offset req.epoch limit) s.top s.epoch req.offset req.epoch pass with
  | some rp => exact Or.inr ⟨_, _, streamSubscribe_some h buffered⟩
  | none =>
    rw [streamSubscribe_none h]
    cases req.reject
    · exact Or.inr ⟨_, _, rfl⟩
    · exact Or.inl rfl

end CentrifugeVerif.Recovery
