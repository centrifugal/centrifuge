import CentrifugeVerif.Model.CRC16
import CentrifugeVerif.Spec.RedisSlot
/-!
The table-driven CRC16 and `redisSlot` of `redis_cluster_slot.go` equal the bitwise CRC-16/XMODEM
specification and its slot function.  One shift of the register is linear over xor, so the register
splits into its high byte, whose eight shifts the table holds (the only fact evaluated), and its
low byte, which eight shifts only move up.
-/
namespace CentrifugeVerif.CRC16
open CentrifugeVerif.Spec.RedisSlot
open CentrifugeVerif.Gen.Crc16Tab

theorem and_two_pow_eq_zero (x k : Nat) : x &&& 2 ^ k = 0 ↔ x.testBit k = false := by
  constructor
  · intro h
    have := Nat.testBit_and x (2 ^ k) k
    rwa [h, Nat.zero_testBit, Nat.testBit_two_pow_self, Bool.and_true, eq_comm] at this
  · intro h
    apply Nat.eq_of_testBit_eq
    intro i
    rw [Nat.testBit_and, Nat.testBit_two_pow, Nat.zero_testBit]
    by_cases hi : k = i
    · rw [← hi, h, Bool.false_and]
    · simp [hi]

theorem shiftLeft_xor_of_lt {y k : Nat} (hy : y < 2 ^ k) (x : Nat) : x <<< k ^^^ y = x * 2 ^ k + y := by
  rw [← Nat.shiftLeft_eq, Nat.shiftLeft_add_eq_or_of_lt hy]
  apply Nat.eq_of_testBit_eq
  intro i
  rw [Nat.testBit_xor, Nat.testBit_or, Nat.testBit_shiftLeft]
  by_cases hi : k ≤ i
  · rw [Nat.testBit_lt_two_pow (Nat.lt_of_lt_of_le hy (Nat.pow_le_pow_right (by decide) hi))]
    simp
  · simp [hi]

theorem crcStep_lt (c : Nat) : crcStep c < 65536 :=
  Nat.and_lt_two_pow _ (n := 16) (by decide)

theorem crcStep8_lt (c : Nat) : crcStep8 c < 65536 := crcStep_lt _

theorem crcByte_lt (c : Nat) (b : UInt8) : crcByte c b < 65536 := crcStep8_lt _

theorem crcStep_eq (c : Nat) :
    crcStep c = (c <<< 1 &&& 0xFFFF) ^^^ (if c.testBit 15 then 0x1021 else 0) := by
  unfold crcStep
  rw [Nat.and_xor_distrib_right]
  cases h : c.testBit 15
  · rw [if_pos ((and_two_pow_eq_zero c 15).2 h)]
    rfl
  · rw [if_neg (by rw [and_two_pow_eq_zero c 15, h]; decide)]
    rfl

/-- shift and mask distribute; the polynomial goes in when exactly one of the two top bits is set -/
theorem crcStep_xor (a b : Nat) : crcStep (a ^^^ b) = crcStep a ^^^ crcStep b := by
  rw [crcStep_eq, crcStep_eq, crcStep_eq, Nat.testBit_xor, Nat.shiftLeft_xor_distrib,
    Nat.and_xor_distrib_right]
  have poly : (if (a.testBit 15 != b.testBit 15) = true then 0x1021 else 0)
      = (if a.testBit 15 then 0x1021 else 0) ^^^ (if b.testBit 15 then 0x1021 else 0) := by
    cases a.testBit 15 <;> cases b.testBit 15 <;> rfl
  rw [poly]
  ac_rfl

theorem crcStep8_xor (a b : Nat) : crcStep8 (a ^^^ b) = crcStep8 a ^^^ crcStep8 b := by
  simp only [crcStep8, crcStep_xor]

theorem crcStep_of_lt {c : Nat} (hc : c < 0x8000) : crcStep c = 2 * c := by
  rw [crcStep_eq, Nat.testBit_lt_two_pow hc, Nat.and_two_pow_sub_one_eq_mod _ 16, Nat.shiftLeft_eq]
  simp only [Bool.false_eq_true, if_false, Nat.xor_zero]
  omega

theorem crcStep8_of_lt {l : Nat} (hl : l < 256) : crcStep8 l = l <<< 8 := by
  simp (disch := omega) only [crcStep8, crcStep_of_lt]
  rw [Nat.shiftLeft_eq]
  omega

theorem tab_eq : crc16tab = (List.range 256).map fun h => crcStep8 (h <<< 8) := by decide +kernel

theorem tabAt_eq {hi : Nat} (hhi : hi < 256) : tabAt hi = crcStep8 (hi <<< 8) := by
  rw [tabAt, tab_eq, List.getD_eq_getElem?_getD, List.getElem?_map, List.getElem?_range hhi]
  rfl

theorem crcStep8_hi_lo {hi lo : Nat} (hhi : hi < 256) (hlo : lo < 256) :
    crcStep8 ((hi <<< 8) ^^^ lo) = tabAt hi ^^^ (lo <<< 8) := by
  rw [crcStep8_xor, tabAt_eq hhi, crcStep8_of_lt hlo]

/-- one byte: the table-driven update of `redisSlot` equals eight bitwise shifts -/
theorem goCrcByte_eq (c : Nat) (b : UInt8) (hc : c < 65536) : goCrcByte c b = crcByte c b := by
  have hb : b.toNat < 256 := b.toNat_lt
  have hhi : c >>> 8 < 256 := by rw [Nat.shiftRight_eq_div_pow]; omega
  have hlo : c &&& 0xFF < 256 := Nat.and_lt_two_pow _ (n := 8) (by decide)
  have split : c = (c >>> 8) <<< 8 ^^^ (c &&& 0xFF) := by
    rw [shiftLeft_xor_of_lt (k := 8) hlo, Nat.and_two_pow_sub_one_eq_mod _ 8,
      Nat.shiftRight_eq_div_pow]
    omega
  have e : c ^^^ (b.toNat <<< 8) = ((c >>> 8 ^^^ b.toNat) <<< 8) ^^^ (c &&& 0xFF) := by
    rw [Nat.shiftLeft_xor_distrib, Nat.xor_assoc, Nat.xor_comm (b.toNat <<< 8), ← Nat.xor_assoc,
      ← split]
  have lo : (c <<< 8) &&& 0xFFFF = (c &&& 0xFF) <<< 8 := by
    rw [Nat.and_two_pow_sub_one_eq_mod _ 16, Nat.and_two_pow_sub_one_eq_mod _ 8,
      Nat.shiftLeft_eq, Nat.shiftLeft_eq]
    omega
  unfold goCrcByte crcByte
  rw [Nat.and_two_pow_sub_one_of_lt_two_pow (n := 8) hhi, e,
    crcStep8_hi_lo (Nat.xor_lt_two_pow (n := 8) hhi hb) hlo, lo, Nat.xor_comm]

theorem foldl_goCrcByte_eq : ∀ (bs : Bytes) (c : Nat), c < 65536 → bs.foldl goCrcByte c = bs.foldl crcByte c
  | [], _, _ => rfl
  | b :: bs, c, hc => by
    simp only [List.foldl_cons]
    rw [goCrcByte_eq c b hc]
    exact foldl_goCrcByte_eq bs _ (crcByte_lt c b)

/-- **the Go table computes CRC-16/XMODEM**, for every byte string -/
theorem crc16_table_eq_bitwise (bs : Bytes) : goCrc16 bs = crc16 bs :=
  foldl_goCrcByte_eq bs 0 (by decide)

theorem indexByte_eq : ∀ (c : UInt8) (s : Bytes), indexByte c s = indexOf c s
  | _, [] => rfl
  | c, b :: bs => by simp [indexByte, indexOf, indexByte_eq c bs]

/-- Go's `redisSlot` is the specified slot function (hash-tag rule and CRC), for every key -/
theorem goRedisSlot_eq_spec (key : Bytes) : goRedisSlot key = slot key := by
  unfold goRedisSlot slot hashTag totalSlots
  simp only [indexByte_eq, crc16_table_eq_bitwise]
  exact Nat.and_two_pow_sub_one_eq_mod _ 14

end CentrifugeVerif.CRC16
