import CentrifugeVerif.Model.Survey
/-!
Invariant of the survey system (`Model/Survey.lean`) and its preservation by every label.
-/
namespace CentrifugeVerif.Survey

/-- states reachable from `init` by any finite label sequence: any number of concurrent surveys, any
order, duplication and addressing of responses, any timing of deadlines, publish outcomes and local
replies. -/
inductive Reach : State → Prop
  | init : Reach init
  | step {s s' : State} {l : Label} : Reach s → next s l = some s' → Reach s'

def uids (l : List Reply) : List Uid := l.map (·.uid)

/-- invariant of the `t`-th Survey call -/
structure SvInv (t : Nat) (sv : Sv) : Prop where
  id_eq : sv.id = t + 1
  chan_for : ∀ r ∈ sv.chan, r.forId = sv.id
  res_for : ∀ r ∈ sv.results, r.forId = sv.id
  res_nodup : (uids sv.results).Nodup
  chan_cap : sv.chan.length ≤ sv.numNodes
  res_le : sv.results.length ≤ sv.numNodes
  collecting_lt : sv.coll = .collecting → sv.results.length < sv.numNodes ∨ sv.numNodes = 0
  done_why : sv.coll = .done → sv.results.length = sv.numNodes ∨ sv.ctxDone = true
  not_started : sv.coll = .notStarted → sv.results = [] ∧ sv.main = .handler
  handler_ns : sv.main = .handler → sv.coll = .notStarted
  returned_ok : sv.main = .returnedOk →
    sv.coll = .done ∧ sv.returned = sv.results ∧ (sv.retErr = false → sv.results.length = sv.numNodes)
  not_returned : sv.main ≠ .returnedOk → sv.returned = []
  registered_iff : sv.registered = true ↔ (sv.main = .handler ∨ sv.main = .publishing ∨ sv.main = .waiting)

structure Inv (s : State) : Prop where
  count : s.surveyID = s.surveys.length
  each : ∀ t sv, s.surveys[t]? = some sv → SvInv t sv

theorem inv_init : Inv init := ⟨rfl, by simp [init]⟩

theorem mem_insertResult {r x : Reply} {l : List Reply} (h : x ∈ insertResult r l) : x = r ∨ x ∈ l := by
  induction l with
  | nil => simp [insertResult] at h; exact Or.inl h
  | cons y ys ih =>
    simp only [insertResult] at h
    split at h
    · rcases List.mem_cons.mp h with h | h
      · exact Or.inl h
      · exact Or.inr (List.mem_cons_of_mem _ h)
    · rcases List.mem_cons.mp h with h | h
      · exact Or.inr (by simp [h])
      · rcases ih h with h | h
        · exact Or.inl h
        · exact Or.inr (List.mem_cons_of_mem _ h)

theorem insertResult_length (r : Reply) (l : List Reply) :
    l.length ≤ (insertResult r l).length ∧ (insertResult r l).length ≤ l.length + 1 := by
  induction l with
  | nil => simp [insertResult]
  | cons y ys ih =>
    simp only [insertResult]
    split
    · simp
    · simp; omega

theorem insertResult_nodup (r : Reply) (l : List Reply) (h : (uids l).Nodup) :
    (uids (insertResult r l)).Nodup := by
  induction l with
  | nil => simp [insertResult, uids]
  | cons y ys ih =>
    simp only [uids, List.map_cons, List.nodup_cons] at h
    simp only [insertResult]
    split
    · rename_i heq
      simp only [uids, List.map_cons, List.nodup_cons]
      exact ⟨heq ▸ h.1, h.2⟩
    · rename_i hne
      simp only [uids, List.map_cons, List.nodup_cons]
      refine ⟨?_, ih h.2⟩
      intro hm
      obtain ⟨x, hx, hxu⟩ := List.mem_map.mp hm
      rcases mem_insertResult hx with rfl | hx
      · exact hne hxu.symm
      · exact h.1 (List.mem_map.mpr ⟨x, hx, hxu⟩)

/-- the uid of a collected reply is among the result keys afterwards -/
theorem uid_mem_insertResult (r : Reply) (l : List Reply) : r.uid ∈ uids (insertResult r l) := by
  induction l with
  | nil => simp [insertResult, uids]
  | cons y ys ih =>
    simp only [insertResult]
    split
    · simp [uids]
    · simp only [uids, List.map_cons, List.mem_cons]; exact Or.inr ih

/-- `deliver` touches at most the channel of surveys it is addressed to -/
theorem deliver_get (r : Reply) (l : List Sv) (t : Nat) (sv : Sv) (h : l[t]? = some sv) :
    (deliver r l)[t]? = some sv ∨
    ((deliver r l)[t]? = some { sv with chan := sv.chan ++ [r] } ∧ sv.registered = true ∧ sv.id = r.forId ∧
      sv.chan.length < sv.numNodes) := by
  induction l generalizing t with
  | nil => simp at h
  | cons x xs ih =>
    simp only [deliver]
    split
    · rename_i hm
      cases t with
      | zero =>
        simp only [List.getElem?_cons_zero, Option.some.injEq] at h
        subst h
        split
        · rename_i hlt
          exact Or.inr ⟨by simp, hm.1, hm.2, hlt⟩
        · exact Or.inl (by simp)
      | succ t => exact Or.inl (by simpa using h)
    · cases t with
      | zero => exact Or.inl (by simpa using h)
      | succ t =>
        simp only [List.getElem?_cons_succ] at h ⊢
        exact ih t h

theorem deliver_length (r : Reply) (l : List Sv) : (deliver r l).length = l.length := by
  induction l with
  | nil => rfl
  | cons x xs ih =>
    simp only [deliver]; split <;> simp [ih]

theorem deliver_get_rev (r : Reply) (l : List Sv) (t : Nat) (sv' : Sv) (h : (deliver r l)[t]? = some sv') :
    ∃ sv, l[t]? = some sv :=
  ⟨l[t]'(deliver_length r l ▸ (List.getElem?_eq_some_iff.mp h).1), List.getElem?_eq_getElem _⟩

theorem svinv_chan_append {t : Nat} {sv : Sv} {r : Reply} (h : SvInv t sv) (hid : r.forId = sv.id)
    (hlt : sv.chan.length < sv.numNodes) : SvInv t { sv with chan := sv.chan ++ [r] } :=
  { h with
    chan_for := fun x hx => by
      rcases List.mem_append.mp hx with hx | hx
      · exact h.chan_for x hx
      · cases List.mem_singleton.mp hx; exact hid
    chan_cap := by simp only [List.length_append, List.length_singleton]; omega }

theorem SvInv.running {t : Nat} {sv : Sv} (hv : SvInv t sv) (hc : sv.coll = .collecting) :
    sv.main ≠ .handler ∧ sv.main ≠ .returnedOk := by
  refine ⟨fun hm => ?_, fun hm => ?_⟩
  · have := hv.handler_ns hm; rw [hc] at this; cases this
  · have := (hv.returned_ok hm).1; rw [hc] at this; cases this

theorem inv_upd {s : State} {t : Nat} {sv' : Sv} (hi : Inv s) (h' : SvInv t sv') : Inv (upd s t sv') := by
  refine ⟨by simp [upd, hi.count], ?_⟩
  intro t' x hx
  simp only [upd, List.getElem?_set] at hx
  split at hx
  · rename_i heq
    split at hx
    · cases hx; exact heq ▸ h'
    · cases hx
  · exact hi.each t' x hx

theorem inv_step {s s' : State} {l : Label} (hi : Inv s) (h : next s l = some s') : Inv s' := by
  cases l with
  | «begin» n =>
    simp only [next] at h
    cases h
    refine ⟨by simp [hi.count], ?_⟩
    intro t sv hsv
    simp only [List.getElem?_append] at hsv
    split at hsv
    · exact hi.each t sv hsv
    · rename_i hge
      have : t = s.surveys.length := by
        cases hk : t - s.surveys.length with
        | zero => omega
        | succ k => rw [hk] at hsv; simp at hsv
      subst this
      simp at hsv
      subst hsv
      constructor <;> simp [hi.count, uids]
  | localReply t code =>
    simp only [next] at h
    split at h
    · cases h
    · rename_i sv hsv
      split at h
      · rename_i hlt
        cases h
        exact inv_upd hi (svinv_chan_append (hi.each t sv hsv) rfl hlt)
      · cases h
  | spawn t =>
    simp only [next] at h
    split at h
    · cases h
    · rename_i sv hsv
      split at h
      · rename_i hm
        cases h
        have hv := hi.each t sv hsv
        have hres := (hv.not_started (hv.handler_ns hm)).1
        exact inv_upd hi { hv with
          collecting_lt := fun _ => by simp only [hres, List.length_nil]; omega
          done_why := nofun
          not_started := nofun
          handler_ns := nofun
          returned_ok := nofun
          not_returned := fun _ => hv.not_returned (by simp [hm])
          registered_iff := by simp only [hv.registered_iff, hm]; simp }
      · cases h
  | publish t ok =>
    simp only [next] at h
    split at h
    · cases h
    · rename_i sv hsv
      split at h
      · rename_i hm
        have hv := hi.each t sv hsv
        have hcoll : sv.coll ≠ .notStarted := fun hc => by
          have := (hv.not_started hc).2; rw [hm] at this; cases this
        cases ok with
        | true =>
          simp only [if_true] at h
          cases h
          exact inv_upd hi { hv with
            not_started := fun hc => absurd hc hcoll
            handler_ns := nofun
            returned_ok := nofun
            not_returned := fun _ => hv.not_returned (by simp [hm])
            registered_iff := by simp only [hv.registered_iff, hm]; simp }
        | false =>
          simp only [Bool.false_eq_true, if_false] at h
          cases h
          exact inv_upd hi { hv with
            not_started := fun hc => absurd hc hcoll
            handler_ns := nofun
            returned_ok := nofun
            not_returned := fun _ => hv.not_returned (by simp [hm])
            registered_iff := by simp }
      · cases h
  | response uid id code =>
    simp only [next] at h
    split at h
    · cases h; exact hi
    · cases h
      refine ⟨by simp [deliver_length, hi.count], ?_⟩
      intro t sv' hsv'
      obtain ⟨sv, hsv⟩ := deliver_get_rev _ _ _ _ hsv'
      have hv := hi.each t sv hsv
      rcases deliver_get (Reply.mk uid code id) s.surveys t sv hsv with h1 | ⟨h1, _, hid, hlt⟩
      · cases h1.symm.trans hsv'; exact hv
      · cases h1.symm.trans hsv'; exact svinv_chan_append hv hid.symm hlt
  | collect t =>
    simp only [next] at h
    split at h
    · cases h
    · rename_i sv hsv
      split at h
      · rename_i hcoll
        split at h
        · cases h
        · rename_i r rest hchan
          cases h
          have hv := hi.each t sv hsv
          have hcap := hv.chan_cap
          rw [hchan, List.length_cons] at hcap
          have hlt : sv.results.length < sv.numNodes := (hv.collecting_lt hcoll).resolve_right (by omega)
          have hlen := insertResult_length r sv.results
          exact inv_upd hi { hv with
            chan_for := fun x hx => hv.chan_for x (hchan ▸ List.mem_cons_of_mem _ hx)
            res_for := fun x hx => by
              rcases mem_insertResult hx with rfl | hx
              · exact hv.chan_for x (hchan ▸ List.mem_cons_self)
              · exact hv.res_for x hx
            res_nodup := insertResult_nodup r _ hv.res_nodup
            chan_cap := by simp only; omega
            res_le := by simp only; omega
            collecting_lt := fun hc => by
              simp only at hc ⊢
              split at hc
              · cases hc
              · left; omega
            done_why := fun hc => by
              simp only at hc ⊢
              split at hc
              · rename_i heq; exact Or.inl heq
              · cases hc
            not_started := fun hc => by
              simp only at hc
              split at hc <;> cases hc
            handler_ns := fun hm => absurd hm (hv.running hcoll).1
            returned_ok := fun hm => absurd hm (hv.running hcoll).2 }
      · cases h
  | ctxDone t =>
    simp only [next] at h
    split at h
    · cases h
    · rename_i sv hsv
      cases h
      exact inv_upd hi { hi.each t sv hsv with done_why := fun _ => Or.inr rfl }
  | collExit t =>
    simp only [next] at h
    split at h
    · cases h
    · rename_i sv hsv
      split at h
      · rename_i hc
        cases h
        have hv := hi.each t sv hsv
        exact inv_upd hi { hv with
          collecting_lt := nofun
          done_why := fun _ => Or.inr hc.2
          not_started := nofun
          handler_ns := fun hm => absurd hm (hv.running hc.1).1
          returned_ok := fun hm => absurd hm (hv.running hc.1).2 }
      · cases h
  | ret t =>
    simp only [next] at h
    split at h
    · cases h
    · rename_i sv hsv
      split at h
      · rename_i hc
        cases h
        have hv := hi.each t sv hsv
        exact inv_upd hi { hv with
          not_started := fun hns => by rw [hc.2] at hns; cases hns
          handler_ns := nofun
          returned_ok := fun _ => ⟨hc.2, rfl, fun hr => (hv.done_why hc.2).resolve_right (Bool.eq_false_iff.mp hr)⟩
          not_returned := fun hne => absurd rfl hne
          registered_iff := by simp }
      · cases h

theorem reach_inv {s : State} (h : Reach s) : Inv s := by
  induction h with
  | init => exact inv_init
  | step _ hn ih => exact inv_step ih hn

theorem reach_run {s s' : State} (ls : List Label) (h : Reach s) (hr : run s ls = some s') : Reach s' := by
  induction ls generalizing s with
  | nil => simp [run] at hr; subst hr; exact h
  | cons l ls ih =>
    simp only [run] at hr
    split at hr
    · cases hr
    · rename_i s1 hs1
      exact ih (Reach.step h hs1) hr

/-- a non-trivial run used as witness in the property file -/
def exampleRun : List Label :=
  [.begin 2, .spawn 0, .publish 0 true, .begin 2, .spawn 1, .publish 1 true,
   .response 1 1 7, .response 1 1 8, .response 1 9 9, .response 1 2 5,
   .collect 0, .collect 0, .collect 1, .localReply 0 3, .collect 0, .ret 0,
   .ctxDone 1, .collExit 1, .ret 1, .response 1 1 6]

end CentrifugeVerif.Survey
