import CentrifugeVerif.Model.Keyed
/-!
Lemmas about the keyed delivery model (C25).
-/
namespace CentrifugeVerif.Keyed

theorem alookup_aset_self {β : Type} (k : String) (v : β) (l : List (String × β)) :
    alookup k (aset k v l) = some v := by
  simp [aset, alookup]

theorem alookup_aerase_self {β : Type} (k : String) (l : List (String × β)) :
    alookup k (aerase k l) = none := by
  induction l with
  | nil => simp [aerase, alookup]
  | cons h t ih =>
    obtain ⟨k', v⟩ := h
    by_cases hk : k' = k
    · simp [aerase, hk, ih]
    · simp [aerase, hk, alookup, ih]

theorem alookup_aerase_ne {β : Type} (k k2 : String) (l : List (String × β)) (h : k2 ≠ k) :
    alookup k2 (aerase k l) = alookup k2 l := by
  induction l with
  | nil => simp [aerase, alookup]
  | cons hd t ih =>
    obtain ⟨k', v⟩ := hd
    by_cases hk : k' = k
    · subst hk
      have : ¬ k' = k2 := fun e => h e.symm
      simp [aerase, alookup, this, ih]
    · simp [aerase, alookup, hk, ih]

theorem alookup_aset_ne {β : Type} (k k2 : String) (v : β) (l : List (String × β)) (h : k2 ≠ k) :
    alookup k2 (aset k v l) = alookup k2 l := by
  have : ¬ k = k2 := fun e => h e.symm
  simp [aset, alookup, this, alookup_aerase_ne k k2 l h]

/-- What `writePub` does, as a specification: nothing unless the key is tracked with an older version;
otherwise exactly one push whose ghost `prev` is the old version, and the new key state has the pushed
version. -/
theorem writePub_spec (cid : ConnId) (c : Conn) (k : Key) (v : Nat) (d : Data) (prep : Prep) :
    (∀ ks, alookup k c.keys = some ks → v ≤ ks.version → writePub cid c k v d prep = (c, [])) ∧
    (alookup k c.keys = none → writePub cid c k v d prep = (c, [])) ∧
    (∀ ks, alookup k c.keys = some ks → ks.version < v →
      ∃ delta res ks', (writePub cid c k v d prep).2 = [Ev.push cid k v ks.version delta res] ∧
        (writePub cid c k v d prep).1 = { c with keys := aset k ks' c.keys } ∧ ks'.version = v ∧
        (delta = true → c.delta = true ∧ ks.deltaReady = true ∧ ks.version = prep.prevVersion ∧
          ∃ base, prep.prevData = some base ∧ prep.deltaSub = true ∧
            (ks.held = some base → res = some d ∧ ks'.held = some d)) ∧
        (delta = false → res = some d ∧ ks'.held = some d)) := by
  refine ⟨?_, ?_, ?_⟩
  · intro ks h hv
    simp only [writePub, h, if_pos hv]
  · intro h
    simp only [writePub, h]
  · intro ks h hv
    unfold writePub
    simp only [h, if_neg (Nat.not_le.mpr hv)]
    by_cases hu : (c.delta && prep.deltaSub && ks.deltaReady && ks.version == prep.prevVersion) = true
    · simp only [hu, if_true]
      cases hp : prep.prevData with
      | none =>
        exact ⟨false, some d, _, rfl, rfl, rfl, nofun, fun _ => ⟨rfl, rfl⟩⟩
      | some base =>
        simp only [Bool.and_eq_true, beq_iff_eq] at hu
        obtain ⟨⟨⟨h1, h2⟩, h3⟩, h4⟩ := hu
        by_cases hf : sameFamily base d = true
        · simp only [hf, if_true]
          refine ⟨true, _, _, rfl, rfl, rfl, fun _ => ⟨h1, h3, h4, base, rfl, h2, fun hh => ?_⟩, nofun⟩
          simp only [hh, if_true, and_self]
        · simp only [hf]
          exact ⟨false, some d, _, rfl, rfl, rfl, nofun, fun _ => ⟨rfl, rfl⟩⟩
    · simp only [hu]
      exact ⟨false, some d, _, rfl, rfl, rfl, nofun, fun _ => ⟨rfl, rfl⟩⟩

theorem ite_cases {α : Sort _} (P : α → Prop) {c : Prop} [Decidable c] {a b : α}
    (ha : c → P a) (hb : ¬c → P b) : P (if c then a else b) :=
  iteInduction ha hb

theorem maybeShutdown_conns (st : St) : (maybeShutdown st).conns = st.conns := by
  unfold maybeShutdown; split <;> rfl

theorem hubRemove_conns (st : St) (k : Key) (cid : ConnId) : (hubRemove st k cid).conns = st.conns := by
  unfold hubRemove; simp only; split
  · rw [maybeShutdown_conns]
  · rfl

theorem unchangedVL_update {cnt : Nat} {entry : Entry} {e : Item} {u : Update}
    (h : (unchangedVL cnt entry e).2.2 = some u) : u.data = e.data ∧ u.version = entry.version := by
  unfold unchangedVL at h
  split at h
  · cases h; exact ⟨rfl, rfl⟩
  · cases h

theorem changedVL_update {cfg : Cfg} {cnt : Nat} {entry : Entry} {e : Item} {u : Update}
    (h : (changedVL cfg cnt entry e).2.2 = some u) : u.data = e.data ∧ u.version = cnt + 1 := by
  cases h; exact ⟨rfl, rfl⟩

/-! ### `PushOK`: a push carries a version above the one the connection held -/

def PushOK : Ev → Prop
  | .push _ _ v prev _ _ => prev < v
  | _ => True

theorem writePub_pushOK (cid : ConnId) (c : Conn) (k : Key) (v : Nat) (d : Data) (prep : Prep) :
    ∀ e ∈ (writePub cid c k v d prep).2, PushOK e := by
  obtain ⟨h1, h2, h3⟩ := writePub_spec cid c k v d prep
  cases hl : alookup k c.keys with
  | none => rw [h2 hl]; exact List.forall_mem_nil _
  | some ks =>
    by_cases hv : v ≤ ks.version
    · rw [h1 ks hl hv]; exact List.forall_mem_nil _
    · obtain ⟨delta, res, ks', he, _⟩ := h3 ks hl (Nat.not_le.mp hv)
      rw [he]
      exact List.forall_mem_singleton.2 (Nat.not_le.mp hv)

theorem pushOK_ite {σ : Type} {c : Prop} [Decidable c] {a b : σ × List Ev}
    (ha : c → ∀ e ∈ a.2, PushOK e) (hb : ¬c → ∀ e ∈ b.2, PushOK e) :
    ∀ e ∈ (if c then a else b).2, PushOK e :=
  ite_cases (fun r : σ × List Ev => ∀ e ∈ r.2, PushOK e) ha hb

theorem writePub3_pushOK (c : Conn) (w : Stalled) : ∀ e ∈ (writePub3 c w).2, PushOK e := by
  unfold writePub3
  cases alookup w.key c.keys with
  | none => exact List.forall_mem_nil _
  | some ks =>
    refine pushOK_ite (fun _ => List.forall_mem_nil _) fun hv => ?_
    -- every remaining branch pushes once, with `prev` the version held so far
    have hlt := Nat.not_le.mp hv
    dsimp only
    generalize (if (w.deltaPossible && ks.deltaReady && ks.version == w.prep.prevVersion) = true
      then w.prep.prevData else none) = base
    cases base with
    | none => exact List.forall_mem_singleton.2 hlt
    | some base =>
      exact pushOK_ite (fun _ => List.forall_mem_singleton.2 hlt) fun _ => List.forall_mem_singleton.2 hlt

theorem foldl_events {α σ : Type} (P : Ev → Prop) (f : σ × List Ev → α → σ × List Ev) (l : List α)
    (hf : ∀ acc a, (∀ e ∈ acc.2, P e) → ∀ e ∈ (f acc a).2, P e) :
    ∀ acc, (∀ e ∈ acc.2, P e) → ∀ e ∈ (l.foldl f acc).2, P e := by
  induction l with
  | nil => exact fun acc h => h
  | cons a t ih => exact fun acc h => ih _ (hf acc a h)

theorem broadcast_pushOK (s : St) (k : Key) (v : Nat) (d : Data) (prep : Prep) :
    ∀ e ∈ (broadcast s k v d prep).2, PushOK e := by
  refine foldl_events PushOK _ _ (fun acc cid hacc => ?_) _ (List.forall_mem_nil _)
  cases alookup cid acc.1.conns with
  | none => exact hacc
  | some c => exact List.forall_mem_append.2 ⟨hacc, writePub_pushOK cid c k v d prep⟩

theorem flipEpoch_pushOK (s : St) (ep : String) : ∀ e ∈ (flipEpoch s ep).2, PushOK e := by
  refine pushOK_ite (fun _ => List.forall_mem_nil _) fun _ => ?_
  refine foldl_events PushOK _ _ (fun acc cid hacc => ?_) _ (List.forall_mem_nil _)
  exact List.forall_mem_append.2 ⟨hacc, List.forall_mem_singleton.2 trivial⟩

theorem removeKey_pushOK (s : St) (k : Key) : ∀ e ∈ (removeKey s k).2, PushOK e := by
  refine foldl_events PushOK _ _ (fun acc cid hacc => ?_) _ (List.forall_mem_nil _)
  cases alookup cid acc.1.conns with
  | none => exact hacc
  | some c =>
    have h : ∀ e ∈ acc.2 ++ [Ev.removal cid k], PushOK e :=
      List.forall_mem_append.2 ⟨hacc, List.forall_mem_singleton.2 trivial⟩
    dsimp only
    cases alookup k c.keys <;> exact h

theorem applyResp_pushOK (s : St) (ep : String) (items : List Item) :
    ∀ e ∈ (applyResp s ep items).2, PushOK e := by
  unfold applyResp
  simp only
  refine List.forall_mem_append.2 ⟨List.forall_mem_append.2 ⟨?_, ?_⟩, ?_⟩
  · exact pushOK_ite (fun _ => List.forall_mem_nil _) fun _ => flipEpoch_pushOK _ _
  · exact foldl_events PushOK _ _
      (fun acc u hacc => List.forall_mem_append.2 ⟨hacc, broadcast_pushOK _ _ _ _ _⟩) _
      (List.forall_mem_nil _)
  · exact foldl_events PushOK _ _
      (fun acc k hacc => List.forall_mem_append.2 ⟨hacc, removeKey_pushOK _ _⟩) _
      (List.forall_mem_nil _)

/-- `track` answers with at most the cached item, never with a push. -/
theorem track_pushOK (s : St) (c : ConnId) (k : Key) (v : Nat) : ∀ e ∈ (track s c k v).2, PushOK e := by
  unfold track
  cases alookup c s.conns with
  | none => exact List.forall_mem_nil _
  | some cn =>
    refine pushOK_ite (fun _ => List.forall_mem_nil _) fun _ => ?_
    dsimp only
    split
    · exact List.forall_mem_singleton.2 trivial
    · exact List.forall_mem_nil _

theorem publish_pushOK (s : St) (k : Key) (v : Nat) (ep : String) (d : Data) :
    ∀ e ∈ (publish s k v ep d).2, PushOK e := by
  refine pushOK_ite (fun _ => List.forall_mem_nil _) fun _ => ?_
  dsimp only
  cases alookup k (flipEpoch s ep).1.entries with
  | none => exact flipEpoch_pushOK _ _
  | some entry =>
    exact pushOK_ite (fun _ => flipEpoch_pushOK _ _) fun _ =>
      List.forall_mem_append.2 ⟨flipEpoch_pushOK _ _, broadcast_pushOK _ _ _ _ _⟩

/-- up to the broadcast `publishStall` is `publish`; the parked broadcast itself emits nothing. -/
theorem publishStall_pushOK (s : St) (k : Key) (v : Nat) (ep : String) (d : Data) :
    ∀ e ∈ (publishStall s k v ep d).2, PushOK e := by
  refine pushOK_ite (fun _ => List.forall_mem_nil _) fun _ => ?_
  have hr := flipEpoch_pushOK s ep
  generalize flipEpoch s ep = r at hr ⊢
  dsimp only
  cases alookup k r.1.entries with
  | none => exact hr
  | some entry =>
    refine pushOK_ite (fun _ => hr) fun _ => ?_
    -- parked (one subscriber, tracking the key at an older version) or not: no further event
    generalize subscribersOf _ k = subs
    cases subs with
    | nil => exact hr
    | cons cid t =>
      cases t with
      | cons _ _ => exact hr
      | nil =>
        dsimp only
        cases alookup cid r.1.conns with
        | none => exact hr
        | some c =>
          dsimp only
          cases alookup k c.keys with
          | none => exact hr
          | some ks => exact pushOK_ite (fun _ => hr) fun _ => hr

end CentrifugeVerif.Keyed
