import CentrifugeVerif.Proofs.HandshakeKey
/-!
The decision chain of `Handshake.upgrade`, gone through once: an answer that is not a rejection has
passed every guard in front of it.
-/
namespace CentrifugeVerif.C31
open CentrifugeVerif.Sha1 (Bytes ascii be sha1)
open CentrifugeVerif.Base64
open CentrifugeVerif.Handshake

/-- what `Upgrade` demands of an HTTP/1.1 request (besides the origin check) -/
def H1Conditions (cfg : Config) (r : Request) : Prop :=
  cfg.disableHTTP1Upgrade = false ∧
  tokenListContains (r.values "Connection") (ascii "upgrade") = true ∧
  tokenListContains (r.values "Upgrade") (ascii "websocket") = true ∧
  r.method = ascii "GET" ∧
  tokenListContains (r.values "Sec-Websocket-Version") (ascii "13") = true ∧
  isValidChallengeKey (r.get "Sec-Websocket-Key") = .valid

def H2Conditions (r : Request) : Prop :=
  r.get ":protocol" = ascii "websocket" ∧ r.method = ascii "CONNECT" ∧
  tokenListContains (r.values "Sec-Websocket-Version") (ascii "13") = true

theorem reject_ite {c : Prop} [Decidable c] (status : Nat) (why : Reason) (k : Outcome) :
    (∃ s w, (if c then Outcome.reject status why else k) = .reject s w) ↔ c ∨ ∃ s w, k = .reject s w := by
  split <;> simp [*]

theorem upgrade_h1_accept (cfg : Config) (r : Request) (h1 : r.protoMajor = 1) (hc : H1Conditions cfg r)
    (ho : originOK cfg r = true) :
    upgrade cfg r = .acceptH1 (computeAcceptKey (r.get "Sec-Websocket-Key")) (selectSubprotocol cfg r)
      (negotiateCompression cfg r) := by
  obtain ⟨hd, hc, hu, hm, hv, hk⟩ := hc
  simp [upgrade, h1, hd, hc, hu, hm, hv, hk, ho]

theorem upgrade_h2_accept (cfg : Config) (r : Request) (h2 : r.protoMajor = 2) (hc : H2Conditions r)
    (ho : originOK cfg r = true) :
    upgrade cfg r = .acceptH2 (selectSubprotocol cfg r) (negotiateCompression cfg r) := by
  obtain ⟨hp, hm, hv⟩ := hc
  simp [upgrade, h2, hp, hm, hv, ho]

theorem upgrade_inv (cfg : Config) (r : Request) :
    (∃ status why, upgrade cfg r = .reject status why) ∨
    (r.protoMajor = 1 ∧ H1Conditions cfg r ∧ originOK cfg r = true ∧
      upgrade cfg r = .acceptH1 (computeAcceptKey (r.get "Sec-Websocket-Key")) (selectSubprotocol cfg r)
        (negotiateCompression cfg r)) ∨
    (r.protoMajor = 2 ∧ H2Conditions r ∧ originOK cfg r = true ∧
      upgrade cfg r = .acceptH2 (selectSubprotocol cfg r) (negotiateCompression cfg r)) := by
  by_cases hr : ∃ status why, upgrade cfg r = .reject status why
  · exact .inl hr
  refine .inr ?_
  unfold upgrade at hr
  by_cases h1 : r.protoMajor = 1
  · rw [if_pos h1] at hr
    simp only [reject_ite, not_or, Bool.not_eq_true', Bool.not_eq_false, Bool.not_eq_true, ne_eq,
      Decidable.not_not] at hr
    obtain ⟨hd, hc, hu, hm, hv, hk⟩ := hr
    cases hkey : isValidChallengeKey (r.get "Sec-Websocket-Key")
    case panic => exact absurd hkey (key_no_panic _)
    case invalid => exact absurd ⟨_, _, by rw [hkey]⟩ hk
    case valid =>
      simp only [hkey, reject_ite, not_or, Bool.not_eq_false] at hk
      exact .inl ⟨h1, ⟨hd, hc, hu, hm, hv, hkey⟩, hk.1, upgrade_h1_accept cfg r h1 ⟨hd, hc, hu, hm, hv, hkey⟩ hk.1⟩
  by_cases h2 : r.protoMajor = 2
  · rw [if_neg h1, if_pos h2] at hr
    simp only [reject_ite, not_or, Bool.not_eq_true', Bool.not_eq_false, ne_eq, Decidable.not_not] at hr
    obtain ⟨hp, hm, hv, ho, _⟩ := hr
    exact .inr ⟨h2, ⟨hp, hm, hv⟩, ho, upgrade_h2_accept cfg r h2 ⟨hp, hm, hv⟩ ho⟩
  · rw [if_neg h1, if_neg h2] at hr
    exact absurd ⟨_, _, rfl⟩ hr

/-- what an accepted HTTP/1.1 upgrade answers with -/
theorem upgrade_h1_result (cfg : Config) (r : Request) (k s : Bytes) (c : Bool)
    (h : upgrade cfg r = .acceptH1 k s c) :
    (H1Conditions cfg r ∧ originOK cfg r = true) ∧ k = computeAcceptKey (r.get "Sec-Websocket-Key") ∧
      s = selectSubprotocol cfg r ∧ c = negotiateCompression cfg r := by
  rcases upgrade_inv cfg r with ⟨_, _, e⟩ | ⟨_, hc, ho, e⟩ | ⟨_, _, _, e⟩ <;> rw [e] at h
  · cases h
  · injection h with hk hs hcomp
    exact ⟨⟨hc, ho⟩, hk.symm, hs.symm, hcomp.symm⟩
  · cases h

end CentrifugeVerif.C31
