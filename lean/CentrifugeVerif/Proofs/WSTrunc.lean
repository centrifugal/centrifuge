import CentrifugeVerif.Model.WS.Writer
/-! `truncWriter` passes on everything but the last four bytes of the stream, for every chunking. -/
namespace CentrifugeVerif.WS.Writer
open CentrifugeVerif.WS

theorem twWrite_spec (t : TW) (p : Bytes) (h : t.held.length ≤ 4) :
    (twWrite t p).2.flatten ++ (twWrite t p).1.held = t.held ++ p ∧
    (twWrite t p).1.held.length = min 4 (t.held.length + p.length) := by
  unfold twWrite
  simp only []
  generalize hk : (if t.held.length < 4 then min (4 - t.held.length) p.length else 0) = k
  have hkp : k ≤ p.length := by subst hk; split <;> omega
  split
  · -- early return: everything went into the buffer
    rename_i hc
    simp only [Bool.and_eq_true, decide_eq_true_eq, List.isEmpty_iff, List.drop_eq_nil_iff] at hc
    have hk2 : k = p.length := by omega
    simp only [List.flatten_nil, List.nil_append, List.length_append, List.length_take]
    subst hk2
    simp only [List.take_length, Nat.min_self, true_and]
    rw [if_pos hc.1] at hk
    omega
  · rename_i hc
    simp only [Bool.and_eq_true, decide_eq_true_eq, List.isEmpty_iff, List.drop_eq_nil_iff, not_and,
      Nat.not_le] at hc
    -- the buffer is full now
    have hfull : (t.held ++ p.take k).length = 4 := by
      simp only [List.length_append, List.length_take, Nat.min_eq_left hkp]
      by_cases h4 : t.held.length < 4
      · have := hc h4
        rw [if_pos h4] at hk
        omega
      · rw [if_neg h4] at hk
        omega
    generalize hheld : t.held ++ p.take k = held at hfull
    have hp : t.held ++ p = held ++ p.drop k := by
      rw [← hheld, List.append_assoc, List.take_append_drop]
    generalize hq : p.drop k = q at hp
    have hql : q.length + k = p.length := by rw [← hq]; simp; omega
    rw [hp]
    simp only [List.flatten_cons, List.flatten_nil, List.append_nil, List.length_append,
      List.length_drop]
    rcases Nat.lt_or_ge q.length 4 with hlt | hge
    · have hm : min q.length 4 = q.length := by omega
      rw [hm]
      simp only [Nat.sub_self, List.take_zero, List.append_nil, List.drop_zero]
      constructor
      · rw [← List.append_assoc, List.take_append_drop]
      · have : t.held.length + p.length ≥ 4 := by
          have := congrArg List.length hp
          simp only [List.length_append] at this
          omega
        omega
    · have hm : min q.length 4 = 4 := by omega
      rw [hm]
      have hd : held.drop 4 = [] := by simp [hfull]
      have ht : held.take 4 = held := by rw [List.take_of_length_le (by omega)]
      rw [hd, ht]
      simp only [List.nil_append]
      constructor
      · rw [List.append_assoc, List.take_append_drop]
      · have := congrArg List.length hp
        simp only [List.length_append] at this
        omega

theorem twWrites_spec : ∀ (cs : List Bytes) (t : TW), t.held.length ≤ 4 →
    (twWrites t cs).2.flatten ++ (twWrites t cs).1.held = t.held ++ cs.flatten ∧
    (twWrites t cs).1.held.length = min 4 (t.held.length + cs.flatten.length) := by
  intro cs
  induction cs with
  | nil => intro t h; simp [twWrites]; omega
  | cons p ps ih =>
    intro t h
    have h1 := twWrite_spec t p h
    have hl : (twWrite t p).1.held.length ≤ 4 := by rw [h1.2]; omega
    have h2 := ih (twWrite t p).1 hl
    simp only [twWrites, List.flatten_cons, List.flatten_append, List.length_append]
    constructor
    · rw [List.append_assoc, h2.1, ← List.append_assoc, h1.1, List.append_assoc]
    · rw [h2.2, h1.2]; omega

theorem twWrites_tail (chunks : List Bytes) (d tail : Bytes)
    (h : chunks.flatten = d ++ tail) (ht : tail.length = min 4 chunks.flatten.length) :
    (twWrites {} chunks).2.flatten = d ∧ (twWrites {} chunks).1.held = tail := by
  have hs := twWrites_spec chunks {} (by simp)
  simp only [List.length_nil, List.nil_append, Nat.zero_add] at hs
  rw [h] at hs
  exact List.append_inj' hs.1 (by rw [hs.2, ht, h])

end CentrifugeVerif.WS.Writer
