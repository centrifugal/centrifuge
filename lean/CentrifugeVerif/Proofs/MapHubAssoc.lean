import CentrifugeVerif.Model.MapHub
/-!
Lemmas about the association lists (`aget` / `aset` / `adel`) that model Go maps in `Model/MapHub.lean`.
-/
namespace CentrifugeVerif.MapHub

section Assoc
variable {κ ν μ : Type} [DecidableEq κ]

@[simp] theorem aget_nil (k : κ) : aget ([] : List (κ × ν)) k = none := rfl

theorem aget_aset (l : List (κ × ν)) (k k2 : κ) (v : ν) :
    aget (aset l k v) k2 = if k2 = k then some v else aget l k2 := by
  induction l with
  | nil => simp [aset, aget, eq_comm]
  | cons x t ih =>
    by_cases h2 : k2 = k
    · subst h2
      by_cases h : x.1 = k2 <;> simp [aset, aget, h, ih]
    · by_cases h : x.1 = k <;> simp [aset, aget, h, h2, Ne.symm h2, ih]

theorem aget_aset_same (l : List (κ × ν)) (k : κ) (v : ν) : aget (aset l k v) k = some v := by
  rw [aget_aset, if_pos rfl]

theorem aget_aset_ne (l : List (κ × ν)) (k k2 : κ) (v : ν) (hne : k2 ≠ k) :
    aget (aset l k v) k2 = aget l k2 := by
  rw [aget_aset, if_neg hne]

theorem aget_adel (l : List (κ × ν)) (k k2 : κ) :
    aget (adel l k) k2 = if k2 = k then none else aget l k2 := by
  induction l with
  | nil => simp [adel, aget]
  | cons x t ih =>
    by_cases h2 : k2 = k
    · subst h2
      by_cases h : x.1 = k2 <;> simp [adel, aget, h, ih]
    · by_cases h : x.1 = k <;> simp [adel, aget, h, h2, Ne.symm h2, ih]

theorem aget_adel_same (l : List (κ × ν)) (k : κ) : aget (adel l k) k = none := by
  rw [aget_adel, if_pos rfl]

theorem aget_adel_ne (l : List (κ × ν)) (k k2 : κ) (hne : k2 ≠ k) : aget (adel l k) k2 = aget l k2 := by
  rw [aget_adel, if_neg hne]

theorem aset_self (l : List (κ × ν)) (k : κ) (v : ν) (h : aget l k = some v) : aset l k v = l := by
  induction l with
  | nil => simp [aget] at h
  | cons x t ih =>
    obtain ⟨k', v'⟩ := x
    by_cases hk : k' = k <;> simp_all [aget, aset]

theorem adel_absent (l : List (κ × ν)) (k : κ) (h : aget l k = none) : adel l k = l := by
  induction l with
  | nil => rfl
  | cons x t ih =>
    obtain ⟨k', v'⟩ := x
    by_cases hk : k' = k <;> simp_all [aget, adel]

theorem mem_aset {l : List (κ × ν)} {k : κ} {v : ν} {x : κ × ν} (h : x ∈ aset l k v) : x ∈ l ∨ x = (k, v) := by
  induction l with
  | nil => exact Or.inr (List.mem_singleton.1 h)
  | cons y t ih =>
    obtain ⟨k', v'⟩ := y
    by_cases hk : k' = k
    · rw [aset, if_pos hk] at h
      exact (List.mem_cons.1 h).elim Or.inr (fun h => Or.inl (List.mem_cons_of_mem _ h))
    · rw [aset, if_neg hk] at h
      rcases List.mem_cons.1 h with h | h
      · exact Or.inl (h ▸ List.mem_cons_self)
      · exact (ih h).imp_left (List.mem_cons_of_mem _)

theorem mem_adel {l : List (κ × ν)} {k : κ} {x : κ × ν} (h : x ∈ adel l k) : x ∈ l := by
  induction l with
  | nil => exact h
  | cons y t ih =>
    obtain ⟨k', v'⟩ := y
    by_cases hk : k' = k
    · rw [adel, if_pos hk] at h; exact List.mem_cons_of_mem _ (ih h)
    · rw [adel, if_neg hk] at h
      exact (List.mem_cons.1 h).elim (fun h => h ▸ List.mem_cons_self) (fun h => List.mem_cons_of_mem _ (ih h))

/-- `aget` finds a binding that is in the list. -/
theorem aget_some_mem {l : List (κ × ν)} {k : κ} {v : ν} (h : aget l k = some v) : (k, v) ∈ l := by
  induction l with
  | nil => simp [aget] at h
  | cons x t ih =>
    obtain ⟨k', v'⟩ := x
    by_cases hk : k' = k <;> simp_all [aget]

theorem aget_none_iff {l : List (κ × ν)} {k : κ} : aget l k = none ↔ ∀ v, (k, v) ∉ l := by
  induction l with
  | nil => simp [aget]
  | cons x t ih =>
    obtain ⟨k', v'⟩ := x
    by_cases hk : k' = k
    · subst hk
      simp only [aget, if_true]
      exact ⟨nofun, fun h => absurd List.mem_cons_self (h v')⟩
    · simp [aget, hk, Ne.symm hk, ih]

theorem aget_map (f : ν → μ) (l : List (κ × ν)) (k : κ) :
    aget (l.map (fun kv => (kv.1, f kv.2))) k = (aget l k).map f := by
  induction l with
  | nil => rfl
  | cons x t ih =>
    obtain ⟨k', v'⟩ := x
    by_cases hk : k' = k <;> simp [aget, hk, ih]

theorem aset_map (f : ν → μ) (l : List (κ × ν)) (k : κ) (v : ν) :
    (aset l k v).map (fun kv => (kv.1, f kv.2)) = aset (l.map (fun kv => (kv.1, f kv.2))) k (f v) := by
  induction l with
  | nil => rfl
  | cons x t ih =>
    obtain ⟨k', v'⟩ := x
    by_cases hk : k' = k <;> simp [aset, hk, ih]

theorem adel_map (f : ν → μ) (l : List (κ × ν)) (k : κ) :
    (adel l k).map (fun kv => (kv.1, f kv.2)) = adel (l.map (fun kv => (kv.1, f kv.2))) k := by
  induction l with
  | nil => rfl
  | cons x t ih =>
    obtain ⟨k', v'⟩ := x
    by_cases hk : k' = k <;> simp [adel, hk, ih]

/-- keys of an association list -/
def akeys (l : List (κ × ν)) : List κ := l.map (·.1)

theorem mem_akeys {l : List (κ × ν)} {k : κ} : k ∈ akeys l ↔ aget l k ≠ none := by
  induction l with
  | nil => simp [akeys, aget]
  | cons x t ih =>
    obtain ⟨k', v'⟩ := x
    by_cases hk : k' = k
    · simp [akeys, aget, hk]
    · simpa [akeys, aget, hk, Ne.symm hk] using ih

theorem akeys_aset_nodup (l : List (κ × ν)) (k : κ) (v : ν) (h : (akeys l).Nodup) : (akeys (aset l k v)).Nodup := by
  induction l with
  | nil => simp [aset, akeys]
  | cons x t ih =>
    obtain ⟨k', v'⟩ := x
    rw [akeys, List.map_cons, List.nodup_cons] at h
    by_cases hk : k' = k
    · subst hk; simpa [aset, akeys] using h
    · have hm : k' ∉ akeys (aset t k v) := by
        rw [mem_akeys, aget_aset, if_neg hk, ← mem_akeys]; exact h.1
      simp only [aset, if_neg hk, akeys, List.map_cons, List.nodup_cons]
      exact ⟨hm, ih h.2⟩

theorem akeys_adel_nodup (l : List (κ × ν)) (k : κ) (h : (akeys l).Nodup) : (akeys (adel l k)).Nodup := by
  induction l with
  | nil => simp [adel, akeys]
  | cons y t ih =>
    obtain ⟨k2, v2⟩ := y
    rw [akeys, List.map_cons, List.nodup_cons] at h
    by_cases h2 : k2 = k
    · simpa [adel, h2] using ih h.2
    · have hm : k2 ∉ akeys (adel t k) := by
        rw [mem_akeys, aget_adel, if_neg h2, ← mem_akeys]; exact h.1
      simp only [adel, if_neg h2, akeys, List.map_cons, List.nodup_cons]
      exact ⟨hm, ih h.2⟩

end Assoc

end CentrifugeVerif.MapHub
