import CentrifugeVerif.Model.Medium
import CentrifugeVerif.Proofs.Live
/-! The medium's queue/coalescing transition system and the live step it feeds. -/
namespace CentrifugeVerif.Medium
open CentrifugeVerif.Live

def nInsuff : List Item → Nat
  | [] => 0
  | .insuff :: is => nInsuff is + 1
  | .pub _ :: is => nInsuff is

theorem nInsuff_append (a b : List Item) : nInsuff (a ++ b) = nInsuff a + nInsuff b := by
  induction a with
  | nil => simp [nInsuff]
  | cons x xs ih => cases x <;> simp [nInsuff, ih] <;> omega

theorem nInsuff_pos (l : List Item) : 0 < nInsuff l ↔ Item.insuff ∈ l := by
  induction l with
  | nil => simp [nInsuff]
  | cons x xs ih => cases x <;> simp [nInsuff, ih]

/-- read like `l.Sublist l'`: `l` is `l'` with some publications removed, e.g.
`Thinning [.insuff] [.pub p, .insuff]`; every insufficient-state marker is kept -/
def Thinning (l l' : List Item) : Prop := l.Sublist l' ∧ nInsuff l = nInsuff l'

theorem Thinning.refl (l : List Item) : Thinning l l := ⟨.refl l, rfl⟩

theorem Thinning.trans {a b c : List Item} (h1 : Thinning a b) (h2 : Thinning b c) : Thinning a c :=
  ⟨h1.1.trans h2.1, h1.2.trans h2.2⟩

theorem Thinning.append {a a' b b' : List Item} (h1 : Thinning a a') (h2 : Thinning b b') :
    Thinning (a ++ b) (a' ++ b') :=
  ⟨h1.1.append h2.1, by rw [nInsuff_append, nInsuff_append, h1.2, h2.2]⟩

theorem Thinning.drop_pub {l l' : List Item} (h : Thinning l l') (p : Pub) : Thinning l (.pub p :: l') :=
  ⟨h.1.cons _, h.2⟩

theorem coalesce_thinning (k : Nat) (p : Pub) (q : List Item) :
    Thinning ((coalesce k (.pub p) q).1 :: (coalesce k (.pub p) q).2) (.pub p :: q) := by
  induction k generalizing p q with
  | zero => exact .refl _
  | succ k ih =>
    match q with
    | [] => exact .refl _
    | .insuff :: q => exact (Thinning.refl _).drop_pub p
    | .pub p' :: q => exact (ih p' q).drop_pub p

def arrOf : Ev → List Item
  | .arrive i => [i]
  | .writer _ => []

theorem arrivals_cons (e : Ev) (es : List Ev) : arrivals (e :: es) = arrOf e ++ arrivals es := by
  cases e <;> rfl

theorem runEvs_cons (o : Opts) (q : List Item) (e : Ev) (es : List Ev) :
    runEvs o q (e :: es) =
      ((runEvs o (step o q e).1 es).1, (step o q e).2 ++ (runEvs o (step o q e).1 es).2) := rfl

/-- the queue is only used when the queue option is on -/
def QInv (o : Opts) (q : List Item) : Prop := o.queue = false → q = []

theorem step_qinv (o : Opts) (q : List Item) (e : Ev) (h : QInv o q) : QInv o (step o q e).1 := by
  intro hq
  cases h hq
  cases e <;> simp [step, hq]

theorem step_thinning (o : Opts) (q : List Item) (e : Ev) (h : QInv o q) :
    Thinning ((step o q e).2 ++ (step o q e).1) (q ++ arrOf e) := by
  cases e with
  | arrive i =>
    cases hq : o.queue
    · cases h hq
      simp only [step, hq]
      exact .refl _
    · cases i with
      | insuff => simp only [step, hq]; exact .refl _
      | pub p =>
        simp only [step, hq, if_true]
        split
        · exact ⟨List.sublist_append_left _ _, by simp [nInsuff_append, arrOf, nInsuff]⟩
        · exact .refl _
  | writer k =>
    rw [arrOf, List.append_nil]
    match q with
    | [] => exact .refl _
    | .insuff :: rest => simp only [step, ite_self]; exact .refl _
    | .pub p :: rest =>
      simp only [step]
      split
      · exact .refl _
      · exact coalesce_thinning k p rest

theorem runEvs_thinning (o : Opts) (q : List Item) (evs : List Ev) (h : QInv o q) :
    Thinning ((runEvs o q evs).2 ++ (runEvs o q evs).1) (q ++ arrivals evs) := by
  induction evs generalizing q with
  | nil => rw [arrivals, List.append_nil]; exact .refl _
  | cons e es ih =>
    have h1 := (step_thinning o q e h).append (.refl (arrivals es))
    have h2 := (Thinning.refl (step o q e).2).append (ih _ (step_qinv o q e h))
    rw [runEvs_cons, arrivals_cons]
    simp only [List.append_assoc] at h1 h2 ⊢
    exact h2.trans h1

theorem liveStep_no_insuff_ge (s : Sub) (i : Inc) (h : isInsufficient (liveStep s i).2 = false) :
    i.offset ≤ (liveStep s i).1.pos := by
  rcases liveStep_spec s i with ⟨_, hs⟩ | ⟨_, _, _, hs⟩ |
    ⟨_, _, ⟨_, hs⟩ | ⟨ho, hs⟩ | ⟨ho, _, hs⟩ | ⟨ho, _, hs⟩⟩ <;> rw [hs] at h ⊢
  -- the three insufficient outcomes contradict `h`
  · cases h
  · cases h
  · cases h
  · exact Nat.le_of_lt_succ ho
  · exact Nat.le_of_eq ho
  · exact Nat.le_of_eq ho

theorem run_no_insuff_ge (s : Sub) (incs : List Inc)
    (h : ∀ a ∈ (run s incs).2, isInsufficient a = false) :
    ∀ i ∈ incs, i.offset ≤ (run s incs).1.pos := by
  induction incs generalizing s with
  | nil => nofun
  | cons i is ih =>
    simp only [run_cons] at h ⊢
    intro j hj
    rcases List.mem_cons.mp hj with rfl | hj
    · obtain ⟨n, hn, _⟩ := run_contiguous (liveStep s j).1 is
      have := liveStep_no_insuff_ge s j (h _ List.mem_cons_self)
      omega
    · exact ih _ (fun a ha => h a (List.mem_cons_of_mem _ ha)) j hj

/-- positions stay clear of the sentinel -/
def Below (s : Sub) : Prop := s.pos + 1 < maxU64

instance (s : Sub) : Decidable (Below s) := by unfold Below; exact inferInstance

def ItemBelow : Item → Prop
  | .pub p => p.offset + 1 < maxU64
  | .insuff => True

theorem sentinel_insufficient (s : Sub) (h : Below s) :
    isInsufficient (liveStep s (toInc .insuff)).2 = true := by
  -- otherwise one step would have taken the position to the sentinel offset
  cases hi : isInsufficient (liveStep s (toInc .insuff)).2
  · have hge : maxU64 ≤ _ := liveStep_no_insuff_ge s _ hi
    unfold Below at h
    rcases liveStep_pos s (toInc .insuff) with ⟨hp, _⟩ | ⟨hp, _⟩ <;> omega
  · rfl

theorem liveStep_below (s : Sub) (it : Item) (hs : Below s) (hi : ItemBelow it) :
    Below (liveStep s (toInc it)).1 := by
  unfold Below at *
  rcases liveStep_pos s (toInc it) with ⟨hp, _⟩ | ⟨hp, ho, _⟩
  · omega
  · cases it with
    | insuff => exact absurd ho (Nat.ne_of_gt hs)
    | pub p => rw [hp, ← ho]; exact hi

theorem positioned_sentinel (s : Sub) (bc : List Item) (hs : Below s) (hb : ∀ it ∈ bc, ItemBelow it)
    (hm : Item.insuff ∈ bc) : ∃ a ∈ (positioned s bc).2, isInsufficient a = true := by
  induction bc generalizing s with
  | nil => cases hm
  | cons it rest ih =>
    simp only [positioned, List.map_cons, run_cons, List.mem_cons]
    rcases List.mem_cons.mp hm with rfl | h
    · exact ⟨_, .inl rfl, sentinel_insufficient s hs⟩
    · obtain ⟨a, ha, hia⟩ := ih _ (liveStep_below s it hs (hb it List.mem_cons_self))
        (fun x hx => hb x (List.mem_cons_of_mem _ hx)) h
      exact ⟨a, .inr ha, hia⟩

end CentrifugeVerif.Medium
