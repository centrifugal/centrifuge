import CentrifugeVerif.Model.PresenceProto
/-!
Invariant proof for C06 (b) (`Model/PresenceProto.lean`) under the quiet-resubscribe assumption.
The invariant matches on the program counter in each thread slot, so on a destructured state it
and `next` compute: `cases h` closes the cases with the label disabled and substitutes `s'`.
-/
namespace CentrifugeVerif.PresenceProto

/-- `SOk`, `UOk`, `TOk`: what the subscribe attempt, an unsubscribe (free or inside `close`) and the presence
tick may rely on at their program counter -/
def SOk (chan : Option (Nat × Bool)) (closed present : Bool) : Option SThread → Prop
  | none => ∀ g, chan ≠ some (g, false)
  | some ⟨.rollback, _⟩ => chan = none ∧ closed = true
  | some ⟨.toCommit, g⟩ => chan = some (g, false) ∧ present = true
  | some ⟨_, g⟩ => chan = some (g, false)

def UOk (S : Option SThread) (chan : Option (Nat × Bool)) : Option Unsub → Prop
  | some ⟨.toRemove, _, ctx⟩ => S = none ∧ ctx = true
  | some ⟨.toPresence, _, _⟩ => S = none ∧ chan = none
  | _ => True

def cUnsub : Option CPc → Option Unsub
  | some (.locked u) => u
  | _ => none

def TOk (S : Option SThread) (chan : Option (Nat × Bool)) : Option TThread → Prop
  | none => True
  | some ⟨.toAdd, item, _⟩ => item = true ∧ S = none
  | some ⟨.toRemove, item, added⟩ => item = true ∧ S = none ∧ added = true ∧ chan = none
  | some ⟨_, item, added⟩ => if item then S = none else added = false

/-- `sRem`, `uRem`, `tRem`: the thread will still remove the presence entry -/
def sRem : Option SThread → Prop
  | some ⟨.toCommit, _⟩ | some ⟨.rollback, _⟩ => True
  | _ => False

def uRem : Option Unsub → Prop
  | some ⟨.toPresence, _, _⟩ => True
  | _ => False

def tRem : Option TThread → Prop
  | some ⟨.toRemove, _, _⟩ | some ⟨.compensate, _, true⟩ => True
  | _ => False

structure Inv (s : State) : Prop where
  sOk : SOk s.chan s.closed s.present s.S
  uOk : UOk s.S s.chan s.U
  cOk : UOk s.S s.chan (cUnsub s.C)
  cClosed : s.C.isSome = true → s.closed = true
  tOk : TOk s.S s.chan s.T
  present_of_sub : ∀ g, s.chan = some (g, true) → s.present = true
  /-- one premise per thread, so that a step passes on those of the threads it leaves alone -/
  absent : (∀ g, s.chan ≠ some (g, true)) → ¬ sRem s.S → ¬ uRem s.U → ¬ uRem (cUnsub s.C) →
    ¬ tRem s.T → s.present = false

variable {cfg : Cfg} {s s' : State} {chan chan' : Option (Nat × Bool)} {closed present : Bool}
  {S S' : Option SThread} {U : Option Unsub} {T : Option TThread} {t : SThread} {g : Nat}

theorem SOk.idle_of_sub (h : SOk (some (g, true)) closed present S) : S = none := by
  rcases S with _ | ⟨_ | _ | _ | _, _⟩
  · rfl
  · cases h
  · cases h
  · cases h.1
  · cases h.1

theorem SOk.closed_true (h : SOk chan closed present S) : SOk chan true present S := by
  rcases S with _ | ⟨_ | _ | _ | _, _⟩
  case some.rollback => exact ⟨h.1, rfl⟩
  all_goals exact h

theorem UOk.busy (h : UOk (some t) chan U) : UOk S' chan' U := by
  rcases U with _ | ⟨_ | _ | _, _, _⟩
  · trivial
  · trivial
  · cases h.1
  · cases h.1

theorem UOk.chan_none (h : UOk S chan U) : UOk S none U := by
  rcases U with _ | ⟨_ | _ | _, _, _⟩
  · trivial
  · trivial
  · exact h
  · exact ⟨h.1, rfl⟩

theorem TOk.busy (h : TOk (some t) chan T) : TOk S' chan' T := by
  rcases T with _ | ⟨_ | _ | _ | _, _ | _, _⟩
  case none | some.alive.false | some.compensate.false => exact h
  case some.alive.true | some.compensate.true => cases h
  case some.toAdd.false | some.toRemove.false => cases h.1
  case some.toAdd.true => cases h.2
  case some.toRemove.true => cases h.2.1

theorem TOk.chan_none (h : TOk S chan T) : TOk S none T := by
  rcases T with _ | ⟨_ | _ | _ | _, _, _⟩
  case some.toRemove => exact ⟨h.1, h.2.1, h.2.2.1, rfl⟩
  all_goals exact h

theorem unsubSnap_ok (hs : SOk s.chan s.closed s.present s.S) : UOk s.S s.chan (unsubSnap s) := by
  obtain ⟨chan, _, _, _, _, _, S, _, _, _⟩ := s
  rcases chan with _ | ⟨g, _ | _⟩
  · trivial
  · trivial
  · exact ⟨hs.idle_of_sub, rfl⟩

theorem unsubWake_ok {u : Unsub} (hs : SOk s.chan s.closed s.present s.S) (hS : s.S = none) :
    UOk s.S s.chan (unsubWake s u) := by
  obtain ⟨chan, _, _, _, _, _, S, _, _, _⟩ := s
  cases hS
  rcases chan with _ | ⟨g, _ | _⟩
  · trivial
  · cases hs g rfl
  · exact ⟨rfl, rfl⟩

theorem settled_iff : Settled s = true ↔
    s.S = none ∧ s.U = none ∧ s.T = none ∧ (s.C = none ∨ s.C = some .done) := by
  simp only [Settled, Bool.and_eq_true, Bool.or_eq_true, Option.isNone_iff_eq_none, beq_iff_eq,
    and_assoc]

theorem inv_init : Inv State.init :=
  ⟨nofun, trivial, trivial, nofun, trivial, nofun, fun _ _ _ _ _ => rfl⟩

/-- the one use of the assumption: no thread is left that could have added presence -/
theorem inv_sSpawn (hq : cfg.quietResub = true) (hi : Inv s) (h : next cfg s .sSpawn = some s') :
    Inv s' := by
  obtain ⟨chan, closed, _, present, _, _, S, U, C, T⟩ := s
  simp only [next, hq, Option.ite_none_right_eq_some, Option.some.injEq, Bool.and_eq_true,
    Option.isNone_iff_eq_none, Bool.not_eq_true', Bool.not_true, Bool.false_or] at h
  obtain ⟨⟨⟨⟨rfl, rfl⟩, rfl⟩, rfl, rfl⟩, rfl⟩ := h
  rcases C with _ | _
  · cases hi.absent nofun id id id id
    exact ⟨rfl, trivial, trivial, nofun, trivial, nofun, fun _ _ _ _ _ => rfl⟩
  · cases hi.cClosed rfl

theorem Inv.sStep {closing : Bool} {mu : Option Holder} {n : Nat} {C : Option CPc} {present' : Bool}
    (hi : Inv ⟨chan, closed, closing, present, mu, n, some t, U, C, T⟩)
    (sOk : SOk chan' closed present' S') (sub : ∀ g, chan' = some (g, true) → present' = true)
    (absent : (∀ g, chan' ≠ some (g, true)) → ¬ sRem S' → ¬ uRem U → ¬ uRem (cUnsub C) → ¬ tRem T →
      present' = false) :
    Inv ⟨chan', closed, closing, present', mu, n, S', U, C, T⟩ :=
  ⟨sOk, hi.uOk.busy, hi.cOk.busy, hi.cClosed, hi.tOk.busy, sub, absent⟩

theorem inv_sFail (hi : Inv s) (h : next cfg s .sFail = some s') : Inv s' := by
  obtain ⟨chan, closed, _, present, _, _, S, U, C, T⟩ := s
  rcases S with _ | ⟨_ | _ | _ | _, g⟩ <;> cases h
  cases hi.sOk
  simp only [↓reduceIte]
  exact hi.sStep nofun nofun fun _ _ => hi.absent nofun id

theorem inv_sCheck (hi : Inv s) (h : next cfg s .sCheck = some s') : Inv s' := by
  obtain ⟨chan, closed, _, present, _, _, S, U, C, T⟩ := s
  rcases S with _ | ⟨_ | _ | _ | _, g⟩ <;> try cases h
  cases hi.sOk
  simp only [next, ↓reduceIte, decide_true, Bool.true_and] at h
  cases closed <;> cases h
  · exact hi.sStep rfl hi.present_of_sub hi.absent
  · exact hi.sStep nofun nofun fun _ _ => hi.absent nofun id

theorem inv_sAdd (hi : Inv s) (h : next cfg s .sAdd = some s') : Inv s' := by
  obtain ⟨chan, closed, _, present, _, _, S, U, C, T⟩ := s
  rcases S with _ | ⟨_ | _ | _ | _, g⟩ <;> cases h
  exact hi.sStep ⟨hi.sOk, rfl⟩ (fun _ _ => rfl) fun _ h => absurd trivial h

theorem inv_sFailLate (hi : Inv s) (h : next cfg s .sFailLate = some s') : Inv s' := by
  obtain ⟨chan, closed, _, present, _, _, S, U, C, T⟩ := s
  rcases S with _ | ⟨_ | _ | _ | _, g⟩ <;> cases h
  cases hi.sOk.1
  simp only [↓reduceIte]
  exact hi.sStep nofun nofun fun _ _ _ _ _ => rfl

theorem inv_sCommit (hi : Inv s) (h : next cfg s .sCommit = some s') : Inv s' := by
  obtain ⟨chan, closed, _, present, _, _, S, U, C, T⟩ := s
  rcases S with _ | ⟨_ | _ | _ | _, g⟩ <;> try cases h
  obtain ⟨rfl, rfl⟩ := hi.sOk
  simp only [next, ↓reduceIte] at h
  cases closed <;> cases h
  · exact hi.sStep nofun (fun _ _ => rfl) fun h => absurd rfl (h g)
  · exact hi.sStep ⟨rfl, rfl⟩ nofun fun _ h => absurd trivial h

theorem inv_sRollback (hi : Inv s) (h : next cfg s .sRollback = some s') : Inv s' := by
  obtain ⟨chan, closed, _, present, _, _, S, U, C, T⟩ := s
  rcases S with _ | ⟨_ | _ | _ | _, g⟩ <;> cases h
  cases hi.sOk.1
  exact hi.sStep nofun nofun fun _ _ _ _ _ => rfl

theorem inv_uSpawn (hi : Inv s) (h : next cfg s .uSpawn = some s') : Inv s' := by
  obtain ⟨chan, closed, _, present, _, _, S, U, C, T⟩ := s
  rcases U with _ | _ <;> cases closed <;> cases h
  exact { hi with uOk := unsubSnap_ok hi.sOk, absent := fun hc hs _ => hi.absent hc hs id }

theorem inv_uWake (hi : Inv s) (h : next cfg s .uWake = some s') : Inv s' := by
  obtain ⟨chan, closed, _, present, _, _, S, U, C, T⟩ := s
  rcases U with _ | ⟨_ | _ | _, tg, ctx⟩ <;> rcases S with _ | _ <;> cases h
  exact { hi with uOk := unsubWake_ok hi.sOk rfl, absent := fun hc hs _ => hi.absent hc hs id }

theorem inv_uRemove (hi : Inv s) (h : next cfg s .uRemove = some s') : Inv s' := by
  obtain ⟨chan, closed, _, present, _, _, S, U, C, T⟩ := s
  rcases U with _ | ⟨_ | _ | _, tg, ctx⟩ <;> cases h
  obtain ⟨rfl, rfl⟩ := hi.uOk
  rcases chan with _ | ⟨g, b⟩
  · exact { hi with uOk := trivial }
  · by_cases hg : g = tg <;> simp only [unsubRemove, hg, ↓reduceIte]
    · exact ⟨nofun, ⟨rfl, rfl⟩, hi.cOk.chan_none, hi.cClosed, hi.tOk.chan_none, nofun,
        fun _ _ h => absurd trivial h⟩
    · exact { hi with uOk := trivial }

theorem inv_uPresence (hi : Inv s) (h : next cfg s .uPresence = some s') : Inv s' := by
  obtain ⟨chan, closed, _, present, _, _, S, U, C, T⟩ := s
  rcases U with _ | ⟨_ | _ | _, tg, ctx⟩ <;> cases h
  obtain ⟨rfl, rfl⟩ := hi.uOk
  exact { hi with uOk := trivial, present_of_sub := nofun, absent := fun _ _ _ _ _ => rfl }

theorem inv_cMark (hi : Inv s) (h : next cfg s .cMark = some s') : Inv s' := by
  obtain ⟨chan, closed, _, present, _, _, S, U, C, T⟩ := s
  rcases C with _ | _ <;> cases closed <;> cases h
  exact { hi with sOk := hi.sOk.closed_true, cClosed := fun _ => rfl }

theorem inv_cLock (hi : Inv s) (h : next cfg s .cLock = some s') : Inv s' := by
  obtain ⟨chan, closed, _, present, mu, _, S, U, C, T⟩ := s
  rcases C with _ | ⟨(_ | _) | _ | _⟩ <;> rcases mu with _ | _ <;> cases h
  all_goals exact { hi with }

theorem inv_cSnap (hi : Inv s) (h : next cfg s .cSnap = some s') : Inv s' := by
  obtain ⟨chan, closed, _, present, _, _, S, U, C, T⟩ := s
  rcases C with _ | ⟨_ | ⟨_ | _⟩ | _⟩ <;> rcases chan with _ | ⟨g, b⟩ <;> cases h
  · exact { hi with }
  · exact { hi with cOk := unsubSnap_ok hi.sOk, absent := fun hc hs hu _ => hi.absent hc hs hu id }

theorem inv_cWake (hi : Inv s) (h : next cfg s .cWake = some s') : Inv s' := by
  obtain ⟨chan, closed, _, present, _, _, S, U, C, T⟩ := s
  rcases C with _ | ⟨_ | ⟨_ | ⟨_ | _ | _, tg, ctx⟩⟩ | _⟩ <;> rcases S with _ | _ <;>
    rcases chan with _ | ⟨g, b⟩ <;> cases h
  · exact { hi with }
  · exact { hi with
      cOk := unsubWake_ok hi.sOk rfl, absent := fun hc hs hu _ => hi.absent hc hs hu id }

theorem inv_cRemove (hi : Inv s) (h : next cfg s .cRemove = some s') : Inv s' := by
  obtain ⟨chan, closed, _, present, _, _, S, U, C, T⟩ := s
  rcases C with _ | ⟨_ | ⟨_ | ⟨_ | _ | _, tg, ctx⟩⟩ | _⟩ <;> try cases h
  obtain ⟨rfl, rfl⟩ := hi.cOk
  rcases chan with _ | ⟨g, b⟩
  · cases h
    exact { hi with cOk := trivial }
  · by_cases hg : g = tg <;> simp only [next, unsubRemove, hg, ↓reduceIte] at h <;> cases h
    · exact ⟨nofun, hi.uOk.chan_none, ⟨rfl, rfl⟩, hi.cClosed, hi.tOk.chan_none, nofun,
        fun _ _ _ h => absurd trivial h⟩
    · exact { hi with cOk := trivial }

theorem inv_cPresence (hi : Inv s) (h : next cfg s .cPresence = some s') : Inv s' := by
  obtain ⟨chan, closed, _, present, _, _, S, U, C, T⟩ := s
  rcases C with _ | ⟨_ | ⟨_ | ⟨_ | _ | _, tg, ctx⟩⟩ | _⟩ <;> cases h
  obtain ⟨rfl, rfl⟩ := hi.cOk
  exact { hi with cOk := trivial, present_of_sub := nofun, absent := fun _ _ _ _ _ => rfl }

theorem inv_tStart (hi : Inv s) (h : next cfg s .tStart = some s') : Inv s' := by
  obtain ⟨chan, closed, _, present, mu, _, S, U, C, T⟩ := s
  rcases T with _ | _ <;> rcases mu with _ | _ <;> cases closed <;> cases h
  · rcases chan with _ | ⟨g, _ | _⟩
    · exact { hi with tOk := rfl }
    · exact { hi with tOk := rfl }
    · exact { hi with tOk := hi.sOk.idle_of_sub }
  · exact hi

theorem inv_tCheck (hi : Inv s) (h : next cfg s .tCheck = some s') : Inv s' := by
  obtain ⟨chan, closed, _, present, _, _, S, U, C, T⟩ := s
  rcases T with _ | ⟨_ | _ | _ | _, item, added⟩ <;> try cases h
  simp only [next, ↓reduceIte] at h
  split at h <;> cases h
  next hc =>
    simp only [Bool.and_eq_true] at hc
    cases hc.1.2
    exact { hi with tOk := ⟨rfl, hi.tOk⟩ }
  next => exact { hi with absent := fun hc hs hu hc' _ => hi.absent hc hs hu hc' id }

theorem inv_tAdd (hi : Inv s) (h : next cfg s .tAdd = some s') : Inv s' := by
  obtain ⟨chan, closed, _, present, _, _, S, U, C, T⟩ := s
  rcases T with _ | ⟨_ | _ | _ | _, item, added⟩ <;> cases h
  obtain ⟨rfl, rfl⟩ := hi.tOk
  exact { hi with
    tOk := rfl, present_of_sub := fun _ _ => rfl, absent := fun _ _ _ _ h => absurd trivial h }

/-- skipping the compensating remove is right because the entry in `c.channels` is subscribed: a
reservation would need a subscribe attempt in flight, which the tick's snapshot excludes -/
theorem inv_tCompensate (hi : Inv s) (h : next cfg s .tCompensate = some s') : Inv s' := by
  obtain ⟨chan, closed, _, present, _, _, S, U, C, T⟩ := s
  rcases T with _ | ⟨_ | _ | _ | _, item, _ | _⟩ <;> try cases h
  · exact { hi with tOk := trivial }
  · cases item
    · cases hi.tOk
    · cases hi.tOk
      rcases chan with _ | ⟨g, _ | _⟩ <;> cases h
      · exact { hi with tOk := ⟨rfl, rfl, rfl, rfl⟩ }
      · cases hi.sOk g rfl
      · exact { hi with tOk := trivial, absent := fun h => absurd rfl (h g) }

theorem inv_tRemove (hi : Inv s) (h : next cfg s .tRemove = some s') : Inv s' := by
  obtain ⟨chan, closed, _, present, _, _, S, U, C, T⟩ := s
  rcases T with _ | ⟨_ | _ | _ | _, item, added⟩ <;> cases h
  obtain ⟨rfl, rfl, rfl, rfl⟩ := hi.tOk
  exact { hi with tOk := trivial, present_of_sub := nofun, absent := fun _ _ _ _ _ => rfl }

theorem inv_next (hq : cfg.quietResub = true) (hi : Inv s) (l : Label)
    (h : next cfg s l = some s') : Inv s' := by
  cases l with
  | sSpawn => exact inv_sSpawn hq hi h
  | sFail => exact inv_sFail hi h
  | sCheck => exact inv_sCheck hi h
  | sAdd => exact inv_sAdd hi h
  | sFailLate => exact inv_sFailLate hi h
  | sCommit => exact inv_sCommit hi h
  | sRollback => exact inv_sRollback hi h
  | uSpawn => exact inv_uSpawn hi h
  | uWake => exact inv_uWake hi h
  | uRemove => exact inv_uRemove hi h
  | uPresence => exact inv_uPresence hi h
  | cMark => exact inv_cMark hi h
  | cLock => exact inv_cLock hi h
  | cSnap => exact inv_cSnap hi h
  | cWake => exact inv_cWake hi h
  | cRemove => exact inv_cRemove hi h
  | cPresence => exact inv_cPresence hi h
  | tStart => exact inv_tStart hi h
  | tCheck => exact inv_tCheck hi h
  | tAdd => exact inv_tAdd hi h
  | tCompensate => exact inv_tCompensate hi h
  | tRemove => exact inv_tRemove hi h

theorem inv_run (hq : cfg.quietResub = true) (ls : List Label) (hi : Inv s)
    (h : run cfg s ls = some s') : Inv s' := by
  induction ls generalizing s with
  | nil => cases h; exact hi
  | cons l r ih =>
    obtain ⟨s1, hn, h⟩ := Option.bind_eq_some_iff.mp h
    exact ih (inv_next hq hi l hn) h

theorem inv_reachable (hq : cfg.quietResub = true) (hr : Reachable cfg s) : Inv s := by
  obtain ⟨ls, h⟩ := hr
  exact inv_run hq ls inv_init h

end CentrifugeVerif.PresenceProto
