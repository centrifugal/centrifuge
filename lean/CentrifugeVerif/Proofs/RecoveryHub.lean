import CentrifugeVerif.Proofs.Recovery
/-!
`RStream.Inv` is an invariant of the hub mini-model (`Model/RecoveryHub.lean`): every operation the
harness drives through the real `MemoryBroker` — publish (any size / TTL), `RemoveHistory`, the two
sweepers (history TTL expiry = clear, meta TTL expiry = delete), and a subscribe with its `History`
accesses and cache-empty handler publishes — preserves it, as long as fewer than `2^64 - 2`
publications were made in total (`nextId` counts them).
-/
namespace CentrifugeVerif.Recovery
open CentrifugeVerif.Merge

/-- hub invariant: the stream (if any) satisfies `RStream.Inv`, its top is below the publication
counter, fresh epochs are non-zero -/
def Hub.HInv (h : Hub) : Prop :=
  0 < h.nextEpoch ∧ 0 < h.nextId ∧ ∀ s, h.stream = some s → s.Inv ∧ s.top < h.nextId

/-- the operations the harness performs -/
inductive HubOp
  | publish (tag size ttl : Nat)
  | remove
  | tick
  | subscribe (sp : SubParams)

def Hub.step (h : Hub) : HubOp → Hub
  | .publish tag size ttl => (h.publish tag size ttl 0).1
  | .remove => h.remove
  | .tick => h.tick
  | .subscribe sp => (h.subscribe sp).hub

def Hub.run (h : Hub) (ops : List HubOp) : Hub := ops.foldl Hub.step h

theorem hinv_init (now m l : Nat) : Hub.HInv { now := now, cfgMeta := m, cfgLimit := l } :=
  ⟨Nat.one_pos, Nat.one_pos, by intro s hs; cases hs⟩

/-- `g` is `h` up to deadline bookkeeping, with the stream possibly cleared or deleted -/
def Hub.Framed (h g : Hub) : Prop :=
  g.nextEpoch = h.nextEpoch ∧ g.nextId = h.nextId ∧
    (g.stream = h.stream ∨ g.stream = h.stream.map RStream.clear ∨ g.stream = none)

theorem Hub.HInv.frame {h g : Hub} (hi : h.HInv) (hf : h.Framed g) : g.HInv := by
  obtain ⟨he, hn, hs⟩ := hf
  refine ⟨he ▸ hi.1, hn ▸ hi.2.1, fun s hgs => ?_⟩
  rw [hn]
  rcases hs with hs | hs | hs <;> rw [hs] at hgs
  · exact hi.2.2 s hgs
  · obtain ⟨s0, hs0, rfl⟩ := Option.map_eq_some_iff.mp hgs
    exact ⟨inv_clear (hi.2.2 s0 hs0).1, (hi.2.2 s0 hs0).2⟩
  · cases hgs

theorem touchMeta_framed (h : Hub) (m : Nat) : h.Framed (h.touchMeta m) := by
  unfold Hub.touchMeta
  simp only
  split <;> split <;> exact ⟨rfl, rfl, Or.inl rfl⟩

theorem access_nextId (h : Hub) (m : Nat) : (h.access m).1.nextId = h.nextId := by
  unfold Hub.access
  simp only
  split <;> exact (touchMeta_framed h m).2.1

theorem hinv_access {h : Hub} (hi : h.HInv) (m : Nat) :
    (h.access m).1.HInv ∧ (h.access m).2.Inv ∧ (h.access m).1.stream = some (h.access m).2 := by
  have ht := hi.frame (touchMeta_framed h m)
  unfold Hub.access
  simp only
  split
  · next s hs => exact ⟨ht, (ht.2.2 s hs).1, hs⟩
  · refine ⟨⟨Nat.succ_pos _, ht.2.1, fun s hs => ?_⟩, inv_new _ ht.1, rfl⟩
    cases hs
    exact ⟨inv_new _ ht.1, ht.2.1⟩

/-- `add` looks the stream up (creating it when absent) exactly as an access does -/
theorem publish_eq (h : Hub) (tag size ttl m : Nat) :
    ∃ g : Hub, g.stream = h.stream ∧ g.nextEpoch = h.nextEpoch ∧ g.nextId = h.nextId ∧
      (h.publish tag size ttl m).1 =
        { (g.access m).1 with
          stream := some ((g.access m).2.add tag (g.access m).1.nextId size)
          nextId := (g.access m).1.nextId + 1 } := by
  refine ⟨{ h with
    expItem := if h.expires.isNone then some (h.now + ttl) else h.expItem
    expires := some (h.now + ttl)
    nextExp := if h.nextExp = 0 ∨ h.nextExp > h.now + ttl then h.now + ttl else h.nextExp }, rfl, rfl, rfl, ?_⟩
  unfold Hub.publish Hub.access
  simp only
  split <;> rfl

/-- `g` comes after `h`: the publication counter has not gone down, and the invariant carries over
while the counter is below `2^64 - 1` — asked of the later state only, so once at the end of a run -/
def Hub.Keeps (h g : Hub) : Prop :=
  h.nextId ≤ g.nextId ∧ (h.HInv → g.nextId + 1 < U64 → g.HInv)

theorem Hub.Keeps.refl (h : Hub) : h.Keeps h := ⟨Nat.le_refl _, fun hi _ => hi⟩

theorem Hub.Keeps.trans {h g k : Hub} (h1 : h.Keeps g) (h2 : g.Keeps k) : h.Keeps k :=
  ⟨Nat.le_trans h1.1 h2.1, fun hi hb =>
    h2.2 (h1.2 hi (Nat.lt_of_le_of_lt (Nat.succ_le_succ h2.1) hb)) hb⟩

theorem Hub.Framed.keeps {h g : Hub} (hf : h.Framed g) : h.Keeps g :=
  ⟨Nat.le_of_eq hf.2.1.symm, fun hi _ => hi.frame hf⟩

theorem access_keeps (h : Hub) (m : Nat) : h.Keeps (h.access m).1 :=
  ⟨Nat.le_of_eq (access_nextId h m).symm, fun hi _ => (hinv_access hi m).1⟩

theorem publish_keeps (h : Hub) (tag size ttl m : Nat) : h.Keeps (h.publish tag size ttl m).1 := by
  obtain ⟨g, hgs, hge, hn, he⟩ := publish_eq h tag size ttl m
  have hid : (h.publish tag size ttl m).1.nextId = h.nextId + 1 := by
    rw [he, ← hn, ← access_nextId g m]
  refine ⟨hid ▸ Nat.le_succ _, fun hi hb => ?_⟩
  obtain ⟨ha, hs, hst⟩ := hinv_access (hi.frame ⟨hge, hn, Or.inl hgs⟩) m
  have hlt := (ha.2.2 _ hst).2
  rw [he]
  refine ⟨ha.1, Nat.succ_pos _, fun s' hs' => ?_⟩
  cases hs'
  rw [access_nextId, hn] at hlt
  exact ⟨inv_add hs (by omega) _ _ _, by rw [add_top hs]; exact Nat.succ_lt_succ (ha.2.2 _ hst).2⟩

/-- every leaf of the nested `if`/`match` is `h` with some fields replaced -/
theorem sweepExpire_framed (h : Hub) (t : Nat) : h.Framed (h.sweepExpire t) := by
  unfold Hub.sweepExpire
  repeat' split
  all_goals first | exact ⟨rfl, rfl, Or.inl rfl⟩ | exact ⟨rfl, rfl, Or.inr (Or.inl rfl)⟩

theorem sweepRemove_framed (h : Hub) (t : Nat) : h.Framed (h.sweepRemove t) := by
  unfold Hub.sweepRemove
  repeat' split
  all_goals first | exact ⟨rfl, rfl, Or.inl rfl⟩ | exact ⟨rfl, rfl, Or.inr (Or.inr rfl)⟩

theorem tick_keeps (h : Hub) : h.Keeps h.tick :=
  (Hub.Framed.keeps (g := { h with now := h.now + 1 }) ⟨rfl, rfl, Or.inl rfl⟩).trans
    ((sweepExpire_framed _ _).keeps.trans (sweepRemove_framed _ _).keeps)

theorem handlerPubs_keeps (h : Hub) (pass : Pub → Bool) (pubs : List (Nat × Nat × Nat)) :
    h.Keeps (h.handlerPubs pass pubs).1 := by
  induction pubs generalizing h with
  | nil => exact .refl h
  | cons x xs ih => exact (publish_keeps h x.1 x.2.1 x.2.2 0).trans (ih _)

theorem windowEvents_keeps (h : Hub) (s1 : RStream) (pass : Pub → Bool) (xs : List WEvent) :
    h.Keeps (h.windowEvents s1 pass xs).1 := by
  induction xs generalizing h with
  | nil => exact .refl h
  | cons x xs ih =>
    cases x with
    | pub tag size ttl => exact (publish_keeps h tag size ttl 0).trans (ih _)
    | stale k =>
      simp only [Hub.windowEvents]
      split <;> exact ih h

theorem subscribe_keeps (h : Hub) (sp : SubParams) : h.Keeps (h.subscribe sp).hub := by
  refine (access_keeps h 0).trans ?_
  unfold Hub.subscribe
  simp only
  split
  · split <;> exact windowEvents_keeps _ _ _ _
  · split
    · exact .refl _
    · split
      · exact (handlerPubs_keeps _ _ _).trans (access_keeps _ 0)
      · exact .refl _

theorem step_keeps (h : Hub) (op : HubOp) : h.Keeps (h.step op) := by
  cases op with
  | publish tag size ttl => exact publish_keeps h tag size ttl 0
  | remove => exact Hub.Framed.keeps ⟨rfl, rfl, Or.inr (Or.inl rfl)⟩
  | tick => exact tick_keeps h
  | subscribe sp => exact subscribe_keeps h sp

theorem run_keeps (h : Hub) (ops : List HubOp) : h.Keeps (h.run ops) := by
  induction ops generalizing h with
  | nil => exact .refl h
  | cons op rest ih => exact (step_keeps h op).trans (ih _)

/-- every reachable hub state satisfies the invariant -/
theorem hinv_run (ops : List HubOp) {h : Hub} (hi : h.HInv) (hb : (h.run ops).nextId + 1 < U64) :
    (h.run ops).HInv :=
  (run_keeps h ops).2 hi hb

theorem subscribe_stream_out (h : Hub) (sp : SubParams) (hm : sp.cacheMode = false) (hr : sp.recover = true) :
    (h.subscribe sp).out = streamSubscribe h.cfgLimit (h.access 0).2 sp.req sp.filt.pass
      ((h.access 0).1.windowEvents (h.access 0).2 sp.filt.pass sp.window).2.1 := by
  unfold Hub.subscribe
  simp [hm, hr]

end CentrifugeVerif.Recovery
