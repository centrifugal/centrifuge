import CentrifugeVerif.Model.Queue
/-!
C12, part 1: the ring buffer `RingQ` refines a FIFO list.  `Rel q ⟨l, false⟩` reads "the open ring `q`
is in good shape and holds exactly `l`"; primitives and operations are specified in that form.
-/
namespace CentrifugeVerif.Queue

/-- ring index without a variable modulus (so that `omega` can finish) -/
theorem mod_wrap {h i n : Nat} (hh : h < n) (hi : i ≤ n) :
    (h + i) % n = if h + i < n then h + i else h + i - n := by
  split
  · exact Nat.mod_eq_of_lt ‹_›
  · rw [Nat.mod_eq_sub_mod (by omega)]; exact Nat.mod_eq_of_lt (by omega)

theorem ring_inj {h i j n : Nat} (hh : h < n) (hi : i < n) (hj : j < n)
    (hij : (h + i) % n = (h + j) % n) : i = j := by
  rw [mod_wrap hh (Nat.le_of_lt hi), mod_wrap hh (Nat.le_of_lt hj)] at hij
  split at hij <;> split at hij <;> omega

theorem ring_succ (h i n : Nat) : ((h + 1) % n + i) % n = (h + (i + 1)) % n := by
  rw [Nat.mod_add_mod, Nat.add_assoc, Nat.add_comm 1 i]

theorem bytes_append (a b : List Item) : bytes (a ++ b) = bytes a + bytes b := by
  simp [bytes, List.sum_append]

theorem bytes_cons (a : Item) (b : List Item) : bytes (a :: b) = a.size + bytes b := by
  simp [bytes]

@[simp] theorem bytes_nil : bytes [] = 0 := rfl

theorem takeCount_le (n : Nat) (m : Int) : takeCount n m ≤ n := by
  unfold takeCount
  split <;> omega

namespace RingQ

/-- The representation invariant of `queue.Queue`. -/
structure Inv (q : RingQ) : Prop where
  initPos : 0 < q.initCap
  closedShape : q.closed = true → q.nodes = [] ∧ q.cnt = 0
  openShape : q.closed = false →
    q.initCap ≤ q.cap ∧ q.head < q.cap ∧ q.cnt ≤ q.cap ∧ q.tail = (q.head + q.cnt) % q.cap
  sizeEq : q.size = bytes q.toList

theorem Inv.ofOpen {q : RingQ} (ho : q.closed = false) (hi0 : 0 < q.initCap) (hic : q.initCap ≤ q.cap)
    (hh : q.head < q.cap) (hc : q.cnt ≤ q.cap) (ht : q.tail = (q.head + q.cnt) % q.cap)
    (hsz : q.size = bytes q.toList) : q.Inv :=
  ⟨hi0, fun h => (by rw [ho] at h; cases h), fun _ => ⟨hic, hh, hc, ht⟩, hsz⟩

@[simp] theorem toList_length (q : RingQ) : q.toList.length = q.cnt := by simp [toList]

theorem toList_getElem? (q : RingQ) (i : Nat) :
    q.toList[i]? = if i < q.cnt then some (q.slot ((q.head + i) % q.cap)) else none := by
  unfold toList
  rw [List.getElem?_map]
  split
  · rw [List.getElem?_range ‹_›]; rfl
  · rw [List.getElem?_eq_none (by simp; omega)]; rfl

theorem toList_eq_nil_of_cnt {q : RingQ} (h : q.cnt = 0) : q.toList = [] := by
  simp [toList, h]

/-- two rings with the same count and the same live slots present the same list -/
theorem toList_congr {q q' : RingQ} (hc : q'.cnt = q.cnt)
    (hs : ∀ i, i < q.cnt → q'.slot ((q'.head + i) % q'.cap) = q.slot ((q.head + i) % q.cap)) :
    q'.toList = q.toList := by
  apply List.ext_getElem?
  intro i
  rw [toList_getElem?, toList_getElem?, hc]
  split
  · rw [hs i ‹_›]
  · rfl

theorem closed_toList {q : RingQ} (hI : q.Inv) (hc : q.closed = true) : q.toList = [] :=
  toList_eq_nil_of_cnt (hI.closedShape hc).2

theorem size_eq_bytes {q : RingQ} (hI : q.Inv) : q.size = bytes q.toList := hI.sizeEq

theorem new_inv {c : Nat} (hc : 0 < c) : (new c).Inv :=
  .ofOpen rfl hc (by simp [new, cap]) (by simpa [new, cap] using hc) (Nat.zero_le _) rfl rfl

@[simp] theorem new_toList (c : Nat) : (new c).toList = [] := rfl

theorem slot_eq (q : RingQ) (i : Nat) : q.slot i = (q.nodes[i]?).getD Item.zero := by
  simp [slot, List.getD_eq_getElem?_getD]

theorem live_eq_toList {q : RingQ} (hcap : q.head < q.cap) (hcnt : q.cnt ≤ q.cap) (hpos : 0 < q.cnt)
    (ht : q.tail = (q.head + q.cnt) % q.cap) : q.live = q.toList := by
  rw [mod_wrap hcap hcnt] at ht
  have hlen : q.nodes.length = q.cap := rfl
  apply List.ext_getElem?
  intro i
  rw [toList_getElem?]
  unfold live
  by_cases hw : q.head + q.cnt < q.cap
  · rw [if_pos hw] at ht
    rw [if_pos (by omega), List.getElem?_take, List.getElem?_drop]
    by_cases hi : i < q.cnt
    · rw [if_pos (by omega), if_pos hi, mod_wrap hcap (by omega), if_pos (by omega), slot_eq,
        List.getElem?_eq_getElem (by omega)]
      rfl
    · rw [if_neg (by omega), if_neg hi]
  · rw [if_neg hw] at ht
    rw [if_neg (by omega), List.getElem?_append, List.length_drop, List.getElem?_drop, List.getElem?_take]
    by_cases hi : i < q.cnt
    · rw [if_pos hi, mod_wrap hcap (by omega), slot_eq]
      by_cases h2 : q.head + i < q.cap
      · rw [if_pos (by omega), if_pos h2, List.getElem?_eq_getElem (by omega)]; rfl
      · rw [if_neg (by omega), if_neg h2, if_pos (by omega),
          show i - (q.nodes.length - q.head) = q.head + i - q.cap by omega,
          List.getElem?_eq_getElem (by omega)]
        rfl
    · rw [if_neg hi, if_neg (by omega), if_neg (by omega)]

@[simp] theorem push_cap (q : RingQ) (x : Item) : (q.push x).cap = q.cap := by simp [push, cap]

/-- advancing `head` by one slot (whatever happens to the vacated slot) removes the oldest item -/
theorem toList_advance {q : RingQ} (hh : q.head < q.cap) (hpos : 0 < q.cnt) (hc : q.cnt ≤ q.cap)
    {nodes' : List Item} (hlen : nodes'.length = q.cap) (hag : ∀ j, j ≠ q.head → nodes'[j]? = q.nodes[j]?)
    (size' : Nat) :
    q.toList = q.slot q.head ::
      ({ q with nodes := nodes', head := (q.head + 1) % q.cap, cnt := q.cnt - 1, size := size' } : RingQ).toList := by
  apply List.ext_getElem?
  intro i
  rw [toList_getElem?]
  cases i with
  | zero => simp [hpos, Nat.mod_eq_of_lt hh]
  | succ i =>
    rw [List.getElem?_cons_succ, toList_getElem?]
    show _ = if i < q.cnt - 1 then some ((nodes'[((q.head + 1) % q.cap + i) % nodes'.length]?).getD Item.zero) else none
    by_cases hi : i + 1 < q.cnt
    · have hne : (q.head + (i + 1)) % q.cap ≠ q.head := fun e => by
        have := ring_inj (j := 0) hh (by omega) (by omega) (e.trans (Nat.mod_eq_of_lt hh).symm); omega
      rw [if_pos hi, if_pos (by omega), hlen, ring_succ, hag _ hne, slot_eq]
    · rw [if_neg hi, if_neg (by omega)]

theorem toList_head {q : RingQ} (hI : q.Inv) (ho : q.closed = false) (hpos : 0 < q.cnt) :
    q.toList = q.slot q.head :: q.toList.tail := by
  obtain ⟨_, hh, hc, _⟩ := hI.openShape ho
  rw [toList_advance hh hpos hc rfl (fun _ _ => rfl) q.size]; rfl

theorem growLoop_ge (fuel c need : Nat) (hc : 0 < c) (hf : need ≤ c + fuel) :
    need ≤ growLoop fuel c need ∧ c ≤ growLoop fuel c need := by
  induction fuel generalizing c with
  | zero => simp [growLoop]; omega
  | succ f ih =>
    unfold growLoop
    split
    · have := ih (c * 2) (by omega) (by omega)
      exact ⟨this.1, by omega⟩
    · omega

theorem shrinkLoop_spec (fuel k ic cnt : Nat) (acc : Option Nat)
    (hacc : ∀ n, acc = some n → ic ≤ n ∧ cnt ≤ n) :
    ∀ n, shrinkLoop fuel k ic cnt acc = some n → ic ≤ n ∧ cnt ≤ n := by
  induction fuel generalizing k acc with
  | zero => exact hacc
  | succ f ih =>
    unfold shrinkLoop
    split
    · next h => exact ih _ _ fun n hn => by cases hn; exact h
    · exact hacc

theorem drain_spec (n : Nat) {q : RingQ} (hh : q.head < q.cap) (hc : q.cnt ≤ q.cap) (hn : n = q.cnt) :
    (q.drain n).2 = q.toList := by
  induction n generalizing q with
  | zero => simp [drain, toList_eq_nil_of_cnt hn.symm]
  | succ n ih =>
    have hcp : 0 < q.cap := by omega
    simp only [drain]
    rw [ih (q := { q with head := (q.head + 1) % q.cap, cnt := q.cnt - 1 }) (Nat.mod_lt _ hcp)
      (show q.cnt - 1 ≤ q.cap by omega) (show n = q.cnt - 1 by omega)]
    exact (toList_advance hh (by omega) hc rfl (fun _ _ => rfl) q.size).symm

theorem drain_initCap (n : Nat) (q : RingQ) : (q.drain n).1.initCap = q.initCap := by
  induction n generalizing q with
  | zero => rfl
  | succ n ih => simp only [drain]; rw [ih]

theorem add_closed {q : RingQ} (hc : q.closed = true) (x : Item) : q.add x = (q, .closed) := by
  simp [RingQ.add, hc]

theorem addMany_closed {q : RingQ} (hc : q.closed = true) (xs : List Item) : q.addMany xs = (q, .closed) := by
  simp [RingQ.addMany, hc]

theorem count_eq (q : RingQ) (m : Int) : q.count m = takeCount q.cnt m := rfl

end RingQ

/-- simulation relation between the ring buffer and the FIFO specification -/
def Rel (q : RingQ) (f : Fifo) : Prop := q.Inv ∧ q.toList = f.items ∧ q.closed = f.closed

open RingQ

theorem Rel.self {q : RingQ} (hI : q.Inv) : Rel q ⟨q.toList, q.closed⟩ := ⟨hI, rfl, rfl⟩

theorem Rel.cnt {q : RingQ} {f : Fifo} (h : Rel q f) : q.cnt = f.items.length := by
  rw [← h.2.1, toList_length]

theorem Rel.new {c : Nat} (hc : 0 < c) : Rel (new c) ⟨[], false⟩ := ⟨new_inv hc, rfl, rfl⟩

theorem Rel.tail_lt {q : RingQ} {l : List Item} (h : Rel q ⟨l, false⟩) : q.tail < q.cap := by
  obtain ⟨_, hh, _, ht⟩ := h.1.openShape h.2.2
  rw [ht]; exact Nat.mod_lt _ (by omega)

theorem Rel.resize {q : RingQ} {l : List Item} (h : Rel q ⟨l, false⟩) {n : Nat}
    (hn : l.length ≤ n) (hpos : 0 < n) (hinit : q.initCap ≤ n) :
    Rel (q.resize n) ⟨l, false⟩ ∧ (q.resize n).cap = n := by
  obtain ⟨hI, rfl, ho⟩ := h
  obtain ⟨_, hh, hc, ht⟩ := hI.openShape ho
  rw [toList_length] at hn
  -- both branches of `resize` put the content at the front of a fresh slice of length `n`
  obtain ⟨nodes', he, hlen, hcopy⟩ : ∃ nodes', q.resize n = { q with nodes := nodes', head := 0, tail := q.cnt % n } ∧
      nodes'.length = n ∧ ∀ i, i < q.cnt → nodes'[i]? = q.toList[i]? := by
    unfold RingQ.resize
    split
    · next h0 => exact ⟨_, by rw [h0, Nat.zero_mod], List.length_replicate, fun i hi => by omega⟩
    · next h0 =>
      have hlive := live_eq_toList hh hc (by omega) ht
      refine ⟨_, rfl, by rw [List.length_append, List.length_replicate, List.length_take]; omega, fun i hi => ?_⟩
      rw [List.getElem?_append_left (by rw [List.length_take, hlive, toList_length]; omega), List.getElem?_take,
        if_pos (by omega), hlive]
  rw [he]
  have hl : ({ q with nodes := nodes', head := 0, tail := q.cnt % n } : RingQ).toList = q.toList :=
    toList_congr rfl fun i hi => by
      show nodes'.getD ((0 + i) % nodes'.length) Item.zero = _
      rw [Nat.zero_add, hlen, Nat.mod_eq_of_lt (by omega), List.getD_eq_getElem?_getD, hcopy i hi,
        toList_getElem?, if_pos hi]
      rfl
  refine ⟨⟨.ofOpen ho hI.initPos (hlen.symm ▸ hinit) (hlen.symm ▸ hpos) (hlen.symm ▸ hn) ?_ (hl ▸ hI.sizeEq), hl, ho⟩, hlen⟩
  show q.cnt % n = (0 + q.cnt) % nodes'.length
  rw [hlen, Nat.zero_add]

theorem Rel.push {q : RingQ} {l : List Item} (h : Rel q ⟨l, false⟩) (hroom : l.length < q.cap) (x : Item) :
    Rel (q.push x) ⟨l ++ [x], false⟩ := by
  obtain ⟨hI, rfl, ho⟩ := h
  obtain ⟨hic, hh, hc, ht⟩ := hI.openShape ho
  rw [toList_length] at hroom
  have hl : (q.push x).toList = q.toList ++ [x] := by
    apply List.ext_getElem?
    intro i
    rw [toList_getElem?, List.getElem?_append, toList_length, toList_getElem?, push_cap, slot_eq]
    simp only [RingQ.push, List.getElem?_set]
    by_cases hi : i < q.cnt
    · -- the written slot `tail` is none of the live ones
      have hne : q.tail ≠ (q.head + i) % q.cap := fun e => by
        have := ring_inj hh hroom (by omega) (ht.symm.trans e); omega
      rw [if_pos (by omega), if_pos hi, if_pos hi, if_neg hne, slot_eq]
    · rw [if_neg hi]
      by_cases hi2 : i = q.cnt
      · subst hi2
        rw [if_pos (by omega), if_pos ht, if_pos (by rw [ht]; exact Nat.mod_lt _ (by omega))]
        simp
      · rw [if_neg (by omega), List.getElem?_eq_none (by simp; omega)]
  have hcap := (push_cap q x).symm
  refine ⟨.ofOpen ho hI.initPos (hcap ▸ hic) (hcap ▸ hh) (hcap ▸ hroom) ?_ ?_, hl, ho⟩
  · show (q.tail + 1) % q.cap = (q.head + (q.cnt + 1)) % (q.push x).cap
    rw [push_cap, ht, Nat.mod_add_mod, Nat.add_assoc]
  · show q.size + x.size = _
    rw [hl, bytes_append, bytes_cons, bytes_nil, hI.sizeEq]; rfl

theorem Rel.advance {q : RingQ} {x : Item} {l : List Item} (h : Rel q ⟨x :: l, false⟩)
    {nodes' : List Item} (hlen : nodes'.length = q.cap) (hag : ∀ j, j ≠ q.head → nodes'[j]? = q.nodes[j]?) :
    q.slot q.head = x ∧
      Rel { q with nodes := nodes', head := (q.head + 1) % q.cap, cnt := q.cnt - 1,
                   size := q.size - (q.slot q.head).size } ⟨l, false⟩ := by
  have hcnt : q.cnt = l.length + 1 := h.cnt
  obtain ⟨hI, hl, ho⟩ := h
  obtain ⟨hic, hh, hc, ht⟩ := hI.openShape ho
  have ha := toList_advance hh (by omega) hc hlen hag (q.size - (q.slot q.head).size)
  rw [hl] at ha
  injection ha with hx hl'
  refine ⟨hx.symm, .ofOpen ho hI.initPos (hlen.symm ▸ hic) (hlen.symm ▸ Nat.mod_lt _ (by omega))
    (show q.cnt - 1 ≤ nodes'.length by omega) ?_ ?_, hl'.symm, ho⟩
  · show q.tail = ((q.head + 1) % q.cap + (q.cnt - 1)) % nodes'.length
    rw [hlen, ring_succ, ht, show q.cnt - 1 + 1 = q.cnt by omega]
  · show q.size - (q.slot q.head).size = _
    rw [← hl', hI.sizeEq, hl, ← hx]
    show bytes (x :: l) - x.size = bytes l
    rw [bytes_cons]; omega

theorem Rel.pop1 {q : RingQ} {x : Item} {l : List Item} (h : Rel q ⟨x :: l, false⟩) :
    q.pop1.2 = x ∧ Rel q.pop1.1 ⟨l, false⟩ :=
  h.advance (List.length_set ..) fun j hj => by rw [List.getElem?_set, if_neg (Ne.symm hj)]

theorem Rel.resetIfEmpty {q : RingQ} {l : List Item} (h : Rel q ⟨l, false⟩) :
    Rel (if q.cnt = 0 then { q with head := 0, tail := 0 } else q) ⟨l, false⟩ := by
  split
  · next h0 =>
    obtain ⟨hI, hl, ho⟩ := h
    obtain ⟨hic, hh, hc, _⟩ := hI.openShape ho
    have hl' : ({ q with head := 0, tail := 0 } : RingQ).toList = q.toList := toList_congr rfl (fun i hi => by omega)
    refine ⟨.ofOpen ho hI.initPos hic (Nat.lt_of_le_of_lt (Nat.zero_le _) hh) hc ?_ (hl' ▸ hI.sizeEq), hl'.trans hl, ho⟩
    show 0 = (0 + q.cnt) % q.cap
    rw [h0]; rfl
  · exact h

theorem Rel.foldl_push (xs : List Item) {q : RingQ} {l : List Item} (h : Rel q ⟨l, false⟩)
    (hroom : l.length + xs.length ≤ q.cap) : Rel (xs.foldl RingQ.push q) ⟨l ++ xs, false⟩ := by
  induction xs generalizing q l with
  | nil => rw [List.append_nil]; exact h
  | cons x xs ih =>
    rw [List.length_cons] at hroom
    have := ih (h.push (by omega) x) (by rw [push_cap, List.length_append]; simpa [Nat.add_assoc, Nat.add_comm 1] using hroom)
    rwa [List.append_assoc] at this

theorem Rel.popN (n : Nat) {q : RingQ} {l : List Item} (h : Rel q ⟨l, false⟩) (hn : n ≤ l.length) :
    (q.popN n).2 = l.take n ∧ Rel (q.popN n).1 ⟨l.drop n, false⟩ := by
  induction n generalizing q l with
  | zero => exact ⟨rfl, h⟩
  | succ n ih =>
    cases l with
    | nil => cases hn
    | cons x l =>
      obtain ⟨hx, h1⟩ := h.pop1
      obtain ⟨ht, h2⟩ := ih h1 (Nat.le_of_succ_le_succ hn)
      exact ⟨by simp only [RingQ.popN, List.take_succ_cons, hx, ht], h2⟩

theorem Rel.shrinkOnly {q : RingQ} {l : List Item} (h : Rel q ⟨l, false⟩) : Rel q.shrinkOnly ⟨l, false⟩ := by
  unfold RingQ.shrinkOnly
  split
  · next n hn =>
    have := shrinkLoop_spec _ _ _ _ none (fun _ h => by cases h) n hn
    exact (h.resize (h.cnt ▸ this.2) (Nat.lt_of_lt_of_le h.1.initPos this.1) this.1).1
  · exact h

/-- also for the shrink timer firing on a closed queue (it was already running when `Close` stopped it) -/
theorem Rel.doShrink {q : RingQ} {f : Fifo} (h : Rel q f) : Rel q.doShrink f := by
  obtain ⟨l, c⟩ := f
  cases c with
  | false => exact h.resetIfEmpty.shrinkOnly
  | true =>
    obtain ⟨hI, hl, hc⟩ := h
    obtain ⟨hn, h0⟩ := hI.closedShape hc
    have hl' : ({ q with head := 0, tail := 0 } : RingQ).toList = q.toList := toList_congr rfl (fun i hi => by omega)
    have hst : ({ q with head := 0, tail := 0 } : RingQ).shrinkTarget = none := by
      have := hI.initPos
      simp only [shrinkTarget, cap, hn, List.length_nil, shrinkLoop]
      rw [if_neg (by omega)]
    have : q.doShrink = { q with head := 0, tail := 0 } := by
      unfold RingQ.doShrink
      simp only [if_pos h0, RingQ.shrinkOnly, hst]
    rw [this]
    exact ⟨⟨hI.initPos, fun _ => ⟨hn, h0⟩, fun h => (by rw [hc] at h; cases h), hl' ▸ hI.sizeEq⟩, hl'.trans hl, hc⟩

theorem Rel.add {q : RingQ} {l : List Item} (h : Rel q ⟨l, false⟩) (x : Item) :
    (q.add x).2 = .ok ∧ Rel (q.add x).1 ⟨l ++ [x], false⟩ := by
  have hcnt : q.cnt = l.length := h.cnt
  obtain ⟨hic, _, hc, _⟩ := h.1.openShape h.2.2
  have hpos := h.1.initPos
  unfold RingQ.add
  rw [if_neg (by rw [h.2.2]; exact Bool.false_ne_true)]
  split
  · next hfull =>
    obtain ⟨h1, hcap⟩ := h.resize (n := q.cnt * 2) (by omega) (by omega) (by omega)
    simp only [if_pos h1.tail_lt]
    exact ⟨trivial, h1.push (by omega) x⟩
  · simp only [if_pos h.tail_lt]
    exact ⟨trivial, h.push (by omega) x⟩

theorem Rel.addMany {q : RingQ} {l : List Item} (h : Rel q ⟨l, false⟩) (xs : List Item) :
    (q.addMany xs).2 = .ok ∧ Rel (q.addMany xs).1 ⟨l ++ xs, false⟩ := by
  have hcnt : q.cnt = l.length := h.cnt
  obtain ⟨hic, hh, _, _⟩ := h.1.openShape h.2.2
  have hpos := h.1.initPos
  unfold RingQ.addMany
  rw [if_neg (by rw [h.2.2]; exact Bool.false_ne_true)]
  refine ⟨rfl, ?_⟩
  show Rel (xs.foldl RingQ.push _) _
  split
  · rw [if_neg (show ¬ q.cap = 0 by omega)]
    have hg := growLoop_ge (q.cnt + xs.length) q.cap (q.cnt + xs.length) (by omega) (by omega)
    obtain ⟨h1, hcap⟩ := h.resize (n := growLoop (q.cnt + xs.length) q.cap (q.cnt + xs.length))
      (by omega) (by omega) (by omega)
    exact h1.foldl_push xs (by omega)
  · exact h.foldl_push xs (by omega)

theorem Rel.remove {q : RingQ} {x : Item} {l : List Item} (h : Rel q ⟨x :: l, false⟩) :
    q.remove.2 = some x ∧ Rel q.remove.1 ⟨l, false⟩ := by
  have hcnt : q.cnt = l.length + 1 := h.cnt
  obtain ⟨hx, h1⟩ := h.advance rfl (fun _ _ => rfl)
  unfold RingQ.remove
  rw [if_neg (by omega)]
  refine ⟨congrArg some hx, ?_⟩
  show Rel (if _ then _ else _) _
  split
  · next hs => exact (h1.resize (h1.cnt ▸ hs.2) (Nat.lt_of_lt_of_le h1.1.initPos hs.1) hs.1).1
  · exact h1

theorem Rel.open_of_cons {q : RingQ} {x : Item} {l : List Item} {c : Bool} (h : Rel q ⟨x :: l, c⟩) : c = false := by
  cases c with
  | false => rfl
  | true => cases (h.1.closedShape h.2.2).2.symm.trans h.cnt

theorem Rel.closeRemaining {q : RingQ} {l : List Item} (h : Rel q ⟨l, false⟩) :
    q.closeRemaining.2 = l ∧ Rel q.closeRemaining.1 ⟨[], true⟩ := by
  obtain ⟨hI, hl, ho⟩ := h
  obtain ⟨_, hh, hc, _⟩ := hI.openShape ho
  unfold RingQ.closeRemaining
  rw [if_neg (by rw [ho]; exact Bool.false_ne_true)]
  refine ⟨(drain_spec q.cnt hh hc rfl).trans hl, ⟨?_, fun _ => ⟨rfl, rfl⟩, fun h => (by cases h), rfl⟩, rfl, rfl⟩
  show 0 < (q.drain q.cnt).1.initCap
  rw [drain_initCap]; exact hI.initPos

theorem Rel.close {q : RingQ} {f : Fifo} (h : Rel q f) : Rel q.close ⟨[], true⟩ :=
  ⟨⟨h.1.initPos, fun _ => ⟨rfl, rfl⟩, fun h => (by cases h), rfl⟩, rfl, rfl⟩

theorem step_refines {q : RingQ} {f : Fifo} (h : Rel q f) (op : Op) :
    Rel (q.step op).1 (f.step op).1 ∧ (q.step op).2 = (f.step op).2 := by
  obtain ⟨l, c⟩ := f
  have hcnt : q.cnt = l.length := h.cnt
  have hc : q.closed = c := h.2.2
  cases op with
  | add x =>
    cases c with
    | true => simpa [step, Fifo.step, add_closed hc, addOut] using h
    | false =>
      obtain ⟨hr, h'⟩ := h.add x
      exact ⟨h', by simp [step, Fifo.step, hr, addOut]⟩
  | addMany xs =>
    cases c with
    | true => simpa [step, Fifo.step, addMany_closed hc, addOut] using h
    | false =>
      obtain ⟨hr, h'⟩ := h.addMany xs
      exact ⟨h', by simp [step, Fifo.step, hr, addOut]⟩
  | remove =>
    cases l with
    | nil => simpa [step, Fifo.step, RingQ.remove, show q.cnt = 0 from hcnt] using h
    | cons x l =>
      cases h.open_of_cons
      obtain ⟨hr, h'⟩ := h.remove
      exact ⟨h', by simp [step, Fifo.step, hr]⟩
  | removeMany m =>
    cases l with
    | nil => simpa [step, Fifo.step, RingQ.removeMany, show q.cnt = 0 from hcnt] using h
    | cons x l =>
      cases h.open_of_cons
      obtain ⟨hr, h'⟩ := h.popN (takeCount (l.length + 1) m) (takeCount_le ..)
      simp only [step, Fifo.step, RingQ.removeMany, count_eq, hcnt, List.length_cons, Nat.add_one_ne_zero,
        reduceCtorEq, ↓reduceIte]
      exact ⟨h'.shrinkOnly, by rw [hr]⟩
  | removeManyInto b m =>
    cases l with
    | nil => simpa [step, Fifo.step, RingQ.removeManyInto, show q.cnt = 0 from hcnt] using h
    | cons x l =>
      cases h.open_of_cons
      obtain ⟨hr, h'⟩ := h.popN (min (takeCount (l.length + 1) m) b)
        (Nat.le_trans (Nat.min_le_left ..) (takeCount_le ..))
      simp only [step, Fifo.step, RingQ.removeManyInto, count_eq, hcnt, List.length_cons, Nat.add_one_ne_zero,
        reduceCtorEq, ↓reduceIte]
      exact ⟨h'.resetIfEmpty, by rw [hr]⟩
  | removeManyIntoShrink b m =>
    cases l with
    | nil => simpa [step, Fifo.step, RingQ.removeManyIntoShrink, show q.cnt = 0 from hcnt] using h
    | cons x l =>
      cases h.open_of_cons
      obtain ⟨hr, h'⟩ := h.popN (min (takeCount (l.length + 1) m) b)
        (Nat.le_trans (Nat.min_le_left ..) (takeCount_le ..))
      simp only [step, Fifo.step, RingQ.removeManyIntoShrink, count_eq, hcnt, List.length_cons, Nat.add_one_ne_zero,
        reduceCtorEq, ↓reduceIte]
      exact ⟨h'.doShrink, by rw [hr]⟩
  | shrink t =>
    cases t with
    | true => exact ⟨h.doShrink, rfl⟩
    | false =>
      cases c with
      | true => simpa [step, Fifo.step, finishCollect0, hc] using h
      | false => simpa [step, Fifo.step, finishCollect0, hc] using h.doShrink
  | close => exact ⟨h.close, rfl⟩
  | closeRemaining =>
    cases c with
    | true => simpa [step, Fifo.step, RingQ.closeRemaining, hc] using h
    | false =>
      obtain ⟨hr, h'⟩ := h.closeRemaining
      exact ⟨h', by simp [step, Fifo.step, hr]⟩
  | len => exact ⟨h, congrArg Out.nat hcnt⟩
  | size => exact ⟨h, congrArg Out.nat (h.1.sizeEq.trans (congrArg bytes h.2.1))⟩
  | closed => exact ⟨h, congrArg Out.bool hc⟩

theorem run_refines {q : RingQ} {f : Fifo} (h : Rel q f) (ops : List Op) :
    Rel (q.run ops).1 (f.run ops).1 ∧ (q.run ops).2 = (f.run ops).2 := by
  induction ops generalizing q f with
  | nil => exact ⟨h, rfl⟩
  | cons op ops ih =>
    have hs := step_refines h op
    have := ih hs.1
    simp only [run, Fifo.run]
    exact ⟨this.1, by rw [hs.2, this.2]⟩

theorem add_ok {q q' : RingQ} (hI : q.Inv) {x : Item} (h : q.add x = (q', .ok)) :
    q.closed = false ∧ Rel q' ⟨q.toList ++ [x], false⟩ := by
  cases hc : q.closed with
  | true => rw [add_closed hc] at h; cases h
  | false => have := ((hc ▸ Rel.self hI).add x).2; rw [h] at this; exact ⟨rfl, this⟩

theorem addMany_ok {q q' : RingQ} (hI : q.Inv) {xs : List Item} (h : q.addMany xs = (q', .ok)) :
    q.closed = false ∧ Rel q' ⟨q.toList ++ xs, false⟩ := by
  cases hc : q.closed with
  | true => rw [addMany_closed hc] at h; cases h
  | false => have := ((hc ▸ Rel.self hI).addMany xs).2; rw [h] at this; exact ⟨rfl, this⟩

def RemSpec (q q' : RingQ) (r : Option (List Item)) : Prop :=
  q'.Inv ∧ q'.closed = q.closed ∧
    match r with
    | none => q.toList = [] ∧ q'.toList = []
    | some items => q.toList = items ++ q'.toList

/-- also for `.removeManyIntoShrink`: `Fifo.step` has one arm for both -/
theorem RemSpec.of_step {q q' : RingQ} {r : Option (List Item)} {b : Nat} {m : Int}
    (h : Rel q' ((⟨q.toList, q.closed⟩ : Fifo).step (.removeManyInto b m)).1 ∧
      Out.items r = ((⟨q.toList, q.closed⟩ : Fifo).step (.removeManyInto b m)).2) : RemSpec q q' r := by
  simp only [Fifo.step] at h
  split at h
  · next he =>
    obtain ⟨⟨hI', hl', hc'⟩, ho⟩ := h
    cases ho
    exact ⟨hI', hc', he, hl'.trans he⟩
  · obtain ⟨⟨hI', hl', hc'⟩, ho⟩ := h
    cases ho
    exact ⟨hI', hc', by rw [hl']; exact (List.take_append_drop _ _).symm⟩

theorem removeManyInto_spec {q q' : RingQ} (hI : q.Inv) {b : Nat} {m : Int} {r : Option (List Item)}
    (h : q.removeManyInto b m = (q', r)) : RemSpec q q' r := by
  have : RemSpec q (q.removeManyInto b m).1 (q.removeManyInto b m).2 :=
    .of_step (step_refines (Rel.self hI) (.removeManyInto b m))
  rwa [h] at this

theorem removeManyIntoShrink_spec {q q' : RingQ} (hI : q.Inv) {b : Nat} {m : Int} {r : Option (List Item)}
    (h : q.removeManyIntoShrink b m = (q', r)) : RemSpec q q' r := by
  have : RemSpec q (q.removeManyIntoShrink b m).1 (q.removeManyIntoShrink b m).2 :=
    .of_step (step_refines (Rel.self hI) (.removeManyIntoShrink b m))
  rwa [h] at this

theorem closeRemaining_spec {q q' : RingQ} (hI : q.Inv) {items : List Item} (h : q.closeRemaining = (q', items)) :
    items = q.toList ∧ Rel q' ⟨[], true⟩ := by
  cases hc : q.closed with
  | false => have := (hc ▸ Rel.self hI).closeRemaining; rw [h] at this; exact this
  | true =>
    have hl := closed_toList hI hc
    rw [show q.closeRemaining = (q, []) by simp [RingQ.closeRemaining, hc]] at h
    cases h
    exact ⟨hl.symm, hI, hl, hc⟩

end CentrifugeVerif.Queue
