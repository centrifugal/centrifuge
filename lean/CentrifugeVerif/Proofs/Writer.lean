import CentrifugeVerif.Model.Writer
import CentrifugeVerif.Proofs.Queue
/-!
C12, part 2: the invariants `WInv` (exactly-once, in order) and `TInv` (timer mode strands nothing) of
the writer transition system, by cases on `Step`, the inverted `step`.
-/
namespace CentrifugeVerif.Writer
open Queue

def enqCall (q : RingQ) (xs : List Item) (many : Bool) : RingQ × RingQ.AddRes :=
  if many then q.addMany xs else match xs with | [x] => q.add x | _ => (q, .panic)

def gTake (c : Cfg) (q : RingQ) (n : Nat) : RingQ × Option (List Item) :=
  if c.mode = .delay then q.removeManyInto n n else q.removeManyIntoShrink n n

theorem finishCollect_eq (c : Cfg) (w : W) :
    finishCollect c w = { w with q := (finishCollect c w).q, shrinkAt := (finishCollect c w).shrinkAt } := by
  unfold finishCollect
  split
  · rfl
  · split <;> rfl

/-- The branches of `step` with their successor states.  Left out, since no invariant needs them: the
new values of `g` and `sleepAt` (open as `g'`, `s'`; `gMove` stands for every move of the flusher outside
`w.mu` but `Lock` and `FinishCollect`) and the guards of `gLockedEmpty`/`gLockedBuf`, `tStartBuf`.  So
`Step` contains `step`, not conversely. -/
inductive Step (c : Cfg) (w : W) : Lbl → W → Prop
  | addOk {xs many q'} : enqCall w.q xs many = (q', .ok) →
      Step c w (.add xs many) { w with q := q', enq := w.enq ++ xs, pendCheck := w.pendCheck ++ [xs] }
  | addClosed {xs many q'} : enqCall w.q xs many = (q', .closed) →
      Step c w (.add xs many) { w with results := w.results ++ [(xs, .connClosed, 0)] }
  | checkSlow {i xs} : w.pendCheck[i]? = some xs → 0 < c.maxQueueSize ∧ c.maxQueueSize < w.q.size →
      Step c w (.check i) { w with pendCheck := w.pendCheck.eraseIdx i,
                                   results := w.results ++ [(xs, .slow, bytes w.q.toList)], slowSeen := true }
  | checkOk {i xs} : w.pendCheck[i]? = some xs → ¬ (0 < c.maxQueueSize ∧ c.maxQueueSize < w.q.size) →
      Step c w (.check i) { w with pendCheck := w.pendCheck.eraseIdx i,
                                   results := w.results ++ [(xs, .ok, bytes w.q.toList)],
                                   pendSched := if c.mode = .timer then w.pendSched + 1 else w.pendSched }
  | schedArm : w.holder = .free → 0 < w.pendSched → w.closed = false → w.timerScheduled = false →
      Step c w .sched { w with pendSched := w.pendSched - 1, timerScheduled := true,
                               flushAt := some (w.now + c.writeDelay) }
  | schedSkip : w.holder = .free → 0 < w.pendSched → (w.closed = true ∨ w.timerScheduled = true) →
      Step c w .sched { w with pendSched := w.pendSched - 1 }
  | direct {x ok} :
      Step c w (.direct x ok) { w with tx := w.tx ++ [if ok then .direct x else .call [x] false false] }
  | tick {d} : Step c w (.tick d) { w with now := w.now + d }
  | gMove {ch g' s'} : w.g ≠ .done → Step c w (.g ch) { w with g := g', sleepAt := s' }
  | gLock {ch} : w.g = .lock → w.holder = .free → Step c w (.g ch) { w with holder := .gLocked, g := .inMu }
  | gFinish {ch n g'} : w.g = .finish n →
      Step c w (.g ch) { w with q := (finishCollect c w).q, shrinkAt := (finishCollect c w).shrinkAt, g := g' }
  | gLockedEmpty {ok g'} : w.holder = .gLocked → Step c w (.h ok) { w with holder := .free, g := g' }
  | gLockedBuf {ok} : w.holder = .gLocked → Step c w (.h ok) { w with holder := .gBuf (bufSize c w) }
  | gBufNone {ok n q' g'} : w.holder = .gBuf n → gTake c w.q n = (q', none) →
      Step c w (.h ok) { w with q := q', holder := .free, g := g' }
  | gBufSome {ok n q' items} : w.holder = .gBuf n → gTake c w.q n = (q', some items) →
      Step c w (.h ok) { w with q := q', holder := .gWrite items }
  | gWrite {ok items g'} : w.holder = .gWrite items →
      Step c w (.h ok) { w with tx := w.tx ++ [.call items (items.length != 1) ok],
                                failed := if ok then w.failed else true, holder := .free, g := g' }
  | tStartEmpty {ok} : w.holder = .tStart → w.q.cnt = 0 → Step c w (.h ok) { w with holder := .free }
  | tStartBuf {ok} : w.holder = .tStart → Step c w (.h ok) { w with holder := .tBuf (bufSize c w) }
  | tBufNone {ok n q'} : w.holder = .tBuf n → w.q.removeManyInto n n = (q', none) →
      Step c w (.h ok) { w with q := q', holder := .free, tFinish := w.tFinish + 1 }
  | tBufSome {ok n q' items} : w.holder = .tBuf n → w.q.removeManyInto n n = (q', some items) →
      Step c w (.h ok) { w with q := q', holder := .tWrite items }
  | tWrite {ok items} : w.holder = .tWrite items →
      Step c w (.h ok) { w with tx := w.tx ++ [.call items (items.length != 1) ok],
                                failed := if ok then w.failed else true, holder := .tAfter (!ok) }
  | tAfterArm {ok err} : w.holder = .tAfter err → err = false → 0 < w.q.cnt → w.closed = false →
      w.timerScheduled = false →
      Step c w (.h ok) { w with timerScheduled := true,
                                flushAt := some (w.now + if 0 < c.maxFrame ∧ c.maxFrame ≤ (w.q.cnt : Int) then 0 else c.writeDelay),
                                holder := .free, tFinish := w.tFinish + 1 }
  | tAfterKeep {ok err} : w.holder = .tAfter err →
      (err = true ∨ w.q.cnt = 0 ∨ w.closed = true ∨ w.timerScheduled = true) →
      Step c w (.h ok) { w with holder := .free, tFinish := w.tFinish + 1 }
  | cStartFlush {ok q' items} : w.holder = .cStart true → w.q.closeRemaining = (q', items) →
      Step c w (.h ok) { w with q := q', shrinkAt := none,
                                holder := if items.isEmpty then .cEnd true else .cWrite items true }
  | cStartDrop {ok} : w.holder = .cStart false →
      Step c w (.h ok) { w with q := w.q.close, shrinkAt := none, dropped := w.dropped || (0 < w.q.cnt),
                                holder := .cEnd false }
  | cWrite {ok items flush} : w.holder = .cWrite items flush →
      Step c w (.h ok) { w with tx := w.tx ++ [.call items true ok],
                                failed := if ok then w.failed else true, holder := .cEnd flush }
  | cEnd {ok flush} : w.holder = .cEnd flush →
      Step c w (.h ok) { w with closeChClosed := true, closeDone := some flush, holder := .free }
  | fire {t} : w.flushAt = some t → t ≤ w.now →
      Step c w .fire { w with flushAt := none, flushPending := w.flushPending + 1 }
  | tLock : w.holder = .free → 0 < w.flushPending →
      Step c w .tLock { w with flushPending := w.flushPending - 1, timerScheduled := false, holder := .tStart }
  | tFin : 0 < w.tFinish →
      Step c w .tFin { w with q := (finishCollect c w).q, shrinkAt := (finishCollect c w).shrinkAt,
                              tFinish := w.tFinish - 1 }
  | closeAgain {flush} : w.holder = .free → w.closed = true → Step c w (.close flush) w
  | closeBegin {flush} : w.holder = .free → w.closed = false →
      Step c w (.close flush) { w with closed := true, flushAt := none, holder := .cStart flush }
  | shrinkFire {t} : w.shrinkAt = some t → t ≤ w.now →
      Step c w .shrinkFire { w with shrinkAt := none, q := w.q.doShrink }

theorem step_inv {c : Cfg} {w w' : W} {l : Lbl} (hs : step c w l = some w') : Step c w l w' := by
  cases l <;> simp only [step, gStep, hStep] at hs
  case add xs many =>
    split at hs <;> cases hs
    · next heq => exact .addOk (Prod.ext rfl heq)
    · next heq => exact .addClosed (Prod.ext rfl heq)
  case check i =>
    split at hs
    · cases hs
    · next xs hx =>
      split at hs <;> cases hs
      · exact .checkSlow hx ‹_›
      · exact .checkOk hx ‹_›
  case sched =>
    split at hs
    · next hen =>
      cases hs
      split
      · next hc =>
        simp only [Bool.not_eq_true'] at hc
        simp only [schedule, hc.2, Bool.false_eq_true, if_false]
        exact .schedArm hen.1 hen.2 hc.1 hc.2
      · next hc =>
        refine .schedSkip hen.1 hen.2 ?_
        cases h1 : w.closed <;> cases h2 : w.timerScheduled <;> simp_all
    · cases hs
  case direct x ok => cases hs; exact .direct
  case tick d => cases hs; exact .tick
  case g ch =>
    split at hs
    · next hg =>
      have hnd : w.g ≠ .done := by simp [hg]
      split at hs
      · cases hs; exact .gMove hnd
      · split at hs <;> cases hs; exact .gMove hnd
    · next hg => split at hs <;> cases hs <;> exact .gMove (by simp [hg])
    · next hg => split at hs <;> split at hs <;> cases hs <;> exact .gMove (by simp [hg])
    · next hg => split at hs <;> cases hs; exact .gLock hg ‹_›
    · next n hg => cases hs; rw [finishCollect_eq]; exact .gFinish hg
    · next hg => cases hs; exact .gMove (by simp [hg])
    · cases hs
    · cases hs
  case h ok =>
    split at hs
    · cases hs
    · next hh =>
      split at hs <;> cases hs
      · exact .gLockedEmpty hh
      · exact .gLockedBuf hh
    · next n hh =>
      split at hs <;> cases hs
      · next heq => exact .gBufNone hh (Prod.ext rfl heq)
      · next heq => exact .gBufSome hh (Prod.ext rfl heq)
    · next items hh => cases ok <;> cases hs <;> exact .gWrite hh
    · next hh =>
      split at hs <;> cases hs
      · exact .tStartEmpty hh ‹_›
      · exact .tStartBuf hh
    · next n hh =>
      split at hs <;> cases hs
      · next heq => exact .tBufNone hh (Prod.ext rfl heq)
      · next heq => exact .tBufSome hh (Prod.ext rfl heq)
    · next items hh => cases ok <;> cases hs <;> exact .tWrite hh
    · next err hh =>
      cases hs
      split
      · next hc =>
        simp only [Bool.not_eq_true'] at hc
        unfold schedule
        split
        · next hts => exact .tAfterKeep hh (Or.inr (Or.inr (Or.inr hts)))
        · next hts => exact .tAfterArm hh hc.1 hc.2.1 hc.2.2 (by simpa using hts)
      · next hc =>
        refine .tAfterKeep hh ?_
        cases err <;> cases h2 : w.closed <;> simp_all
    · next flush hh =>
      cases flush
      · cases hs; exact .cStartDrop hh
      · cases hs; exact .cStartFlush hh rfl
    · next items flush hh => cases ok <;> cases hs <;> exact .cWrite hh
    · next flush hh => cases hs; exact .cEnd hh
  case fire =>
    split at hs
    · split at hs <;> cases hs
      exact .fire ‹_› ‹_›
    · cases hs
  case tLock =>
    split at hs <;> cases hs
    exact .tLock (And.left ‹_›) (And.right ‹_›)
  case tFin =>
    split at hs <;> cases hs
    rw [finishCollect_eq]
    exact .tFin ‹_›
  case close flush =>
    split at hs
    · split at hs <;> cases hs
      · exact .closeAgain ‹_› ‹_›
      · exact .closeBegin ‹_› (by simpa using ‹¬ w.closed = true›)
    · cases hs
  case shrinkFire =>
    split at hs
    · split at hs <;> cases hs
      exact .shrinkFire ‹_› ‹_›
    · cases hs

theorem enqCall_ok {q q' : RingQ} {xs : List Item} {many : Bool} (hI : q.Inv) (h : enqCall q xs many = (q', .ok)) :
    q.closed = false ∧ Rel q' ⟨q.toList ++ xs, false⟩ := by
  unfold enqCall at h
  split at h
  · exact addMany_ok hI h
  · split at h
    · exact add_ok hI h
    · cases h

theorem gTake_spec {c : Cfg} {q q' : RingQ} {n : Nat} {r : Option (List Item)} (hI : q.Inv)
    (h : gTake c q n = (q', r)) : RemSpec q q' r := by
  unfold gTake at h
  split at h
  · exact removeManyInto_spec hI h
  · exact removeManyIntoShrink_spec hI h

theorem finishCollect_q (c : Cfg) {w : W} (hI : w.q.Inv) : Rel (finishCollect c w).q ⟨w.q.toList, w.q.closed⟩ := by
  unfold finishCollect
  split
  · exact .self hI
  · split
    · exact (Rel.self hI).doShrink
    · exact .self hI

theorem txq_append (a b : List TEntry) : txq (a ++ b) = txq a ++ txq b := by
  induction a with
  | nil => rfl
  | cons e a ih =>
    cases e with
    | call items many ok => cases ok <;> simp [txq, ih]
    | direct x => simp [txq, ih]

theorem txq_snoc_call (tx : List TEntry) (items : List Item) (many ok : Bool) :
    txq (tx ++ [.call items many ok]) = txq tx ++ if ok then items else [] := by
  rw [txq_append]; cases ok <;> simp [txq]

def Holder.closing : Holder → Option Bool
  | .cStart f | .cWrite _ f | .cEnd f => some f
  | _ => none

/-- whether (and how) `close` has been called: the flush flag of the close in progress or finished -/
def closeFlag (w : W) : Option Bool :=
  match w.holder.closing with
  | some f => some f
  | none => w.closeDone

def closingPast : Holder → Bool
  | .cWrite _ _ | .cEnd _ => true
  | _ => false

def Holder.view (h : Holder) : List Item × Option Bool × Bool := (h.inflight, h.closing, closingPast h)

def W.obs (w : W) : List Item × List TEntry × Bool × Bool × Option Bool × Bool × List (List Item × Res × Nat) :=
  (w.enq, w.tx, w.dropped, w.failed, w.closeDone, w.closed, w.results)

structure WInv (c : Cfg) (w : W) : Prop where
  qinv : w.q.Inv
  /-- exactly-once, in order: what was accepted = what the transport got ++ what the holder of `w.mu`
  carries ++ what is still queued (unless `close(false)` discarded the queue: then a prefix) -/
  order : w.failed = false →
    ∃ rest, w.enq = txq w.tx ++ w.holder.inflight ++ rest ∧ (w.dropped = false → rest = w.q.toList)
  /-- only `close(false)` discards queued messages -/
  droppedNoFlush : w.dropped = true → closeFlag w = some false
  /-- once `close` is past `CloseRemaining`/`Close` (or has returned) the queue is closed -/
  queueClosed : (w.closeDone.isSome = true ∨ closingPast w.holder = true) → w.q.closed = true
  /-- `close` neither runs nor has run while `closed` is unset -/
  notClosing : w.closed = false → closeFlag w = none
  droppedClosed : w.dropped = true → w.q.closed = true
  slow : ∀ r ∈ w.results, (r.2.1 = .slow ↔ (0 < c.maxQueueSize ∧ c.maxQueueSize < r.2.2))

theorem WInv.init (c : Cfg) (hc : 0 < c.initCap) : WInv c (W.init c) :=
  ⟨RingQ.new_inv hc, fun _ => ⟨[], rfl, fun _ => rfl⟩, nofun, nofun, fun _ => rfl, nofun, nofun⟩

theorem WInv.closing {c : Cfg} {w : W} (h : WInv c w) {f : Bool} (hcl : w.holder.closing = some f) :
    w.closed = true ∧ (w.dropped = true → f = false) := by
  have hcf : closeFlag w = some f := by unfold closeFlag; rw [hcl]
  exact ⟨eq_true_of_ne_false fun hc => (nomatch hcf.symm.trans (h.notClosing hc)),
    fun hd => Option.some.inj (hcf.symm.trans (h.droppedNoFlush hd))⟩

/-- frame rule: the ring may be reshaped and the holder may move between states that carry nothing -/
theorem WInv.frame {c : Cfg} {w w' : W} (h : WInv c w) (hq : Rel w'.q ⟨w.q.toList, w.q.closed⟩)
    (hv : w'.holder.view = w.holder.view) (ho : w'.obs = w.obs) : WInv c w' := by
  obtain ⟨hI, hl, hqc⟩ := hq
  simp only [Holder.view, W.obs, Prod.mk.injEq] at hv ho
  obtain ⟨hinf, hcl, hcp⟩ := hv
  obtain ⟨henq, htx, hd, hf, hcd, hc, hr⟩ := ho
  have hcf : closeFlag w' = closeFlag w := by unfold closeFlag; rw [hcl, hcd]
  exact ⟨hI, by rw [hf, henq, htx, hinf, hd, hl]; exact h.order, by rw [hd, hcf]; exact h.droppedNoFlush,
    by rw [hcd, hcp, hqc]; exact h.queueClosed, by rw [hc, hcf]; exact h.notClosing, by rw [hd, hqc]; exact h.droppedClosed,
    by rw [hr]; exact h.slow⟩

theorem RemSpec.none_rel {q q' : RingQ} (h : RemSpec q q' none) : Rel q' ⟨q.toList, q.closed⟩ :=
  ⟨h.1, h.2.2.2.trans h.2.2.1.symm, h.2.1⟩

theorem WInv.take {c : Cfg} {w w' : W} (h : WInv c w) (hv : w.holder.view = ([], none, false))
    {items : List Item} (hr : RemSpec w.q w'.q (some items)) (hv' : w'.holder.view = (items, none, false))
    (ho : w'.obs = w.obs) : WInv c w' := by
  obtain ⟨hI', hqc, hsp⟩ := hr
  simp only [Holder.view, W.obs, Prod.mk.injEq] at hv hv' ho
  obtain ⟨hinf, hcl, hcp⟩ := hv
  obtain ⟨hinf', hcl', hcp'⟩ := hv'
  obtain ⟨henq, htx, hd, hf, hcd, hc, hres⟩ := ho
  have hcf : closeFlag w' = closeFlag w := by unfold closeFlag; rw [hcl, hcl', hcd]
  refine ⟨hI', ?_, by rw [hd, hcf]; exact h.droppedNoFlush, ?_, by rw [hc, hcf]; exact h.notClosing, by rw [hd, hqc]; exact h.droppedClosed,
    by rw [hres]; exact h.slow⟩
  · rw [hf, henq, htx, hinf', hd]
    intro hf'
    obtain ⟨rest, h1, h2⟩ := h.order hf'
    rw [hinf, List.append_nil] at h1
    cases hdr : w.dropped with
    | true =>
      -- the queue was discarded: the batch is empty
      have hi : items = [] := by
        have := hsp; rw [RingQ.closed_toList h.qinv (h.droppedClosed hdr)] at this
        exact (List.append_eq_nil_iff.mp this.symm).1
      exact ⟨rest, by rw [hi, List.append_nil]; exact h1, nofun⟩
    | false => exact ⟨w'.q.toList, by rw [h1, h2 hdr, hsp, List.append_assoc], fun _ => rfl⟩
  · rw [hcd, hcp', hqc]
    exact fun hp => h.queueClosed (hp.imp_right nofun)

theorem WInv.write {c : Cfg} {w w' : W} (h : WInv c w) {items : List Item} {many ok : Bool}
    {cl : Option Bool} {cp cp' : Bool} (hv : w.holder.view = (items, cl, cp)) (hq : w'.q = w.q)
    (hv' : w'.holder.view = ([], cl, cp')) (hcp : cp' = true → cp = true)
    (ho : w'.obs = (w.enq, w.tx ++ [.call items many ok], w.dropped, if ok then w.failed else true, w.closeDone,
      w.closed, w.results)) : WInv c w' := by
  simp only [Holder.view, W.obs, Prod.mk.injEq] at hv hv' ho
  obtain ⟨hinf, hcl, rfl⟩ := hv
  obtain ⟨hinf', hcl', rfl⟩ := hv'
  obtain ⟨henq, htx, hd, hf, hcd, hc, hres⟩ := ho
  have hcf : closeFlag w' = closeFlag w := by unfold closeFlag; rw [hcl, hcl', hcd]
  refine ⟨hq ▸ h.qinv, ?_, by rw [hd, hcf]; exact h.droppedNoFlush, ?_, by rw [hc, hcf]; exact h.notClosing, by rw [hd, hq]; exact h.droppedClosed,
    by rw [hres]; exact h.slow⟩
  · rw [hf, henq, htx, hinf', hd, hq, txq_snoc_call]
    cases ok with
    | false => nofun
    | true =>
      intro hf'
      obtain ⟨rest, h1, h2⟩ := h.order hf'
      exact ⟨rest, by rw [h1, hinf, List.append_nil]; rfl, h2⟩
  · rw [hcd, hq]
    exact fun hp => h.queueClosed (hp.imp_right hcp)

theorem inv_step {c : Cfg} {w w' : W} (h : WInv c w) (l : Lbl) (hs : step c w l = some w') : WInv c w' := by
  have hq0 := Rel.self h.qinv
  cases step_inv hs with
  | tick | fire | schedArm | schedSkip | gMove | closeAgain => exact h.frame hq0 rfl rfl
  | tFin | gFinish => exact h.frame (finishCollect_q c h.qinv) rfl rfl
  | shrinkFire => exact h.frame hq0.doShrink rfl rfl
  | gLock _ hh | gLockedEmpty hh | gLockedBuf hh | tStartEmpty hh | tStartBuf hh | tLock hh | tAfterArm hh
  | tAfterKeep hh => exact h.frame hq0 (by rw [hh]; rfl) rfl
  | gBufNone hh hq => exact h.frame (RemSpec.none_rel (gTake_spec h.qinv hq)) (by rw [hh]; rfl) rfl
  | tBufNone hh hq => exact h.frame (RemSpec.none_rel (removeManyInto_spec h.qinv hq)) (by rw [hh]; rfl) rfl
  | gBufSome hh hq => exact h.take (by rw [hh]; rfl) (gTake_spec h.qinv hq) rfl rfl
  | tBufSome hh hq => exact h.take (by rw [hh]; rfl) (removeManyInto_spec h.qinv hq) rfl rfl
  | gWrite hh | tWrite hh => exact h.write (by rw [hh]; rfl) rfl rfl nofun rfl
  | cWrite hh => exact h.write (by rw [hh]; rfl) rfl rfl (fun _ => rfl) rfl
  | @addOk xs many q' hq =>
    obtain ⟨hc, hI, hl, _⟩ := enqCall_ok h.qinv hq
    refine ⟨hI, ?_, h.droppedNoFlush, ?_, h.notClosing, ?_, h.slow⟩
    · intro hf
      obtain ⟨rest, h1, h2⟩ := h.order hf
      refine ⟨rest ++ xs, ?_, fun hd => ?_⟩
      · show w.enq ++ xs = _; rw [h1, List.append_assoc]
      · show rest ++ xs = q'.toList; rw [hl, h2 hd]
    · intro hp; have := h.queueClosed hp; rw [hc] at this; cases this
    · intro hd; have := h.droppedClosed hd; rw [hc] at this; cases this
  | addClosed => exact { h with slow := List.forall_mem_append.mpr ⟨h.slow, List.forall_mem_singleton.mpr (by simp)⟩ }
  | checkSlow _ hover =>
    refine { h with slow := List.forall_mem_append.mpr ⟨h.slow, List.forall_mem_singleton.mpr ?_⟩ }
    simp only [true_iff]; rw [← h.qinv.sizeEq]; exact hover
  | checkOk _ hover =>
    refine { h with slow := List.forall_mem_append.mpr ⟨h.slow, List.forall_mem_singleton.mpr ?_⟩ }
    simp only [reduceCtorEq, false_iff]; rw [← h.qinv.sizeEq]; exact hover
  | @direct x ok =>
    refine { h with order := fun hf => ?_ }
    show ∃ rest, w.enq = txq (w.tx ++ [if ok then .direct x else .call [x] false false]) ++ _ ++ rest ∧ _
    rw [txq_append, show txq [if ok then .direct x else .call [x] false false] = [] by cases ok <;> rfl,
      List.append_nil]
    exact h.order hf
  | @cStartFlush _ q' items hh hq =>
    obtain ⟨hcl, hdf⟩ := h.closing (f := true) (by rw [hh]; rfl)
    have hnd : w.dropped = false := eq_false_of_ne_true fun hd => nomatch hdf hd
    obtain ⟨hit, hI', hl', hc'⟩ := closeRemaining_spec h.qinv hq
    refine ⟨hI', fun hf => ?_, fun hd => Bool.noConfusion (hnd.symm.trans hd), fun _ => hc',
      fun hc => Bool.noConfusion (hcl.symm.trans hc), fun _ => hc', h.slow⟩
    obtain ⟨rest, h1, h2⟩ := h.order hf
    refine ⟨[], ?_, fun _ => hl'.symm⟩
    show w.enq = txq w.tx ++ (if items.isEmpty then Holder.cEnd true else Holder.cWrite items true).inflight ++ []
    rw [h1, h2 hnd, hh, ← hit]
    cases items <;> simp [Holder.inflight]
  | cStartDrop hh =>
    obtain ⟨hcl, _⟩ := h.closing (f := false) (by rw [hh]; rfl)
    have hcq := hq0.close
    refine ⟨hcq.1, fun hf => ?_, fun _ => rfl, fun _ => hcq.2.2, fun hc => Bool.noConfusion (hcl.symm.trans hc),
      fun _ => hcq.2.2, h.slow⟩
    obtain ⟨rest, h1, h2⟩ := h.order hf
    rw [hh] at h1
    refine ⟨rest, h1, fun hd => ?_⟩
    -- nothing was dropped: the queue was empty
    simp only [Bool.or_eq_false_iff, decide_eq_false_iff_not, Nat.not_lt, Nat.le_zero_eq] at hd
    show rest = w.q.close.toList
    rw [hcq.2.1, h2 hd.1]
    exact RingQ.toList_eq_nil_of_cnt hd.2
  | @cEnd _ flush hh =>
    obtain ⟨hcl, hdf⟩ := h.closing (f := flush) (by rw [hh]; rfl)
    have hqc : w.q.closed = true := h.queueClosed (Or.inr (by rw [hh]; rfl))
    refine ⟨h.qinv, fun hf => ?_, fun hd => congrArg some (hdf hd), fun _ => hqc,
      fun hc => Bool.noConfusion (hcl.symm.trans hc), h.droppedClosed, h.slow⟩
    have := h.order hf
    rwa [hh] at this
  | closeBegin hh hc =>
    have hcf := h.notClosing hc
    have hnd : w.dropped = false := eq_false_of_ne_true fun hd => nomatch hcf.symm.trans (h.droppedNoFlush hd)
    refine ⟨h.qinv, fun hf => ?_, fun hd => Bool.noConfusion (hnd.symm.trans hd), fun hp => h.queueClosed (Or.imp_right nofun hp), nofun,
      h.droppedClosed, h.slow⟩
    have := h.order hf
    rwa [hh] at this

theorem run_induction {c : Cfg} {P : W → Prop} (hstep : ∀ {w w' l}, P w → step c w l = some w' → P w')
    {w w' : W} (h : P w) (ls : List Lbl) (hs : run c w ls = some w') : P w' := by
  induction ls generalizing w with
  | nil => cases hs; exact h
  | cons l ls ih =>
    simp only [run] at hs
    split at hs
    · next w1 h1 => exact ih (hstep h h1) hs
    · cases hs

theorem inv_reachable {c : Cfg} (hc : 0 < c.initCap) {w : W} (hr : Reachable c w) : WInv c w := by
  obtain ⟨ls, hs⟩ := hr
  exact run_induction (fun h hs => inv_step h _ hs) (WInv.init c hc) ls hs

/-- a flush invocation holds `w.mu` and will still look at the queue -/
def Holder.flushing : Holder → Bool
  | .tStart | .tBuf _ | .tWrite _ | .tAfter false => true
  | _ => false

def Holder.ofG : Holder → Bool
  | .gLocked | .gBuf _ | .gWrite _ => true
  | _ => false

/-- "something will still flush": an armed flush timer, a fired flush waiting for `w.mu`, a flush in
progress, or a producer that has added but not yet scheduled -/
def covered (w : W) : Prop :=
  w.flushAt.isSome = true ∨ 0 < w.flushPending ∨ w.holder.flushing = true ∨ w.pendCheck ≠ [] ∨ 0 < w.pendSched

structure TInv (w : W) : Prop where
  gdone : w.g = .done
  hnog : w.holder.ofG = false
  sched : w.timerScheduled = true → w.closed = false → (w.flushAt.isSome = true ∨ 0 < w.flushPending)
  errFailed : w.holder = .tAfter true → w.failed = true
  live : w.closed = false → w.failed = false → w.slowSeen = false → 0 < w.q.cnt → covered w

theorem TInv.init (c : Cfg) (hm : c.mode = .timer) : TInv (W.init c) :=
  ⟨by simp [W.init, hm], rfl, nofun, nofun, fun _ _ _ h => nomatch h⟩

theorem tinv_step {c : Cfg} (hm : c.mode = .timer) {w w' : W} (hw : WInv c w) (h : TInv w) (l : Lbl)
    (hs : step c w l = some w') : TInv w' := by
  have ⟨hg, hnog, hsch, herr, hlive⟩ := h
  cases step_inv hs with
  | addClosed | direct | tick | closeAgain => exact ⟨hg, hnog, hsch, herr, hlive⟩
  | gMove hnd => exact absurd hg hnd
  | gLock hg' | gFinish hg' => cases hg.symm.trans hg'
  | gLockedEmpty hh | gLockedBuf hh | gBufNone hh | gBufSome hh | gWrite hh => rw [hh] at hnog; cases hnog
  | addOk => exact { h with live := fun _ _ _ _ => Or.inr (Or.inr (Or.inr (Or.inl (by simp)))) }
  | checkSlow => exact { h with live := fun _ _ hsl => nomatch hsl }
  | checkOk => exact { h with live := fun _ _ _ _ => Or.inr (Or.inr (Or.inr (Or.inr (by simp [hm])))) }
  | schedArm => exact ⟨hg, hnog, fun _ _ => Or.inl rfl, herr, fun _ _ _ _ => Or.inl rfl⟩
  | schedSkip _ _ hcs =>
    refine { h with live := fun hc _ _ _ => ?_ }
    rcases hcs with hcl | hts
    · cases hcl.symm.trans hc
    · exact (hsch hts hc).elim Or.inl fun h => Or.inr (Or.inl h)
  | fire => exact ⟨hg, hnog, fun _ _ => Or.inr (Nat.succ_pos _), herr, fun _ _ _ _ => Or.inr (Or.inl (Nat.succ_pos _))⟩
  | tLock => exact ⟨hg, rfl, nofun, nofun, fun _ _ _ _ => Or.inr (Or.inr (Or.inl rfl))⟩
  | tFin =>
    have hcnt : (finishCollect c w).q.cnt = w.q.cnt := (finishCollect_q c hw.qinv).cnt.trans (RingQ.toList_length _)
    exact { h with live := fun hc hf hsl hp => hlive hc hf hsl (hcnt ▸ hp) }
  | shrinkFire =>
    have hcnt : w.q.doShrink.cnt = w.q.cnt := (Rel.self hw.qinv).doShrink.cnt.trans (RingQ.toList_length _)
    exact { h with live := fun hc hf hsl hp => hlive hc hf hsl (hcnt ▸ hp) }
  | tStartEmpty _ h0 => exact ⟨hg, rfl, hsch, nofun, fun _ _ _ hp => absurd (h0 ▸ hp) (Nat.lt_irrefl 0)⟩
  | tStartBuf | tBufSome => exact ⟨hg, rfl, hsch, nofun, fun _ _ _ _ => Or.inr (Or.inr (Or.inl rfl))⟩
  | tBufNone _ hq =>
    refine ⟨hg, rfl, hsch, nofun, fun _ _ _ hp => ?_⟩
    rw [← RingQ.toList_length, (removeManyInto_spec hw.qinv hq).2.2.2] at hp
    cases hp
  | @tWrite ok =>
    cases ok with
    | true => exact ⟨hg, rfl, hsch, nofun, fun _ _ _ _ => Or.inr (Or.inr (Or.inl rfl))⟩
    | false => exact ⟨hg, rfl, hsch, fun _ => rfl, fun _ hf => nomatch hf⟩
  | tAfterArm => exact ⟨hg, rfl, fun _ _ => Or.inl rfl, nofun, fun _ _ _ _ => Or.inl rfl⟩
  | tAfterKeep hh hk =>
    refine ⟨hg, rfl, hsch, nofun, fun hc hf _ hp => ?_⟩
    rcases hk with rfl | h0 | hcl | hts
    · cases (herr hh).symm.trans hf
    · exact absurd (h0 ▸ hp) (Nat.lt_irrefl 0)
    · cases hcl.symm.trans hc
    · exact (hsch hts hc).elim Or.inl fun h => Or.inr (Or.inl h)
  | closeBegin => exact ⟨hg, rfl, fun _ hc => Bool.noConfusion hc, nofun, fun hc => Bool.noConfusion hc⟩
  | @cStartFlush _ _ items hh =>
    have hcl := (hw.closing (f := true) (by rw [hh]; rfl)).1
    exact ⟨hg, by cases items <;> rfl, fun _ hc => Bool.noConfusion (hcl.symm.trans hc), by cases items <;> nofun,
      fun hc => Bool.noConfusion (hcl.symm.trans hc)⟩
  | cStartDrop hh | cWrite hh | cEnd hh =>
    have hcl := (hw.closing (by rw [hh]; rfl)).1
    exact ⟨hg, rfl, fun _ hc => Bool.noConfusion (hcl.symm.trans hc), nofun,
      fun hc => Bool.noConfusion (hcl.symm.trans hc)⟩

theorem tinv_run {c : Cfg} (hm : c.mode = .timer) {w w' : W} (hw : WInv c w) (h : TInv w) (ls : List Lbl)
    (hs : run c w ls = some w') : TInv w' :=
  (run_induction (P := fun w => WInv c w ∧ TInv w)
    (fun h hs => ⟨inv_step h.1 _ hs, tinv_step hm h.1 h.2 _ hs⟩) ⟨hw, h⟩ ls hs).2

end CentrifugeVerif.Writer
