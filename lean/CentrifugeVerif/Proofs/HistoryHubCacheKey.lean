import CentrifugeVerif.Model.HistoryHub
/-!
`resultCacheKey(ch, key) = Itoa(len(ch)) + "_" + ch + "_" + key` is injective: two (channel, key)
pairs never share a result-cache entry.
-/
namespace CentrifugeVerif.HistoryHub

theorem split_first_sep {α : Type} (x : α) :
    ∀ (a a' b b' : List α), x ∉ a → x ∉ a' → a ++ x :: b = a' ++ x :: b' → a = a' ∧ b = b'
  | [], [], _, _, _, _, h => ⟨rfl, (List.cons.inj h).2⟩
  | [], _ :: _, _, _, _, h2, h => absurd (List.mem_cons.mpr (.inl (List.cons.inj h).1)) h2
  | _ :: _, [], _, _, h1, _, h => absurd (List.mem_cons.mpr (.inl (List.cons.inj h).1.symm)) h1
  | y :: a, z :: a', b, b', h1, h2, h => by
    obtain ⟨hyz, ht⟩ := List.cons.inj h
    have := split_first_sep x a a' b b' (fun e => h1 (List.mem_cons_of_mem _ e))
      (fun e => h2 (List.mem_cons_of_mem _ e)) ht
    exact ⟨by rw [hyz, this.1], this.2⟩

/-- a string that extends another one without gaining bytes is that one -/
theorem eq_of_append_same_size {c1 c2 : String} {e : List Char} (he : c2.toList = c1.toList ++ e)
    (hs : c1.utf8ByteSize = c2.utf8ByteSize) : e = [] ∧ c2 = c1 := by
  have hc : c2 = c1 ++ String.ofList e := by
    apply String.ext; rw [String.toList_append, String.toList_ofList]; exact he
  rw [hc, String.utf8ByteSize_append] at hs
  have h0 := String.utf8ByteSize_eq_zero_iff.mp (by omega : (String.ofList e).utf8ByteSize = 0)
  have he0 : e = [] := by simpa [String.toList_ofList] using congrArg String.toList h0
  subst he0
  exact ⟨rfl, String.ext (by simpa using he)⟩

theorem prefix_same_size (c1 c2 : String) (r1 r2 : List Char)
    (h : c1.toList ++ r1 = c2.toList ++ r2) (hs : c1.utf8ByteSize = c2.utf8ByteSize) :
    c1 = c2 ∧ r1 = r2 := by
  rcases List.append_eq_append_iff.mp h with ⟨e, he, hr⟩ | ⟨e, he, hr⟩
  · obtain ⟨rfl, hc⟩ := eq_of_append_same_size he hs
    exact ⟨hc.symm, by simpa using hr⟩
  · obtain ⟨rfl, hc⟩ := eq_of_append_same_size he hs.symm
    exact ⟨hc, by simpa using hr.symm⟩

theorem toDigits_injective {m n : Nat} (h : Nat.toDigits 10 m = Nat.toDigits 10 n) : m = n := by
  have h1 := Nat.ofDigitChars_toDigits (b := 10) (n := m) (by omega) (by omega)
  have h2 := Nat.ofDigitChars_toDigits (b := 10) (n := n) (by omega) (by omega)
  rw [h] at h1; omega

theorem cacheKey_toList (ch key : String) :
    (cacheKey ch key).toList = Nat.toDigits 10 ch.utf8ByteSize ++ '_' :: (ch.toList ++ '_' :: key.toList) := by
  unfold cacheKey
  simp only [String.toList_append]
  have : (toString ch.utf8ByteSize).toList = Nat.toDigits 10 ch.utf8ByteSize := Nat.toList_repr
  rw [this]
  have hu : ("_" : String).toList = ['_'] := by decide
  rw [hu]
  simp

/-- **the result-cache key is injective** in (channel, idempotency key) -/
theorem cacheKey_injective (ch key ch' key' : String) (h : cacheKey ch key = cacheKey ch' key') :
    ch = ch' ∧ key = key' := by
  have hl := congrArg String.toList h
  rw [cacheKey_toList, cacheKey_toList] at hl
  obtain ⟨hd, hrest⟩ := split_first_sep '_' _ _ _ _ Nat.underscore_not_in_toDigits
    Nat.underscore_not_in_toDigits hl
  have hsize := toDigits_injective hd
  obtain ⟨hch, hk⟩ := prefix_same_size ch ch' _ _ hrest hsize
  exact ⟨hch, String.ext (List.cons.inj hk).2⟩

end CentrifugeVerif.HistoryHub
