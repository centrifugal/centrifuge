import CentrifugeVerif.Spec.Upgrade
/-!
The scanner `tokenListContainsValue` (model `lineContains`) against the declarative list membership
of `Spec/Upgrade.lean`.  `skipSpace`, `nextToken` and the cut at the first comma are all
`dropWhile`/`takeWhile` over a character class.
-/
namespace CentrifugeVerif.UpgradeSpec
open CentrifugeVerif.Sha1 (Bytes ascii)
open CentrifugeVerif.Handshake

theorem mem_takeWhile {α : Type} {p : α → Bool} {a : α} {l : List α} (h : a ∈ l.takeWhile p) : p a = true :=
  List.all_eq_true.mp List.all_takeWhile a h

theorem dropWhile_stops {α : Type} {p : α → Bool} {l : List α} {c : α} {rest : List α}
    (h : l.dropWhile p = c :: rest) : p c = false := by
  have := List.head?_dropWhile_not p l
  rw [h] at this
  exact this

theorem scan_append {α : Type} {p : α → Bool} {a x : List α} (ha : ∀ c ∈ a, p c = true)
    (hx : ∀ c rest, x = c :: rest → p c = false) :
    (a ++ x).takeWhile p = a ∧ (a ++ x).dropWhile p = x := by
  rw [List.takeWhile_append_of_pos ha, List.dropWhile_append_of_pos ha]
  cases x with
  | nil => exact ⟨List.append_nil a, rfl⟩
  | cons c rest =>
    have hc : ¬ p c = true := by rw [hx c rest rfl]; exact Bool.false_ne_true
    rw [List.takeWhile_cons_of_neg hc, List.dropWhile_cons_of_neg hc]
    exact ⟨List.append_nil a, rfl⟩

theorem skipSpace_eq (s : Bytes) : skipSpace s = s.dropWhile isLWS := by
  induction s with
  | nil => rfl
  | cons c cs ih => rw [skipSpace, List.dropWhile_cons, ih]

theorem nextToken_eq (s : Bytes) : nextToken s = (s.takeWhile isTokenOctet, s.dropWhile isTokenOctet) := by
  induction s with
  | nil => rfl
  | cons c cs ih =>
    rw [nextToken, List.takeWhile_cons, List.dropWhile_cons, ih]
    split <;> rfl

theorem comma_not_lws : isLWS 44 = false := by decide
theorem comma_not_token : isTokenOctet 44 = false := by decide

theorem lws_not_token (c : UInt8) (h : isLWS c = true) : isTokenOctet c = false := by
  unfold isLWS at h
  simp only [Bool.or_eq_true, beq_iff_eq] at h
  rcases h with rfl | rfl <;> decide

theorem token_not_lws (c : UInt8) (h : isTokenOctet c = true) : isLWS c = false := by
  cases hl : isLWS c with
  | false => rfl
  | true => rw [lws_not_token c hl] at h; cases h

theorem splitComma_ne_nil (s : Bytes) : splitComma s ≠ [] := by
  induction s with
  | nil => simp [splitComma]
  | cons c cs ih =>
    unfold splitComma
    split
    · simp
    · split <;> simp

theorem splitComma_cons (c : UInt8) (cs : Bytes) :
    splitComma (c :: cs) = (match splitComma cs with
      | [] => [[]]
      | e :: es => if c == 44 then [] :: e :: es else (c :: e) :: es) := rfl

theorem splitComma_nocomma (e : Bytes) (h : ∀ c ∈ e, c ≠ 44) : splitComma e = [e] := by
  induction e with
  | nil => rfl
  | cons c cs ih =>
    have hc : c ≠ 44 := h c (by simp)
    rw [splitComma_cons, ih (fun x hx => h x (by simp [hx]))]
    simp [hc]

theorem splitComma_append (e rest : Bytes) (h : ∀ c ∈ e, c ≠ 44) :
    splitComma (e ++ 44 :: rest) = e :: splitComma rest := by
  induction e with
  | nil =>
    rw [List.nil_append, splitComma_cons]
    cases hs : splitComma rest with
    | nil => exact absurd hs (splitComma_ne_nil rest)
    | cons x xs => rfl
  | cons c cs ih =>
    have hc : c ≠ 44 := h c (by simp)
    rw [List.cons_append, splitComma_cons, ih (fun x hx => h x (by simp [hx]))]
    simp [hc]

theorem splitComma_cases (s : Bytes) :
    ((∀ c ∈ s, c ≠ 44) ∧ splitComma s = [s]) ∨
    ∃ e rest, s = e ++ 44 :: rest ∧ (∀ c ∈ e, c ≠ 44) ∧ splitComma s = e :: splitComma rest := by
  have hs : s = s.takeWhile (· != 44) ++ s.dropWhile (· != 44) := List.takeWhile_append_dropWhile.symm
  have he : ∀ c ∈ s.takeWhile (· != 44), c ≠ 44 := fun c hc => by simpa using mem_takeWhile hc
  cases hd : s.dropWhile (· != 44) with
  | nil =>
    rw [hd, List.append_nil] at hs
    rw [← hs] at he
    exact .inl ⟨he, splitComma_nocomma s he⟩
  | cons c rest =>
    have hc : c = 44 := by simpa using dropWhile_stops hd
    rw [hd, hc] at hs
    exact .inr ⟨_, rest, hs, he, by rw [hs, splitComma_append _ _ (hs ▸ he)]; exact hs ▸ rfl⟩

theorem elem_no_comma (ws1 t ws2 : Bytes) (h1 : IsOWS ws1) (h2 : IsOWS ws2)
    (ht : ∀ c ∈ t, isTokenOctet c = true) : ∀ c ∈ ws1 ++ t ++ ws2, c ≠ 44 := by
  intro c hc h44
  subst h44
  simp only [List.mem_append] at hc
  rcases hc with (hc | hc) | hc
  · have := h1 _ hc; rw [comma_not_lws] at this; cases this
  · have := ht _ hc; rw [comma_not_token] at this; cases this
  · have := h2 _ hc; rw [comma_not_lws] at this; cases this

theorem lineContains_step (v : Bytes) (f : Nat) (s : Bytes) :
    lineContains v (f + 1) s =
      (if (nextToken (skipSpace s)).1.isEmpty then false
       else match skipSpace (nextToken (skipSpace s)).2 with
         | [] => foldEq (nextToken (skipSpace s)).1 v
         | c :: rest => if c ≠ 44 then false else if foldEq (nextToken (skipSpace s)).1 v then true
                        else lineContains v f rest) := by
  rfl

/-- scanning one well-formed element followed by the end of the line or a comma -/
theorem scan_elem (e t tail : Bytes) (he : IsElem e t) (htail : tail = [] ∨ ∃ r, tail = 44 :: r) :
    (nextToken (skipSpace (e ++ tail))).1 = t ∧
      skipSpace (nextToken (skipSpace (e ++ tail))).2 = tail := by
  obtain ⟨ws1, ws2, rfl, h1, h2, hne, ht⟩ := he
  have htail_lws : ∀ c rest, tail = c :: rest → isLWS c = false := by
    rintro c rest h
    rcases htail with rfl | ⟨r, rfl⟩
    · cases h
    · injection h with h _; subst h; exact comma_not_lws
  have htail_tok : ∀ c rest, ws2 ++ tail = c :: rest → isTokenOctet c = false := by
    intro c rest h
    cases ws2 with
    | nil =>
      rcases htail with rfl | ⟨r, rfl⟩
      · cases h
      · injection h with h _; subst h; exact comma_not_token
    | cons w ws => injection h with h _; subst h; exact lws_not_token _ (h2 _ (by simp))
  have hhead : ∀ c rest, t ++ (ws2 ++ tail) = c :: rest → isLWS c = false := by
    intro c rest h
    cases t with
    | nil => exact absurd rfl hne
    | cons x xs => injection h with h _; subst h; exact token_not_lws _ (ht _ (by simp))
  have e1 : ws1 ++ t ++ ws2 ++ tail = ws1 ++ (t ++ (ws2 ++ tail)) := by simp
  rw [e1, skipSpace_eq, (scan_append h1 hhead).2, nextToken_eq, (scan_append ht htail_tok).1,
    (scan_append ht htail_tok).2, skipSpace_eq]
  exact ⟨rfl, (scan_append h2 htail_lws).2⟩

theorem elem_token_unique {e t t' : Bytes} (h : IsElem e t) (h' : IsElem e t') : t = t' := by
  rw [← (scan_elem e t [] h (.inl rfl)).1, (scan_elem e t' [] h' (.inl rfl)).1]

theorem lineContains_last (v : Bytes) (f : Nat) {e t : Bytes} (he : IsElem e t) :
    lineContains v (f + 1) e = foldEq t v := by
  obtain ⟨h1, h2⟩ := scan_elem e t [] he (.inl rfl)
  rw [List.append_nil] at h1 h2
  rw [lineContains_step, h1, h2, if_neg]
  obtain ⟨_, _, _, _, _, hne, _⟩ := he
  exact mt List.isEmpty_iff.mp hne

theorem lineContains_cons (v : Bytes) (f : Nat) {e t : Bytes} (rest : Bytes) (he : IsElem e t) :
    lineContains v (f + 1) (e ++ 44 :: rest) = (foldEq t v || lineContains v f rest) := by
  obtain ⟨h1, h2⟩ := scan_elem e t (44 :: rest) he (.inr ⟨rest, rfl⟩)
  rw [lineContains_step, h1, h2, if_neg]
  · cases foldEq t v <;> simp
  · obtain ⟨_, _, _, _, _, hne, _⟩ := he
    exact mt List.isEmpty_iff.mp hne

/-- **soundness for every header line**: when the scanner finds the token, the line has it as a
well-formed list element (all elements before it being well-formed too). -/
theorem lineContains_sound (v : Bytes) : ∀ (f : Nat) (s : Bytes), lineContains v f s = true → ListHas s v := by
  intro f
  induction f with
  | zero => intro s h; simp [lineContains] at h
  | succ f ih =>
    intro s h
    rw [lineContains_step, skipSpace_eq, nextToken_eq, skipSpace_eq] at h
    generalize hws1 : s.takeWhile isLWS = ws1 at h
    generalize hs0 : s.dropWhile isLWS = s0 at h
    generalize ht : s0.takeWhile isTokenOctet = t at h
    generalize hs1 : s0.dropWhile isTokenOctet = s1 at h
    generalize hws2 : s1.takeWhile isLWS = ws2 at h
    have hs : s = ws1 ++ t ++ ws2 ++ s1.dropWhile isLWS := by
      rw [← hws1, ← ht, ← hws2, List.append_assoc, List.append_assoc, List.takeWhile_append_dropWhile, hs1.symm,
        List.takeWhile_append_dropWhile, ← hs0, List.takeWhile_append_dropWhile]
    have hws1' : IsOWS ws1 := fun c hc => mem_takeWhile (hws1 ▸ hc)
    have ht' : ∀ c ∈ t, isTokenOctet c = true := fun c hc => mem_takeWhile (ht ▸ hc)
    have hws2' : IsOWS ws2 := fun c hc => mem_takeWhile (hws2 ▸ hc)
    by_cases hte : t.isEmpty = true
    · simp [hte] at h
    simp only [hte, Bool.false_eq_true, if_false] at h
    have helem : IsElem (ws1 ++ t ++ ws2) t :=
      ⟨ws1, ws2, rfl, hws1', hws2', fun h0 => hte (h0 ▸ rfl), ht'⟩
    have hnc := elem_no_comma ws1 t ws2 hws1' hws2' ht'
    cases hs2 : s1.dropWhile isLWS with
    | nil =>
      rw [hs2] at h hs
      rw [List.append_nil] at hs
      exact ⟨_, by rw [hs, splitComma_nocomma _ hnc]; simp, t, helem, h⟩
    | cons c rest =>
      rw [hs2] at h hs
      by_cases hc : c = 44
      · subst hc
        have hsplit : splitComma s = (ws1 ++ t ++ ws2) :: splitComma rest := by
          rw [hs, splitComma_append _ _ hnc]
        simp only [ne_eq, not_true_eq_false, if_false] at h
        by_cases hf : foldEq t v = true
        · exact ⟨_, by rw [hsplit]; simp, t, helem, hf⟩
        · simp only [hf, Bool.false_eq_true, if_false] at h
          obtain ⟨e', he', t', hel', hf'⟩ := ih rest h
          exact ⟨e', by rw [hsplit]; simp [he'], t', hel', hf'⟩
      · simp [hc] at h

/-- **completeness on well-formed lines** -/
theorem lineContains_complete (v : Bytes) : ∀ (f : Nat) (s : Bytes), s.length < f →
    WellFormedList s → ListHas s v → lineContains v f s = true := by
  intro f
  induction f with
  | zero => intro s h; omega
  | succ f ih =>
    intro s hlen hwf ⟨e', he', t', hel', hf'⟩
    rcases splitComma_cases s with ⟨_, hsp⟩ | ⟨e, rest, rfl, _, hsp⟩
    · rw [hsp, List.mem_singleton] at he'
      subst he'
      rw [lineContains_last v f hel']
      exact hf'
    · obtain ⟨t, het⟩ := hwf e (by rw [hsp]; simp)
      rw [lineContains_cons v f rest het, Bool.or_eq_true]
      rw [hsp] at he'
      rcases List.mem_cons.mp he' with rfl | he'
      · exact .inl (by rw [elem_token_unique het hel']; exact hf')
      · refine .inr (ih rest ?_ (fun e'' h'' => hwf e'' (by rw [hsp]; exact List.mem_cons_of_mem _ h''))
          ⟨e', he', t', hel', hf'⟩)
        rw [List.length_append, List.length_cons] at hlen
        omega

end CentrifugeVerif.UpgradeSpec
