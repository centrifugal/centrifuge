import CentrifugeVerif.Model.LuaRedis
/-
Symbolic-execution toolkit for the translated Lua scripts: how `run` distributes over the monad
operations the generated code uses, equation lemmas for the Redis commands of the stream-broker
scripts, and what `redis.call` returns on a hash whose content is known.
-/
namespace CentrifugeVerif.LuaRedis
open CentrifugeVerif.Lua CentrifugeVerif.Redis

@[simp] theorem run_pure {α : Type} (a : α) (s : Redis) : run (pure a : RedisM α) s = (.ok a, s) := rfl

theorem run_bind {α β : Type} (x : RedisM α) (f : α → RedisM β) (s : Redis) :
    run (x >>= f) s = match run x s with
      | (.ok a, s') => run (f a) s'
      | (.error e, s') => (.error e, s') := by
  simp only [run, ExceptT.run_bind]
  show (StateT.run (ExceptT.run x >>= _) s) = _
  simp only [StateT.run_bind]
  show (match (ExceptT.run x).run s with | (a, s') => _) = _
  rcases h : (ExceptT.run x).run s with ⟨a, s'⟩
  cases a <;> rfl

@[simp] theorem run_map {α β : Type} (x : RedisM α) (f : α → β) (s : Redis) :
    run (f <$> x) s = match run x s with
      | (.ok a, s') => (.ok (f a), s')
      | (.error e, s') => (.error e, s') := by
  rw [← bind_pure_comp, run_bind]
  rcases run x s with ⟨a, s'⟩
  cases a <;> rfl

@[simp] theorem run_liftE_ok {α : Type} (a : α) (s : Redis) : run (liftE (.ok a)) s = (.ok a, s) := rfl
@[simp] theorem run_liftE_err {α : Type} (e : LuaErr) (s : Redis) :
    run (liftE (.error e : Except LuaErr α)) s = (.error e, s) := rfl
@[simp] theorem run_throw {α : Type} (e : LuaErr) (s : Redis) : run (throw e : RedisM α) s = (.error e, s) := rfl
@[simp] theorem run_ite {α : Type} (c : Prop) [Decidable c] (a b : RedisM α) (s : Redis) :
    run (if c then a else b) s = if c then run a s else run b s := by split <;> rfl
@[simp] theorem run_call (args : List LVal) (s : Redis) : run (call args) s = callFn args s := rfl

/-! the left sides unify with a script part up to unfolding -/
theorem run_call_bind {α : Type} {args : List LVal} {s s' : Redis} {v : LVal} (f : LVal → RedisM α)
    (h : callFn args s = (.ok v, s')) : run (call args >>= f) s = run (f v) s' := by
  rw [run_bind, run_call, h]

theorem run_liftE_bind {α β : Type} {x : Except LuaErr α} {a : α} {s : Redis} (f : α → RedisM β) (h : x = .ok a) :
    run (liftE x >>= f) s = run (f a) s := by
  subst h
  rfl

theorem run_if_pos {α : Type} {c : Prop} [Decidable c] {a b : RedisM α} {s : Redis} (hc : c) :
    run (if c then a else b) s = run a s := by rw [if_pos hc]

@[simp] theorem liftE_ok_bind {α β : Type} (a : α) (f : α → RedisM β) : liftE (.ok a) >>= f = f a := rfl

@[simp] theorem except_pure {ε α : Type} (a : α) : (pure a : Except ε α) = .ok a := rfl
@[simp] theorem except_ok_bind {ε α β : Type} (a : α) (f : α → Except ε β) : (Except.ok a >>= f) = f a := rfl
@[simp] theorem except_error_bind {ε α β : Type} (e : ε) (f : α → Except ε β) :
    ((Except.error e : Except ε α) >>= f) = .error e := rfl
@[simp] theorem except_map_ok {ε α β : Type} (a : α) (f : α → β) : (f <$> (Except.ok a : Except ε α)) = .ok (f a) := rfl

@[simp] theorem truthy_ofBool (b : Bool) : truthy (ofBool b) = b := by cases b <;> rfl
@[simp] theorem truthy_bool (b : Bool) : truthy (.bool b) = b := truthy_ofBool b
@[simp] theorem truthy_str (a : String) : truthy (.str a) = true := rfl
@[simp] theorem eq_str (a b : String) : Lua.eq (.str a) (.str b) = (a == b) := rfl

/-- `a ~= b` on strings -/
theorem truthy_ne_str {a b : String} (h : a ≠ b) : truthy (ofBool (!Lua.eq (.str a) (.str b))) = true := by
  simp [h]

@[simp] theorem index_one (a : LVal) (l : List LVal) : index (.tbl (a :: l)) (.num 1) = .ok a := rfl
@[simp] theorem index_two (a b : LVal) (l : List LVal) : index (.tbl (a :: b :: l)) (.num 2) = .ok b := rfl
@[simp] theorem index_three (a b c : LVal) (l : List LVal) :
    index (.tbl (a :: b :: c :: l)) (.num 3) = .ok c := rfl

@[simp] theorem le_num (a b : Int) : Lua.le (.num a) (.num b) = .ok (decide (a ≤ b)) := rfl

@[simp] theorem respToLua_optBulk_some (x : String) : respToLua (optBulk (some x)) = .str x := rfl
@[simp] theorem respToLua_optBulk_none : respToLua (optBulk none) = .bool false := rfl

theorem tonumber_str {s : String} {i : Int} (h : parseNumInt s = some i) :
    tonumber (.str s) = .ok (.num (round53 i)) := by
  show (match parseNumInt s with | some i => _ | none => _) = _
  rw [h]

theorem round53_of_lt (i : Int) (h : i.natAbs < 2 ^ 53) : round53 i = i := by
  unfold round53
  have hb : (if i.natAbs = 0 then 0 else i.natAbs.log2 + 1) ≤ 53 := by
    split
    · omega
    · rename_i h0
      have := (Nat.log2_lt h0).2 h
      omega
  simp only [hb, ↓reduceIte]

/-- 2^53 + 1 is no double and rounds (ties to even) to 2^53 -/
theorem tonumber_collision_2_53 :
    tonumber (.str "9007199254740993") = tonumber (.str "9007199254740992") := by
  rw [tonumber_str (i := 9007199254740993) (by decide), tonumber_str (i := 9007199254740992) (by decide)]
  rfl

/-! command names are already lower case -/
@[simp] theorem lower_hget : strLower "hget" = "hget" := by rfl
@[simp] theorem lower_hmget : strLower "hmget" = "hmget" := by rfl
@[simp] theorem lower_hset : strLower "hset" = "hset" := by rfl
@[simp] theorem lower_hincrby : strLower "hincrby" = "hincrby" := by rfl
@[simp] theorem lower_expire : strLower "expire" = "expire" := by rfl
@[simp] theorem lower_del : strLower "del" = "del" := by rfl
@[simp] theorem lower_xadd : strLower "xadd" = "xadd" := by rfl
@[simp] theorem lower_xrange : strLower "xrange" = "xrange" := by rfl
@[simp] theorem lower_xrevrange : strLower "xrevrange" = "xrevrange" := by rfl
@[simp] theorem lower_publish : strLower "publish" = "publish" := by rfl

/-! equation lemmas of `exec` for the commands of the stream-broker scripts -/
theorem exec_hget (r : Redis) (k f : String) :
    exec r "hget" [k, f] = (do let h ← getHash r k; pure (optBulk (hlookup h f), r)) := by rfl

theorem exec_hmget2 (r : Redis) (k f1 f2 : String) :
    exec r "hmget" [k, f1, f2] =
      (do let h ← getHash r k; pure (.arr [optBulk (hlookup h f1), optBulk (hlookup h f2)], r)) := by rfl

theorem exec_hmget3 (r : Redis) (k f1 f2 f3 : String) :
    exec r "hmget" [k, f1, f2, f3] =
      (do let h ← getHash r k
          pure (.arr [optBulk (hlookup h f1), optBulk (hlookup h f2), optBulk (hlookup h f3)], r)) := by rfl

theorem exec_hset1 (r : Redis) (k f v : String) :
    exec r "hset" [k, f, v] =
      (do let h ← getHash r k
          pure (.int (([f].eraseDups.filter (fun x => (hlookup h x).isNone)).length : Nat),
                putHash r k (hset1 h f v))) := by rfl

theorem exec_hset2 (r : Redis) (k f1 v1 f2 v2 : String) :
    exec r "hset" [k, f1, v1, f2, v2] =
      (do let h ← getHash r k
          pure (.int (([f1, f2].eraseDups.filter (fun x => (hlookup h x).isNone)).length : Nat),
                putHash r k (hset1 (hset1 h f1 v1) f2 v2))) := by rfl

theorem exec_hincrby (r : Redis) (k f n : String) :
    exec r "hincrby" [k, f, n] =
      (do let d ← parseInt n
          let h ← getHash r k
          let cur ← match hlookup h f with
            | none => pure (0 : Int)
            | some s => match parseDecInt s with
              | some i => pure i
              | none => rerr "ERR hash value is not an integer"
          let v := cur + d
          if v > 9223372036854775807 ∨ v < -9223372036854775808 then
            rerr "ERR increment or decrement would overflow"
          else pure (.int v, putHash r k (hset1 h f (toString v)))) := by rfl

theorem exec_del1 (r : Redis) (k : String) :
    exec r "del" [k] = pure (.int (([k].eraseDups.filter (fun x => (r.db x).isSome)).length : Nat), r.put k none) := by rfl

theorem callFn_ok {name : String} {args : List LVal} {as : List String} {s s' : Redis} {resp : Resp}
    (ha : args.mapM argToString = .ok as) (h : exec s (strLower name) as = .ok (resp, s')) :
    callFn (.str name :: args) s = (.ok (respToLua resp), s') := by
  simp only [callFn, argToString, except_pure, ha, h]

section call
variable {s : Redis} {k : String} {h : List (String × String)} (hk : getHash s k = .ok h)
include hk

theorem call_hget (f : String) :
    callFn [.str "hget", .str k, .str f] s = (.ok (respToLua (optBulk (hlookup h f))), s) :=
  callFn_ok (as := [k, f]) rfl (by rw [lower_hget, exec_hget, hk]; rfl)

theorem call_hmget2 (f1 f2 : String) :
    callFn [.str "hmget", .str k, .str f1, .str f2] s
      = (.ok (.tbl [respToLua (optBulk (hlookup h f1)), respToLua (optBulk (hlookup h f2))]), s) :=
  callFn_ok (as := [k, f1, f2]) rfl (by rw [lower_hmget, exec_hmget2, hk]; rfl)

theorem call_hmget3 (f1 f2 f3 : String) :
    callFn [.str "hmget", .str k, .str f1, .str f2, .str f3] s
      = (.ok (.tbl [respToLua (optBulk (hlookup h f1)), respToLua (optBulk (hlookup h f2)),
          respToLua (optBulk (hlookup h f3))]), s) :=
  callFn_ok (as := [k, f1, f2, f3]) rfl (by rw [lower_hmget, exec_hmget3, hk]; rfl)

theorem call_hset1 (f v : String) :
    callFn [.str "hset", .str k, .str f, .str v] s
      = (.ok (respToLua (.int (([f].eraseDups.filter fun x => (hlookup h x).isNone).length : Nat))),
          putHash s k (hset1 h f v)) :=
  callFn_ok (as := [k, f, v]) rfl (by rw [lower_hset, exec_hset1, hk]; rfl)

/-- `hsmall`: neither the 64-bit range check nor the reply conversion to a double interferes -/
theorem call_hincrby_one (f : String) {c : Int}
    (hc : (match hlookup h f with | none => some 0 | some x => parseDecInt x) = some c)
    (hsmall : (c + 1).natAbs < 2 ^ 53) :
    callFn [.str "hincrby", .str k, .str f, .num 1] s
      = (.ok (.num (c + 1)), putHash s k (hset1 h f (toString (c + 1)))) := by
  have hov : ¬(c + 1 > 9223372036854775807 ∨ c + 1 < -9223372036854775808) := by omega
  refine (callFn_ok (as := [k, f, "1"]) rfl (resp := .int (c + 1)) ?_).trans
    (by rw [respToLua, round53_of_lt _ hsmall])
  rw [lower_hincrby, exec_hincrby, hk, show parseInt "1" = .ok 1 from rfl]
  simp only [except_ok_bind]
  cases hf : hlookup h f <;> rw [hf] at hc
  · cases hc
    rfl
  · simp only [hc]
    exact if_neg hov

end call

theorem call_del1 (s : Redis) (k : String) :
    callFn [.str "del", .str k] s
      = (.ok (respToLua (.int (([k].eraseDups.filter fun x => (s.db x).isSome).length : Nat))), s.put k none) :=
  callFn_ok (as := [k]) rfl (by rw [lower_del, exec_del1]; rfl)

theorem find_map_set (t : List (String × String)) (f g v : String) (hne : f ≠ g) :
    List.find? (fun x => x.1 == g) (List.map (fun p => if (p.1 == f) = true then (f, v) else p) t)
      = List.find? (fun x => x.1 == g) t := by
  induction t with
  | nil => rfl
  | cons p t ih =>
    rw [List.map_cons, List.find?_cons, List.find?_cons, ih]
    by_cases hp : (p.1 == f) = true
    · rw [if_pos hp, eq_of_beq hp]
      simp only [beq_false_of_ne hne]
    · rw [if_neg hp]

theorem hlookup_hset1_ne (h : List (String × String)) (f g v : String) (hne : f ≠ g) :
    hlookup (hset1 h f v) g = hlookup h g := by
  unfold hset1 hlookup
  split
  · rw [find_map_set h f g v hne]
  · simp [List.find?_append, hne]

theorem hset1_ne_nil (h : List (String × String)) (f v : String) : (hset1 h f v).isEmpty = false := by
  unfold hset1
  split
  · cases h <;> simp_all
  · simp

theorem getHash_putHash (s : Redis) (k : String) (h : List (String × String)) (hne : h.isEmpty = false) :
    getHash (putHash s k h) k = .ok h := by
  simp [putHash, hne, Redis.setVal, Redis.put, getHash]

end CentrifugeVerif.LuaRedis
