import CentrifugeVerif.Model.Decimal
/-!
Exact-comparison specification for decimals and the proof that the model of `Decimal.Cmp`
(sign analysis + rescaling to the larger precision) agrees with it; then the u64 path of `Parse`.
-/
namespace CentrifugeVerif.Decimal

/-- the numerator of `d` over the common denominator `10^(d.prec + k)`, i.e. `d · 10^(d.prec+k)` -/
def Dec.num (d : Dec) (k : Nat) : Int :=
  if d.neg then -((d.coef * 10 ^ k : Nat) : Int) else ((d.coef * 10 ^ k : Nat) : Int)

/-- `d < e` as rational numbers `±coef / 10^prec` (cross-multiplied, denominators are positive) -/
def exactLt (d e : Dec) : Prop := d.num e.prec < e.num d.prec
/-- `d ≤ e` as rational numbers -/
def exactLe (d e : Dec) : Prop := d.num e.prec ≤ e.num d.prec

instance (d e : Dec) : Decidable (exactLt d e) := by unfold exactLt; infer_instance
instance (d e : Dec) : Decidable (exactLe d e) := by unfold exactLe; infer_instance

/-- no negative zero -/
def Dec.Norm (d : Dec) : Prop := d.neg = true → d.coef ≠ 0

theorem mkDec_norm (neg : Bool) (c p : Nat) : (mkDec neg c p).Norm := by
  unfold mkDec Dec.Norm
  split
  · intro h; cases h
  · next h => intro _; exact h

theorem parse_norm {s : Str} {d : Dec} (h : parse s = some d) : d.Norm := by
  unfold parse at h
  simp only at h
  -- every branch ends in `none` or in `some (mkDec …)`
  repeat' split at h
  all_goals first
    | (cases h; exact mkDec_norm _ _ _)
    | cases h

theorem cmpNat_sign (a b : Nat) :
    (cmpNat a b < 0 ↔ a < b) ∧ (cmpNat a b ≤ 0 ↔ a ≤ b) ∧
    (cmpNat a b > 0 ↔ b < a) ∧ (cmpNat a b ≥ 0 ↔ b ≤ a) := by
  unfold cmpNat; split <;> (try split) <;> omega

theorem cmpNat_mul_right (a b k : Nat) (hk : 0 < k) : cmpNat (a * k) (b * k) = cmpNat a b := by
  unfold cmpNat
  have h1 : a * k < b * k ↔ a < b := Nat.mul_lt_mul_right hk
  have h2 : a * k > b * k ↔ a > b := Nat.mul_lt_mul_right hk
  simp only [h1, h2]

theorem cmpNat_neg (a b : Nat) : -(cmpNat a b) = cmpNat b a := by
  unfold cmpNat
  split <;> split <;> simp <;> omega

theorem pow10_pos (k : Nat) : 0 < 10 ^ k := Nat.pow_pos (by omega)

theorem pow10_sub_mul {a b : Nat} (h : a ≤ b) : 10 ^ (b - a) * 10 ^ a = 10 ^ b := by
  rw [← Nat.pow_add, Nat.sub_add_cancel h]

/-- rescaling to the larger precision = cross-multiplying with both denominators -/
theorem cmpSameSign_eq (d e : Dec) :
    cmpSameSign d e = cmpNat (d.coef * 10 ^ e.prec) (e.coef * 10 ^ d.prec) := by
  unfold cmpSameSign
  split
  · next h => rw [h, cmpNat_mul_right _ _ _ (pow10_pos _)]
  · split
    · next h =>
      rw [← pow10_sub_mul (Nat.le_of_lt h), ← Nat.mul_assoc, cmpNat_mul_right _ _ _ (pow10_pos _)]
    · next h1 h2 =>
      rw [cmpNat_neg, ← pow10_sub_mul (a := e.prec) (b := d.prec) (by omega), ← Nat.mul_assoc,
        cmpNat_mul_right _ _ _ (pow10_pos _)]

/-- **`Cmp` is exact**: on normalised decimals the sign of `cmp d e` is the order of the two
rational numbers. -/
theorem cmp_exact (d e : Dec) (hd : d.Norm) (he : e.Norm) :
    (cmp d e < 0 ↔ exactLt d e) ∧ (cmp d e ≤ 0 ↔ exactLe d e) ∧
    (cmp d e > 0 ↔ exactLt e d) ∧ (cmp d e ≥ 0 ↔ exactLe e d) := by
  unfold cmp exactLt exactLe Dec.num
  rw [cmpSameSign_eq]
  have hposA : d.neg = true → 0 < d.coef * 10 ^ e.prec :=
    fun h => Nat.mul_pos (Nat.pos_of_ne_zero (hd h)) (pow10_pos _)
  have hposB : e.neg = true → 0 < e.coef * 10 ^ d.prec :=
    fun h => Nat.mul_pos (Nat.pos_of_ne_zero (he h)) (pow10_pos _)
  generalize d.coef * 10 ^ e.prec = A at *
  generalize e.coef * 10 ^ d.prec = B at *
  have ⟨h1, h2, h3, h4⟩ := cmpNat_sign A B
  generalize cmpNat A B = c at *
  cases hdn : d.neg <;> cases hen : e.neg <;>
    simp only [Bool.false_eq_true, not_false_eq_true, not_true_eq_false, and_self, and_true, and_false,
      if_true, if_false]
  · omega
  · have := hposB hen; omega
  · have := hposA hdn; omega
  · omega

/-! ## accepted grammar and value of short numerals (the u64 path of `Parse`) -/

/-- every byte is an ASCII digit -/
def AllDigits (ds : Str) : Prop := ∀ c ∈ ds, isDigit c = true

instance (ds : Str) : Decidable (AllDigits ds) := by unfold AllDigits; infer_instance

/-- the natural number a digit string denotes, continuing from `acc` -/
def natValFrom (acc : Nat) (ds : Str) : Nat := ds.foldl (fun a c => a * 10 + digitVal c) acc
/-- the natural number a digit string denotes -/
def natVal (ds : Str) : Nat := natValFrom 0 ds

/-- the three accepted sign prefixes and the sign they denote -/
def SignOf (sign : Str) (neg : Bool) : Prop :=
  (sign = [] ∧ neg = false) ∨ (sign = [cPlus] ∧ neg = false) ∨ (sign = [cMinus] ∧ neg = true)

/-- the shape of a numeral: sign, digits, optionally a dot and 1–19 digits -/
def NumeralShape (s : Str) : Prop :=
  ∃ sign neg ds fs, SignOf sign neg ∧ AllDigits ds ∧ ds ≠ [] ∧ AllDigits fs ∧ fs.length ≤ 19 ∧
    ((fs = [] ∧ s = sign ++ ds) ∨ (fs ≠ [] ∧ s = sign ++ (ds ++ cDot :: fs)))

theorem allDigits_nil : AllDigits [] := fun _ h => nomatch h

theorem allDigits_cons {a : UInt8} {t : Str} : AllDigits (a :: t) ↔ isDigit a = true ∧ AllDigits t :=
  List.forall_mem_cons

theorem isDigit_ne_dot {c : UInt8} (h : isDigit c = true) : c ≠ cDot ∧ c ≠ cMinus ∧ c ≠ cPlus := by
  unfold isDigit at h
  simp only [Bool.and_eq_true, decide_eq_true_eq] at h
  refine ⟨?_, ?_, ?_⟩ <;> (intro hc; subst hc; revert h; decide)

theorem parseSmall_ne_overflow (s : Str) (coef prec : Nat) : parseSmall s coef prec ≠ .overflow := by
  induction s generalizing coef prec with
  | nil => rw [parseSmall]; split <;> simp
  | cons a t ih =>
    rw [parseSmall]
    -- every branch ends in `.invalid`, `.precOut` or the call on the rest
    repeat' split
    all_goals first | exact ih _ _ | simp

def U.toDec (neg : Bool) : U → Option Dec
  | .ok c p => some (mkDec neg c p)
  | _ => none

/-- `h0`: without a prefix, `rest` must not begin with a sign byte (it would be taken for the prefix) -/
theorem parse_signed {sign : Str} {neg : Bool} (hs : SignOf sign neg) (rest : Str)
    (h0 : sign = [] → rest.head? ≠ some cMinus ∧ rest.head? ≠ some cPlus) (hl : rest.length ≤ 19) :
    parse (sign ++ rest) =
      if rest = [] ∨ rest.head? = some cDot then none else (parseSmall rest 0 0).toDec neg := by
  have hu : parseU128 (sign ++ rest) =
      if rest = [] ∨ rest.head? = some cDot then (false, .invalid) else (neg, parseSmall rest 0 0) := by
    cases rest with
    | nil => rcases hs with ⟨rfl, _⟩ | ⟨rfl, _⟩ | ⟨rfl, _⟩ <;> rfl
    | cons d r =>
      have hl' : r.length + 1 ≤ 19 := hl
      rcases hs with ⟨rfl, rfl⟩ | ⟨rfl, rfl⟩ | ⟨rfl, rfl⟩
      · obtain ⟨hm, hp⟩ := h0 rfl
        by_cases hd : d = cDot <;> simp_all [parseU128, maxDigitU64]
      · simp (config := {decide := true}) [parseU128, maxDigitU64, hl']
      · simp (config := {decide := true}) [parseU128, maxDigitU64, hl']
  have hsl : sign.length ≤ 1 := by
    rcases hs with ⟨rfl, _⟩ | ⟨rfl, _⟩ | ⟨rfl, _⟩ <;> decide
  have hlen : (sign ++ rest).length ≤ 41 := by rw [List.length_append]; omega
  unfold parse
  rw [hu]
  by_cases hC : rest = [] ∨ rest.head? = some cDot
  · simp only [hC, hlen, if_true]
    split <;> (try split) <;> rfl
  · have hne : (sign ++ rest).length ≠ 0 := by
      rw [List.length_append]; have := List.length_pos_iff.mpr (mt .inl hC); omega
    rw [if_neg hne, if_neg (by unfold maxStrLen; omega), if_pos hlen, if_neg hC, if_neg hC]
    have := parseSmall_ne_overflow rest 0 0
    cases hp : parseSmall rest 0 0 <;> first | rfl | exact absurd hp this

theorem parseSmall_digits (ds rest : Str) (coef prec : Nat) (h : AllDigits ds) :
    parseSmall (ds ++ rest) coef prec = parseSmall rest (natValFrom coef ds) prec := by
  induction ds generalizing coef with
  | nil => rfl
  | cons c t ih =>
    obtain ⟨hc, ht⟩ := allDigits_cons.mp h
    simp only [List.cons_append, parseSmall]
    rw [if_neg (isDigit_ne_dot hc).1]
    simp only [hc, Bool.not_true, Bool.false_eq_true, if_false]
    rw [ih _ ht]; rfl

theorem parseSmall_nil (neg : Bool) (coef prec : Nat) :
    (parseSmall [] coef prec).toDec neg = some (mkDec neg coef prec) := by
  rw [parseSmall]
  split
  · next h => simp [U.toDec, mkDec, h]
  · rfl

theorem parse_signed_digits {sign : Str} {neg : Bool} {ds : Str} (hs : SignOf sign neg)
    (hd : AllDigits ds) (hne : ds ≠ []) (tail : Str) (hl : (ds ++ tail).length ≤ 19) :
    parse (sign ++ (ds ++ tail)) = (parseSmall tail (natVal ds) 0).toDec neg := by
  rw [natVal, ← parseSmall_digits ds tail 0 0 hd]
  obtain ⟨a, t, rfl⟩ := List.exists_cons_of_ne_nil hne
  obtain ⟨h1, h2, h3⟩ := isDigit_ne_dot (allDigits_cons.mp hd).1
  rw [parse_signed hs _ (fun _ => by simpa using ⟨h2, h3⟩) hl, if_neg (by simpa using h1)]

example : parse [45, 49, 46, 53, 48] = some ⟨true, 150, 2⟩ := by decide

/-! ## … and conversely: what the u64 path accepts has the numeral shape -/

theorem parseSmall_cons_ok {a : UInt8} {t : Str} {coef prec c p : Nat}
    (h : parseSmall (a :: t) coef prec = .ok c p) :
    (a = cDot ∧ prec = 0 ∧ t ≠ [] ∧ t.length ≤ 19 ∧ parseSmall t coef t.length = .ok c p) ∨
    (isDigit a = true ∧ parseSmall t (coef * 10 + digitVal a) prec = .ok c p) := by
  rw [parseSmall] at h
  split at h
  · next hd =>
    split at h
    · cases h
    split at h
    · cases h
    split at h
    · cases h
    next hp hl hl' =>
    exact .inl ⟨hd, by simpa using hp, by simpa using hl, by simpa [defaultPrec] using hl', h⟩
  · split at h
    · cases h
    · next hd => exact .inr ⟨by simpa using hd, h⟩

theorem parseSmall_ok_shape (s : Str) (coef prec c p : Nat) (h : parseSmall s coef prec = .ok c p) :
    (prec ≠ 0 → AllDigits s) ∧
    (prec = 0 → AllDigits s ∨ ∃ ds fs, s = ds ++ cDot :: fs ∧ AllDigits ds ∧ AllDigits fs ∧ fs ≠ [] ∧
      fs.length ≤ 19) := by
  induction s generalizing coef prec with
  | nil => exact ⟨fun _ => allDigits_nil, fun _ => .inl allDigits_nil⟩
  | cons a t ih =>
    rcases parseSmall_cons_ok h with ⟨rfl, hp0, hne, hl, h'⟩ | ⟨hd, h'⟩
    · have ht := (ih _ _ h').1 (mt List.length_eq_zero_iff.mp hne)
      exact ⟨fun hp => absurd hp0 hp, fun _ => .inr ⟨[], t, rfl, allDigits_nil, ht, hne, hl⟩⟩
    · have ⟨i1, i2⟩ := ih _ _ h'
      have hcons : ∀ {ds}, AllDigits ds → AllDigits (a :: ds) := fun h => allDigits_cons.mpr ⟨hd, h⟩
      refine ⟨fun hp => hcons (i1 hp), fun hp => (i2 hp).imp hcons ?_⟩
      rintro ⟨ds, fs, rfl, h1, rest⟩
      exact ⟨a :: ds, fs, rfl, hcons h1, rest⟩

end CentrifugeVerif.Decimal
