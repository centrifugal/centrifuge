import CentrifugeVerif.Proofs.WSReader
import CentrifugeVerif.Proofs.WSMask
import CentrifugeVerif.Spec.WSSpec
/-! The receiver specification frame by frame, and the reader model against it. -/
namespace CentrifugeVerif.WS
open Spec

namespace Spec

/-- What follows the first two bytes `h` of a frame header: payload length, masking key and the
bytes after the header, or the event with which decoding ends. -/
def frameFields (q : Quirks) (h : Hdr) (r1 : Bytes) : Except Event (Nat × Key × Bytes) :=
  match extLen h.len7 r1 with
  | none => .error .incomplete
  | some (len, r2) =>
    if len ≥ two63 then .error (if q.msbAsTooBig then .tooBig else .protoError) else
    match takeKey h.masked r2 with
    | none => .error .incomplete
    | some (key, r3) => .ok (len, key, r3)

/-- What a frame contributes when `r3` are the bytes after its header: its events and, unless
decoding ends with it, the reassembly state in which decoding goes on after the payload. -/
def framePayload (q : Quirks) (cfg : Cfg) (accept : Nat → Bool) (frag : Option Frag) (h : Hdr)
    (len : Nat) (key : Key) (r3 : Bytes) : List Event × Option (Option Frag) :=
  if isControlOp h.opcode then
    if r3.length < len then ([.incomplete], none)
    else if h.opcode == 9 then ([.ping (xorMask key 0 (r3.take len))], some frag)
    else if h.opcode == 10 then ([.pong (xorMask key 0 (r3.take len))], some frag)
    else ([closeEvent q accept (xorMask key 0 (r3.take len))], none)
  else if overLimit cfg ((accOf frag).length + len) then ([.tooBig], none)
  else if r3.length < len then ([.incomplete], none)
  else
    let acc := accOf frag ++ xorMask key 0 (r3.take len)
    if h.fin then
      let e := deliver cfg (typOf frag h.opcode) (compOf frag h.rsv1) acc
      ([e], if e.terminal then none else some none)
    else ([], some (some ⟨typOf frag h.opcode, compOf frag h.rsv1, acc⟩))

/-- the events of a frame followed by what decoding the rest yields -/
def andThen (r : List Event × Option (Option Frag)) (k : Option Frag → List Event) : List Event :=
  match r with
  | (evs, none) => evs
  | (evs, some f) => evs ++ k f

theorem decodeQ_short (q : Quirks) (cfg : Cfg) (accept : Nat → Bool) (n : Nat) (frag : Option Frag)
    (bs : Bytes) (h : bs.length < 2) : decodeQ q cfg accept n frag bs = [.incomplete] := by
  match n, bs with
  | 0, _ => rfl
  | _ + 1, [] => rfl
  | _ + 1, [_] => rfl
  | _ + 1, _ :: _ :: _ => simp only [List.length_cons] at h; omega

theorem decodeQ_succ (q : Quirks) (cfg : Cfg) (accept : Nat → Bool) (n : Nat) (frag : Option Frag)
    (b0 b1 : UInt8) (r1 : Bytes) :
    decodeQ q cfg accept (n + 1) frag (b0 :: b1 :: r1) =
      if hdrViolation q cfg frag.isSome (parseHdr b0 b1) then [.protoError] else
      match frameFields q (parseHdr b0 b1) r1 with
      | .error e => [e]
      | .ok (len, key, r3) =>
        andThen (framePayload q cfg accept frag (parseHdr b0 b1) len key r3)
          fun f => decodeQ q cfg accept n f (r3.drop len) := by
  -- both sides are the same decision tree: decide its conditions one after the other
  cases frag <;> (
    rw [decodeQ]
    unfold frameFields framePayload andThen
    dsimp only [accOf, typOf, compOf]
    cases hdrViolation q cfg _ (parseHdr b0 b1)
    · cases extLen (parseHdr b0 b1).len7 r1 with
      | none => rfl
      | some v =>
        by_cases hl : v.1 ≥ two63
        · simp only [if_pos hl]
        · simp only [if_neg hl]
          cases takeKey (parseHdr b0 b1).masked v.2 with
          | none => rfl
          | some kv =>
            by_cases hp : kv.2.length < v.1
            · simp only [if_pos hp]
              cases isControlOp (parseHdr b0 b1).opcode <;> cases overLimit cfg _ <;> rfl
            · simp only [if_neg hp]
              cases isControlOp (parseHdr b0 b1).opcode
              · cases overLimit cfg _
                · cases (parseHdr b0 b1).fin
                  · rfl
                  · cases (deliver cfg _ _ _).terminal <;> rfl
                · rfl
              · cases (parseHdr b0 b1).opcode == 9 <;> cases (parseHdr b0 b1).opcode == 10 <;> rfl
    · rfl)

theorem beVal_lt (bs : Bytes) : beVal bs < 256 ^ bs.length := by
  have : ∀ (bs : Bytes) (a : Nat),
      bs.foldl (fun acc b => acc * 256 + b.toNat) a < (a + 1) * 256 ^ bs.length := by
    intro bs
    induction bs with
    | nil => intro a; simp
    | cons b bs ih =>
      intro a
      have := b.toNat_lt
      rw [List.foldl_cons, List.length_cons, Nat.pow_succ, Nat.mul_comm (256 ^ _) 256, ← Nat.mul_assoc]
      exact Nat.lt_of_lt_of_le (ih _) (Nat.mul_le_mul_right _ (by omega))
  simpa [beVal] using this bs 0

theorem extLen_some {l7 len : Nat} {bs r2 : Bytes} (h : extLen l7 bs = some (len, r2)) :
    r2.length ≤ bs.length ∧ (l7 < 127 → len < two63) := by
  unfold extLen at h
  split at h
  · cases h; exact ⟨Nat.le_refl _, fun _ => by unfold two63; omega⟩
  · split at h
    · split at h
      · cases h
      · cases h
        have := beVal_lt (bs.take 2)
        rw [List.length_take] at this
        exact ⟨by simp, fun _ => Nat.lt_of_lt_of_le this (Nat.le_trans
          (Nat.pow_le_pow_right (by decide) (Nat.min_le_left 2 _)) (by decide))⟩
    · rename_i h1 h2
      split at h
      · cases h
      · cases h; exact ⟨by simp, fun h7 => by simp only [beq_iff_eq] at h2; omega⟩

theorem takeKey_some {m : Bool} {bs r3 : Bytes} {key : Key} (h : takeKey m bs = some (key, r3)) :
    r3.length ≤ bs.length ∧ (m = false → key = Key.zero) := by
  unfold takeKey at h
  split at h
  · cases h; exact ⟨Nat.le_refl _, fun _ => rfl⟩
  · rename_i hm
    split at h
    · cases h; exact ⟨by simp; omega, fun h => by simp [h] at hm⟩
    · cases h

theorem frameFields_ok {q : Quirks} {h : Hdr} {r1 r3 : Bytes} {len : Nat} {key : Key}
    (hf : frameFields q h r1 = .ok (len, key, r3)) :
    r3.length ≤ r1.length ∧ (h.masked = false → key = Key.zero) := by
  unfold frameFields at hf
  split at hf
  · cases hf
  · rename_i len' r2 hext
    split at hf
    · cases hf
    · split at hf
      · cases hf
      · rename_i hk
        cases hf
        exact ⟨Nat.le_trans (takeKey_some hk).1 (extLen_some hext).1, (takeKey_some hk).2⟩

theorem decodeQ_fuel (q : Quirks) (cfg : Cfg) (accept : Nat → Bool) : ∀ (fuel fuel' : Nat)
    (frag : Option Frag) (bs : Bytes), bs.length < 2 * fuel → bs.length < 2 * fuel' →
    decodeQ q cfg accept fuel frag bs = decodeQ q cfg accept fuel' frag bs := by
  intro fuel
  induction fuel with
  | zero => intro fuel' frag bs h _; omega
  | succ n ih =>
    intro fuel' frag bs h1 h2
    cases fuel' with
    | zero => omega
    | succ m =>
      match bs with
      | [] | [_] => rw [decodeQ_short _ _ _ _ _ _ (by simp), decodeQ_short _ _ _ _ _ _ (by simp)]
      | b0 :: b1 :: r1 =>
        rw [decodeQ_succ, decodeQ_succ]
        split
        · rfl
        · split
          · rfl
          · rename_i len key r3 hf
            have := (frameFields_ok hf).1
            simp only [List.length_cons] at h1 h2
            congr 1
            funext f
            exact ih m f _ (by simp only [List.length_drop]; omega) (by simp only [List.length_drop]; omega)

end Spec

namespace Reader

theorem opClass (op : Nat) :
    (isControlOp op = true ∧ isDataOp op = false ∧ (op == 0) = false) ∨
    (isControlOp op = false ∧ isDataOp op = true ∧ (op == 0) = false) ∨
    (isControlOp op = false ∧ isDataOp op = false ∧ (op == 0) = true) ∨
    (isControlOp op = false ∧ isDataOp op = false ∧ (op == 0) = false) := by
  simp only [isControlOp, isDataOp, Bool.or_eq_true, Bool.or_eq_false_iff, beq_iff_eq,
    beq_eq_false_iff_ne]
  omega

theorem isEmpty_append {α : Type} (a b : List α) : (a ++ b).isEmpty = (a.isEmpty && b.isEmpty) := by
  cases a <;> rfl

theorem isEmpty_ite {α : Type} (p : Prop) [Decidable p] (x : α) :
    (if p then [x] else []).isEmpty = !decide p := by
  by_cases hp : p <;> simp [hp]

theorem headerErrs_isEmpty (cfg : Cfg) (rf : Bool) (h : Hdr) :
    (headerErrs cfg rf h).isEmpty = !hdrViolation Quirks.go cfg (!rf) h := by
  -- within one kind of opcode the rules are the same; only the RSV1 rule is spread over three
  -- places in the Go code, hence the cases on that bit and on `cfg.deflate`
  rcases opClass h.opcode with ⟨hc, hd, hz⟩ | ⟨hc, hd, hz⟩ | ⟨hc, hd, hz⟩ | ⟨hc, hd, hz⟩ <;>
    simp only [headerErrs, hdrViolation, Quirks.go, hc, hd, hz, isEmpty_append, isEmpty_ite,
      List.isEmpty_cons, Bool.decide_eq_true, if_true, if_false, Bool.false_eq_true] <;>
    cases h.rsv1 <;> cases cfg.deflate <;>
    simp only [Bool.and_false, Bool.false_and, Bool.true_and, Bool.and_true, Bool.or_false,
      Bool.or_true, Bool.true_or, Bool.not_true, Bool.not_false, Bool.not_or,
      Bool.not_not, Bool.and_comm]

theorem readLen_eq (st : RState) (h128 : st.readRemaining < 128) :
    readLen st = match extLen st.readRemaining st.input with
      | none => .error (.eof, { st with input := [] })
      | some (len, r2) =>
        if st.readRemaining == 127 && decide (len ≥ two63) then
          .error (.readLimit, { st with input := r2, devs := st.devs ++ [Dev.len64Msb] })
        else .ok { st with input := r2, readRemaining := len } := by
  unfold readLen extLen readN
  by_cases h6 : st.readRemaining = 126
  · by_cases hl : st.input.length < 2 <;> simp [h6, hl]
  · by_cases h7 : st.readRemaining = 127
    · by_cases hl : st.input.length < 8 <;> simp [h7, hl]
    · have : st.readRemaining < 126 := by omega
      simp [h6, h7, this]

/-- the state after the masking key was read (step 4) -/
def afterKey (st : RState) (masked : Bool) (key : Key) (r3 : Bytes) (len : Nat) : RState :=
  { st with input := r3, readRemaining := len, maskKey := if masked then key else st.maskKey,
            maskPos := if masked then 0 else st.maskPos }

theorem readMask_eq (m : Bool) (st : RState) :
    readMask m st = (takeKey m st.input).map fun kr => afterKey st m kr.1 kr.2 st.readRemaining := by
  unfold readMask takeKey readN
  cases m
  · rfl
  · match hi : st.input with
    | [] | [_] | [_, _] | [_, _, _] => simp
    | a :: b :: c :: d :: r =>
      have : ¬ (r.length + 1 + 1 + 1 + 1 < 4) := by omega
      simp [this, afterKey]

theorem afterKey_fields (st : RState) (masked : Bool) (key : Key) (r3 : Bytes) (len : Nat) :
    (afterKey st masked key r3 len).input = r3 ∧
    (afterKey st masked key r3 len).readRemaining = len ∧
    (afterKey st masked key r3 len).readFinal = st.readFinal ∧
    (afterKey st masked key r3 len).readLength = st.readLength ∧
    (afterKey st masked key r3 len).readDecompress = st.readDecompress ∧
    (afterKey st masked key r3 len).events = st.events ∧
    (masked = true → (afterKey st masked key r3 len).maskKey = key ∧
      (afterKey st masked key r3 len).maskPos = 0) :=
  ⟨rfl, rfl, rfl, rfl, rfl, rfl, fun h => by subst h; exact ⟨rfl, rfl⟩⟩

theorem parseHdr_len7_lt (b0 b1 : UInt8) : (parseHdr b0 b1).len7 < 128 := by
  simp only [parseHdr]
  have : (b1 &&& 0x7f) ≤ 0x7f := UInt8.and_le_right
  have := UInt8.le_iff_toNat_le.mp this
  have h2 : (0x7f : UInt8).toNat = 127 := rfl
  omega

theorem writeControl_fields (st : RState) (op : Nat) (d : Bytes) :
    ∃ w c, (writeControl st op d).1 = { st with written := w, closeSent := c } := by
  unfold writeControl
  split
  · exact ⟨st.written, st.closeSent, rfl⟩
  · split
    · exact ⟨st.written, st.closeSent, rfl⟩
    · exact ⟨_, _, rfl⟩

theorem handleProtocolError_events (st : RState) (msg : String) :
    ∃ st', handleProtocolError st msg = .err (.proto msg) st' ∧ st'.events = st.events := by
  unfold handleProtocolError
  obtain ⟨w, c, h⟩ := writeControl_fields st opClose ((formatClose 1002 msg.toUTF8.toList).take 125)
  exact ⟨_, rfl, by rw [h]⟩

theorem frameBody_fields (cfg : Cfg) (h : Hdr) (st : RState) (r1 : Bytes) (hin : st.input = r1)
    (hrem : st.readRemaining = h.len7) (h128 : h.len7 < 128) :
    match frameFields Quirks.go h r1 with
    | .error e => ∃ e' st', frameBody cfg h st = .err e' st' ∧ e'.toEvent = e ∧ st'.events = st.events
    | .ok (len, key, r3) => frameBody cfg h st =
        if h.opcode == 0 || isDataOp h.opcode then dataFrame cfg h.opcode (afterKey st h.masked key r3 len)
        else controlFrame cfg h.opcode (afterKey st h.masked key r3 len) := by
  subst hin
  unfold frameBody frameFields
  rw [readLen_eq st (hrem ▸ h128), hrem]
  cases hext : extLen h.len7 st.input with
  | none => exact ⟨_, _, rfl, rfl, rfl⟩
  | some v =>
    obtain ⟨len, r2⟩ := v
    by_cases hge : len ≥ two63
    · have h7 : h.len7 = 127 := Decidable.byContradiction fun h7 =>
        absurd ((extLen_some hext).2 (by omega)) (Nat.not_lt.mpr hge)
      simp only [h7, hge, beq_self_eq_true, decide_true, Bool.and_self, if_true]
      exact ⟨_, _, rfl, rfl, rfl⟩
    · simp only [hge, decide_false, Bool.and_false, Bool.false_eq_true, if_false]
      rw [readMask_eq]
      cases takeKey h.masked r2 with
      | none => exact ⟨_, _, rfl, rfl, rfl⟩
      | some kv => rfl

theorem ctl_not_data {op : Nat} (h : isControlOp op = true) : (op == 0 || isDataOp op) = false := by
  rcases opClass op with ⟨_, hd, hz⟩ | ⟨hc, _⟩ | ⟨hc, _⟩ | ⟨hc, _⟩
  · rw [hd, hz]; rfl
  all_goals rw [hc] at h; cases h

theorem advanceFrame_short (cfg : Cfg) (st : RState) (h0 : st.readRemaining = 0)
    (hl : st.input.length < 2) : advanceFrame cfg st = .err .eof { st with input := [] } := by
  unfold advanceFrame readN
  simp [h0, hl]

/-- the state written while the first two header bytes are examined -/
def afterHdr (cfg : Cfg) (st : RState) (h : Hdr) (r1 : Bytes) : RState :=
  { st with
    input := r1,
    readRemaining := h.len7,
    readDecompress := h.rsv1 && cfg.deflate,
    readFinal := if isDataOp h.opcode || h.opcode == 0 then h.fin else st.readFinal }

theorem advanceFrame_cons (cfg : Cfg) (st : RState) (h0 : st.readRemaining = 0) (b0 b1 : UInt8)
    (r1 : Bytes) (hi : st.input = b0 :: b1 :: r1) :
    advanceFrame cfg st =
      if !(headerErrs cfg st.readFinal (parseHdr b0 b1)).isEmpty then
        handleProtocolError (afterHdr cfg st (parseHdr b0 b1) r1)
          (", ".intercalate (headerErrs cfg st.readFinal (parseHdr b0 b1)))
      else frameBody cfg (parseHdr b0 b1) (afterHdr cfg st (parseHdr b0 b1) r1) := by
  unfold advanceFrame readN
  have : ¬ (r1.length + 1 + 1 < 2) := by omega
  simp [h0, hi, this, afterHdr]

theorem processControl_close (payload : Bytes) (st : RState) (op : Nat) (h9 : (op == opPing) = false)
    (h10 : (op == opPong) = false) :
    ∃ e st', processControl op payload st = .err e st' ∧ st'.events = st.events ∧
      e.toEvent = closeEvent Quirks.go goValidCloseCode payload := by
  have hpe : ∀ msg, ∃ e st', handleProtocolError st msg = .err e st' ∧ st'.events = st.events ∧
      e.toEvent = .protoError := fun msg =>
    let ⟨st', he, hev⟩ := handleProtocolError_events st msg
    ⟨_, st', he, hev, rfl⟩
  have hclose : ∀ code text, ∃ e st', Adv.err (.close code text)
      (writeControl st opClose (formatClose code [])).1 = .err e st' ∧ st'.events = st.events ∧
      e.toEvent = .close code text := fun code text =>
    let ⟨w, c, hw⟩ := writeControl_fields st opClose (formatClose code [])
    ⟨_, _, rfl, by rw [hw], rfl⟩
  unfold processControl closeEvent
  simp only [h9, h10, Bool.false_eq_true, if_false]
  match payload with
  | [] => exact hclose 1005 []
  | [x] => exact hpe _
  | a :: b :: text =>
    dsimp only
    split
    · exact hpe _
    · split
      · exact hpe _
      · exact hclose _ text

/-- what the reader's state has to satisfy between frames for a given reassembly state -/
def Inv (frag : Option Frag) (st : RState) : Prop :=
  st.readRemaining = 0 ∧ st.readFinal = frag.isNone ∧ st.readLength = (accOf frag).length

theorem noViolation_facts {cfg : Cfg} {inMsg : Bool} {h : Hdr}
    (hv : hdrViolation Quirks.go cfg inMsg h = false) :
    h.masked = cfg.server ∧ (h.rsv1 && cfg.deflate) = h.rsv1 ∧
    (isControlOp h.opcode = false →
      (h.opcode == 0 || isDataOp h.opcode) = true ∧ isDataOp h.opcode = !inMsg) := by
  simp only [hdrViolation, Bool.or_eq_false_iff] at hv
  obtain ⟨⟨⟨⟨⟨⟨_, hrsv⟩, hop⟩, _⟩, hcont⟩, hdat⟩, hmask⟩ := hv
  refine ⟨by simpa using hmask, ?_, fun hc => ?_⟩
  · cases h1 : h.rsv1
    · rfl
    · simp only [h1, Bool.true_and, Bool.not_eq_false', Bool.and_eq_true] at hrsv ⊢
      exact hrsv.1
  · rw [hc, Bool.or_false, Bool.not_eq_false'] at hop
    refine ⟨hop, ?_⟩
    rcases opClass h.opcode with ⟨hc', _⟩ | ⟨_, hd, _⟩ | ⟨_, hd, hz⟩ | ⟨_, hd, hz⟩
    · rw [hc] at hc'; cases hc'
    · rw [hd]; simpa [hd] using hdat
    · rw [hd]; simpa [hz] using hcont
    · rw [hd, hz] at hop; cases hop

theorem deliver_spec (cfg : Cfg) (typ : Nat) (dec : Bool) (acc : Bytes) (st : RState) :
    (∀ r, deliver cfg typ dec acc st = .error r →
      r.events = st.events ++ [Spec.deliver cfg typ dec acc] ∧
      (Spec.deliver cfg typ dec acc).terminal = true) ∧
    (∀ st3, deliver cfg typ dec acc st = .ok st3 →
      st3 = { st with events := st.events ++ [Spec.deliver cfg typ dec acc] } ∧
      (Spec.deliver cfg typ dec acc).terminal = false) := by
  unfold deliver Spec.deliver
  cases dec
  · exact ⟨fun _ h => (by cases h), fun _ h => (by cases h; exact ⟨rfl, rfl⟩)⟩
  · simp only [if_true]
    cases cfg.inflate (acc ++ deflateTail) with
    | none => exact ⟨fun r h => (by cases h; exact ⟨rfl, rfl⟩), fun _ h => (by cases h)⟩
    | some out =>
      dsimp only
      split
      · obtain ⟨w, c, hw⟩ := writeControl_fields st opClose (formatClose 1009 tooBigReason)
        exact ⟨fun r h => (by cases h; rw [hw]; exact ⟨rfl, rfl⟩), fun _ h => (by cases h)⟩
      · exact ⟨fun _ h => (by cases h), fun _ h => (by cases h; exact ⟨rfl, rfl⟩)⟩

theorem finish_events (e : RErr) (st : RState) : (finish e st).events = st.events ++ [e.toEvent] := rfl

theorem processControl_ping (p : Bytes) (st : RState) :
    processControl opPing p st =
      .ok opPing (writeControl { st with events := st.events ++ [.ping p] } opPong p).1 := rfl

theorem processControl_pong (p : Bytes) (st : RState) :
    processControl opPong p st = .ok opPong { st with events := st.events ++ [.pong p] } := rfl

/-- Main lemma: from any between-frames state, the reader's events are the events the (relaxed)
specification derives from the remaining input. -/
theorem run_eq_decodeQ (cfg : Cfg) : ∀ (fuel : Nat) (frag : Option Frag) (st : RState), Inv frag st →
    (run cfg fuel frag st).events =
      st.events ++ decodeQ Quirks.go cfg goValidCloseCode fuel frag st.input := by
  intro fuel
  induction fuel with
  | zero => intro frag st _; rfl
  | succ n ih =>
    intro frag st ⟨hrr, hrf, hrl⟩
    match hin : st.input with
    | [] | [_] =>
      rw [run_err (advanceFrame_short cfg st hrr (by simp [hin])), decodeQ_short _ _ _ _ _ _ (by simp)]
      rfl
    | b0 :: b1 :: r1 =>
      have hadv := advanceFrame_cons cfg st hrr b0 b1 r1 hin
      rw [headerErrs_isEmpty, hrf, Option.not_isNone] at hadv
      rw [decodeQ_succ]
      have h128 := parseHdr_len7_lt b0 b1
      generalize parseHdr b0 b1 = h at h128 hadv ⊢
      cases hv : hdrViolation Quirks.go cfg frag.isSome h
      · simp only [hv, Bool.not_false, Bool.not_true, Bool.false_eq_true, if_false] at hadv ⊢
        have hfb := frameBody_fields cfg h (afterHdr cfg st h r1) r1 rfl rfl h128
        cases hf : frameFields Quirks.go h r1 with
        | error e =>
          rw [hf] at hfb
          obtain ⟨e', st', heq, he, hev⟩ := hfb
          rw [run_err (hadv.trans heq), finish_events, he, hev]
          rfl
        | ok v =>
          obtain ⟨len, key, r3⟩ := v
          rw [hf] at hfb
          replace hadv := hadv.trans hfb
          clear hfb
          dsimp only
          -- the state after the key: only its relevant fields matter from here on
          have flds := afterKey_fields (afterHdr cfg st h r1) h.masked key r3 len
          generalize afterKey _ h.masked key r3 len = st3 at flds hadv
          obtain ⟨f_in, f_rem, f_fin, f_len, f_dec, f_ev, f_key⟩ := flds
          dsimp only [afterHdr] at f_fin f_len f_dec f_ev
          obtain ⟨hmask, hrdec, hdata⟩ := noViolation_facts hv
          rw [hmask] at f_key
          rw [hrdec] at f_dec
          rw [hrf] at f_fin
          rw [hrl] at f_len
          have hunmask : ∀ bs : Bytes,
              (if cfg.server then xorMask st3.maskKey 0 bs else bs) = xorMask key 0 bs ∧
              (if cfg.server then xorMask st3.maskKey st3.maskPos bs else bs) = xorMask key 0 bs := by
            intro bs
            cases hs : cfg.server
            · rw [(frameFields_ok hf).2 (hmask.trans hs), xorMask_zero]; exact ⟨rfl, rfl⟩
            · rw [(f_key hs).1, (f_key hs).2]; exact ⟨rfl, rfl⟩
          cases hc : isControlOp h.opcode
          · -- data or continuation frame
            obtain ⟨hdat, hnone⟩ := hdata hc
            rw [if_pos hdat] at hadv
            rw [Bool.or_comm] at hdat
            rw [hdat, if_pos rfl] at f_fin
            have hacc : st3.readLength + st3.readRemaining = (accOf frag).length + len := by
              rw [f_len, f_rem]
            simp only [framePayload, hc, Bool.false_eq_true, if_false]
            rw [← hacc]
            cases hov : overLimit cfg (st3.readLength + st3.readRemaining)
            · rw [dataFrame_eq, hov, if_neg Bool.false_ne_true] at hadv
              rw [run_data hadv hdat hnone]
              unfold readPayload
              dsimp only
              rw [f_in, f_rem, f_dec]
              by_cases hl : r3.length < len
              · simp only [hl, if_true, finish_events, f_ev, andThen]
                rfl
              · simp only [hl, if_false, (hunmask _).2, f_fin]
                have hclen : (accOf frag ++ xorMask key 0 (r3.take len)).length =
                    st3.readLength + len := by
                  rw [List.length_append, xorMask_length, List.length_take, f_len]; omega
                cases hfin : h.fin
                · simp only [Bool.not_false, if_true, Bool.false_eq_true, if_false, andThen, List.nil_append]
                  refine (ih _ _ ?_).trans ?_
                  · exact ⟨rfl, rfl, hclen.symm⟩
                  · rw [f_ev]
                · simp only [Bool.not_true, Bool.false_eq_true, if_false, if_true]
                  split
                  · rename_i r hdel
                    obtain ⟨h1, h2⟩ := (deliver_spec ..).1 r hdel
                    rw [h1, h2, f_ev]
                    rfl
                  · rename_i st6 hdel
                    obtain ⟨h1, h2⟩ := (deliver_spec ..).2 st6 hdel
                    rw [h2, h1]
                    refine (ih none _ ?_).trans ?_
                    · exact ⟨rfl, rfl, rfl⟩
                    · simp only [f_ev, andThen, Bool.false_eq_true, if_false, List.append_assoc]
            · rw [dataFrame_eq, hov, if_pos rfl] at hadv
              obtain ⟨w, c, hw⟩ := writeControl_fields
                { st3 with readLength := st3.readLength + st3.readRemaining } opClose (formatClose 1009 [])
              rw [run_err hadv, finish_events, hw, f_ev]
              rfl
          · -- control frame
            rw [if_neg (by rw [ctl_not_data hc]; exact Bool.false_ne_true), controlFrame_eq, f_in, f_rem]
              at hadv
            simp only [framePayload, hc, if_true]
            by_cases hl : r3.length < len
            · simp only [hl, if_true] at hadv ⊢
              rw [run_err hadv, finish_events, f_ev]
              rfl
            · simp only [hl, if_false, (hunmask _).1] at hadv ⊢
              have f_fin' : st3.readFinal = frag.isNone := by
                rw [f_fin, Bool.or_comm, ctl_not_data hc]; rfl
              by_cases h9 : h.opcode = 9
              · rw [h9, show processControl 9 _ _ = _ from processControl_ping _ _] at hadv
                obtain ⟨w, c, hw⟩ := writeControl_fields
                  { st3 with input := r3.drop len, readRemaining := 0,
                             events := st3.events ++ [Event.ping (xorMask key 0 (r3.take len))] }
                  opPong (xorMask key 0 (r3.take len))
                rw [hw] at hadv
                rw [run_ctl hadv rfl]
                refine (ih frag _ ?_).trans ?_
                · exact ⟨rfl, f_fin', f_len⟩
                simp only [h9, beq_self_eq_true, if_true, andThen, f_ev, List.append_assoc]
              · by_cases h10 : h.opcode = 10
                · rw [h10, show processControl 10 _ _ = _ from processControl_pong _ _] at hadv
                  rw [run_ctl hadv rfl]
                  refine (ih frag _ ?_).trans ?_
                  · exact ⟨rfl, f_fin', f_len⟩
                  simp only [h10, show ((10 : Nat) == 9) = false from rfl, beq_self_eq_true, if_true,
                    Bool.false_eq_true, if_false, andThen, f_ev, List.append_assoc]
                · obtain ⟨e, st', hpc, hev, hce⟩ := processControl_close (xorMask key 0 (r3.take len))
                    { st3 with input := r3.drop len, readRemaining := 0 } h.opcode
                    (beq_eq_false_iff_ne.mpr h9) (beq_eq_false_iff_ne.mpr h10)
                  rw [run_err (hadv.trans hpc), finish_events, hev, hce]
                  simp only [beq_eq_false_iff_ne.mpr h9, beq_eq_false_iff_ne.mpr h10, Bool.false_eq_true,
                    if_false, andThen, f_ev]
      · -- protocol violation in the first two bytes
        obtain ⟨st', he, hev⟩ := handleProtocolError_events (afterHdr cfg st h r1)
          (", ".intercalate (headerErrs cfg frag.isNone h))
        simp only [hv, Bool.not_true, Bool.not_false, if_true, he] at hadv ⊢
        rw [run_err hadv, finish_events, hev]
        rfl

/-- equal, or equal up to the last event, which is "too big" on the left where it is "protocol
error" on the right -/
def EqUptoMsb (A B : List Event) : Prop :=
  A = B ∨ ∃ pre, A = pre ++ [Event.tooBig] ∧ B = pre ++ [Event.protoError]

theorem EqUptoMsb.rfl' (A : List Event) : EqUptoMsb A A := Or.inl rfl

theorem EqUptoMsb.append_left (evs : List Event) {A B : List Event} (h : EqUptoMsb A B) :
    EqUptoMsb (evs ++ A) (evs ++ B) := by
  rcases h with h | ⟨pre, h1, h2⟩
  · exact Or.inl (by rw [h])
  · exact Or.inr ⟨evs ++ pre, by rw [h1, List.append_assoc], by rw [h2, List.append_assoc]⟩

theorem frameFields_go_rfc (h : Hdr) (r1 : Bytes) :
    frameFields Quirks.go h r1 = frameFields Quirks.rfc h r1 ∨
    (frameFields Quirks.go h r1 = .error .tooBig ∧ frameFields Quirks.rfc h r1 = .error .protoError) := by
  unfold frameFields
  cases extLen h.len7 r1 with
  | none => exact Or.inl rfl
  | some v =>
    by_cases hl : v.1 ≥ two63
    · simp only [if_pos hl]; exact Or.inr ⟨rfl, rfl⟩
    · exact Or.inl (by simp only [if_neg hl])

/-- With only the `msbAsTooBig` relaxation left, the relaxed and the RFC decoder agree on every
stream, except that a 64-bit length with the top bit set ends the event list with "too big"
instead of "protocol error". -/
theorem decodeQ_go_vs_rfc (cfg : Cfg) (accept : Nat → Bool) : ∀ (fuel : Nat) (frag : Option Frag)
    (bs : Bytes), EqUptoMsb (decodeQ Quirks.go cfg accept fuel frag bs)
      (decodeQ Quirks.rfc cfg accept fuel frag bs) := by
  intro fuel
  induction fuel with
  | zero => intro frag bs; exact Or.inl rfl
  | succ n ih =>
    intro frag bs
    match bs with
    | [] | [_] => rw [decodeQ_short _ _ _ _ _ _ (by simp), decodeQ_short _ _ _ _ _ _ (by simp)]; exact Or.inl rfl
    | b0 :: b1 :: r1 =>
      rw [decodeQ_succ, decodeQ_succ]
      -- these two read only quirk fields on which `go` and `rfc` agree
      rw [show hdrViolation Quirks.go = hdrViolation Quirks.rfc from rfl,
        show framePayload Quirks.go = framePayload Quirks.rfc from rfl]
      split
      · exact Or.inl rfl
      · rcases frameFields_go_rfc (parseHdr b0 b1) r1 with he | ⟨h1, h2⟩
        · rw [he]
          split
          · exact Or.inl rfl
          · rename_i len key r3 _
            match framePayload Quirks.go cfg accept frag (parseHdr b0 b1) len key r3 with
            | (evs, none) => exact Or.inl rfl
            | (evs, some f) => exact EqUptoMsb.append_left evs (ih f _)
        · rw [h1, h2]; exact Or.inr ⟨[], rfl, rfl⟩

end Reader

end CentrifugeVerif.WS
