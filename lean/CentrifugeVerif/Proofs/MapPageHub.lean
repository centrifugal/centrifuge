import CentrifugeVerif.Proofs.MapPage
import CentrifugeVerif.Proofs.MapHubAssoc
/-!
The pagination theorems of `Proofs/MapPage.lean` lifted to `MapHub.getState`.

The cursor string `"score\x00key"` / `"key"` is represented by `Cursor.ofElem`: what `getState` reads
back from the cursor it handed out (decimal score round trip and the split at the first NUL byte are
exercised by the differential run, see props/C21/meta.json).
-/
namespace CentrifugeVerif.MapHub
open CentrifugeVerif.MapPage

/-- `MapStateResult.Cursor` for last element `e` (`MakeOrderedCursor(score, key)`, or the key alone), as `getState`
reads it back from `opts.Cursor`. -/
def Cursor.ofElem (ordered : Bool) (e : Elem) : Cursor :=
  if ordered then ⟨[], e.1, e.2⟩ else ⟨e.2, 0, []⟩

/-- the client's loop: `ReadState` from the empty cursor, sending each returned `Cursor` back while it is non-empty;
`none` = a reply that is not a state page. -/
def hubPaginate (rc : RawCfg) (h : Hub) (ch : Nat) (limit : Int) (asc : Bool) :
    Nat → Option Cursor → List Pub → Option (List Pub × Bool)
  | 0, _, acc => some (acc, false)
  | fuel + 1, cur, acc =>
    match (getState rc h ch { cursor := cur, limit := limit, asc := asc }).2.res with
    | .state pubs _ c ord =>
      match c with
      | none => some (acc ++ pubs, true)
      | some e => hubPaginate rc h ch limit asc fuel (some (Cursor.ofElem ord e)) (acc ++ pubs)
    | _ => none

/-- `channel.state[key].Publication`, the page entry for a sorted key. -/
def statePubOf (c : Chan) (e : Elem) : Option Pub := (aget c.state e.2).map (·.pub)

theorem elems_nodup (c : Chan) (h : (akeys c.state).Nodup) : c.elems.Nodup := by
  rw [Chan.elems, List.Nodup, List.pairwise_map]
  exact (List.pairwise_map.mp h).imp fun hne e => hne (congrArg Prod.snd e)

theorem elems_length (c : Chan) : c.elems.length = c.state.length := List.length_map _

theorem elems_unordered_score (c : Chan) (hu : c.ordered = false) : ∀ e ∈ c.elems, e.1 = 0 := by
  intro e he
  simp only [Chan.elems, List.mem_map] at he
  obtain ⟨kv, _, rfl⟩ := he
  simp [hu]

theorem statePubOf_isSome_of_mem (c : Chan) : ∀ e ∈ c.elems, (statePubOf c e).isSome = true := by
  intro e he
  simp only [Chan.elems, List.mem_map] at he
  obtain ⟨kv, hkv, rfl⟩ := he
  simp only [statePubOf, Option.isSome_map]
  cases hget : aget c.state kv.1 with
  | some v => rfl
  | none => exact absurd hkv ((aget_none_iff.mp hget) kv.2)

/-- one `ReadState` page of the hub model is `getPage` over the channel's sorted elements. -/
theorem getState_page (rc : RawCfg) (cfg : Cfg) (h : Hub) (ch : Nat) (c : Chan) (limit : Int) (asc : Bool)
    (hres : resolve rc = some cfg) (hc : aget h.chans ch = some c) (hl : limit ≠ 0)
    (cu : Option Elem) (hcu : ∀ e, cu = some e → c.ordered = false → e.1 = 0) :
    getState rc h ch { cursor := cu.map (Cursor.ofElem c.ordered), limit := limit, asc := asc }
      = (h, ⟨.state ((getPage (elemLt (c.dir asc)) (isort (elemLt (c.dir asc)) c.elems) cu limit).items.filterMap (statePubOf c))
                c.stream.pos
                (getPage (elemLt (c.dir asc)) (isort (elemLt (c.dir asc)) c.elems) cu limit).cursor c.ordered, []⟩) := by
  -- `getState` reads back from `Cursor.ofElem` the element it was made from
  have hcur : Option.map (fun cu : Cursor => if c.ordered then (cu.score, cu.skey) else ((0 : Int), cu.key))
      (cu.map (Cursor.ofElem c.ordered)) = cu := by
    cases cu with
    | none => rfl
    | some e =>
      cases ho : c.ordered with
      | true => simp [Cursor.ofElem]
      | false =>
        obtain ⟨s, k⟩ := e
        obtain rfl : s = 0 := hcu _ rfl ho
        simp [Cursor.ofElem]
  unfold getState
  simp only [hres, hc, hcur, hl, if_false, bne_self_eq_false, Bool.false_eq_true]
  rfl

/-- the hub loop is the generic loop, publication by publication. -/
theorem hubPaginate_eq (rc : RawCfg) (cfg : Cfg) (h : Hub) (ch : Nat) (c : Chan) (limit : Int) (asc : Bool)
    (hres : resolve rc = some cfg) (hc : aget h.chans ch = some c) (hl : limit ≠ 0) :
    ∀ (fuel : Nat) (cu : Option Elem) (acc : List Elem),
      (∀ e, cu = some e → c.ordered = false → e.1 = 0) →
      hubPaginate rc h ch limit asc fuel (cu.map (Cursor.ofElem c.ordered)) (acc.filterMap (statePubOf c))
        = some ((paginate (elemLt (c.dir asc)) (isort (elemLt (c.dir asc)) c.elems) limit fuel cu acc).1.filterMap (statePubOf c),
                (paginate (elemLt (c.dir asc)) (isort (elemLt (c.dir asc)) c.elems) limit fuel cu acc).2)
  | 0, cu, acc, _ => rfl
  | fuel + 1, cu, acc, hcu => by
    rw [hubPaginate, paginate, getState_page rc cfg h ch c limit asc hres hc hl cu hcu]
    simp only [← List.filterMap_append]
    cases hcur : (getPage (elemLt (c.dir asc)) (isort (elemLt (c.dir asc)) c.elems) cu limit).cursor with
    | none => rfl
    | some e =>
      have hmem : e ∈ c.elems := (isort_perm _ _).mem_iff.mp (getPage_cursor_mem _ _ cu limit e hcur)
      exact hubPaginate_eq rc cfg h ch c limit asc hres hc hl fuel (some e) _
        (by rintro e' ⟨⟩ hu; exact elems_unordered_score c hu e hmem)

theorem hub_pages_concat (rc : RawCfg) (cfg : Cfg) (h : Hub) (ch : Nat) (c : Chan) (limit : Int) (asc : Bool)
    (hres : resolve rc = some cfg) (hc : aget h.chans ch = some c) (hnd : (akeys c.state).Nodup) (hl : 0 < limit) :
    hubPaginate rc h ch limit asc (c.state.length + 1) none []
      = some ((isort (elemLt (c.dir asc)) c.elems).filterMap (statePubOf c), true) ∧
    ((isort (elemLt (c.dir asc)) c.elems).filterMap (statePubOf c)).length = c.state.length ∧
    (isort (elemLt (c.dir asc)) c.elems).Perm c.elems ∧
    (isort (elemLt (c.dir asc)) c.elems).Pairwise (fun a b => elemLt (c.dir asc) a b = true) := by
  have hnd' := elems_nodup c hnd
  have hmain := MapPage.pages_concat_eq_sorted (elemLt_strictTotal (c.dir asc)) c.elems hnd' limit hl
  rw [paginateAll, elems_length] at hmain
  have := hubPaginate_eq rc cfg h ch c limit asc hres hc (by omega) (c.state.length + 1) none []
    (by intro e he; cases he)
  rw [hmain] at this
  refine ⟨this, ?_, isort_perm _ _, isort_sorted (elemLt_strictTotal _) _ hnd'⟩
  rw [List.filterMap_length_eq_length.mpr fun e he =>
    statePubOf_isSome_of_mem c e ((isort_perm _ _).mem_iff.mp he), isort_length, elems_length]

theorem single_key_read (rc : RawCfg) (cfg : Cfg) (h : Hub) (ch : Nat) (c : Chan) (o : StateOpts)
    (hres : resolve rc = some cfg) (hc : aget h.chans ch = some c) (hk : o.key ≠ [])
    (hrev : ∀ rv, o.rev = some rv → rv.epoch = c.stream.epoch) :
    getState rc h ch o
      = (h, ⟨.state (match aget c.state o.key with | some e => [e.pub] | none => []) c.stream.pos none c.ordered, []⟩) := by
  unfold getState
  simp only [hres, hc]
  cases hrv : o.rev with
  | none =>
    simp only [Bool.false_eq_true, if_false, bne_iff_ne, ne_eq, hk, not_false_eq_true, if_true]
    cases aget c.state o.key <;> rfl
  | some rv =>
    simp only [Stream.pos, hrev rv hrv, ne_eq, not_true_eq_false, decide_false, Bool.false_eq_true, if_false,
      bne_iff_ne, hk, not_false_eq_true, if_true]
    cases aget c.state o.key <;> rfl

end CentrifugeVerif.MapHub
