import CentrifugeVerif.Proofs.Recovery
/-!
Helper lemmas for C03 (cache recovery): closed form of `recoverCache` / `isCacheRecovered` on a
stream satisfying the invariant.
-/
namespace CentrifugeVerif.Recovery
open CentrifugeVerif.Merge

/-- the part of the retained list `recoverCache` looks at, newest first: with a filter the
`RecoveryMaxPublicationLimit` newest publications (all when the limit is 0), without any filter
just the newest one -/
def scanWindow (limit : Nat) (s : RStream) (f : Filt) : List Pub :=
  if f.has then takeLim limit s.items.reverse else s.items.reverse.take 1

theorem recoverCache_spec (limit : Nat) (s : RStream) (f : Filt) (hw : f.WF) :
    recoverCache limit s f =
      match (scanWindow limit s f).head?, (scanWindow limit s f).find? f.pass with
      | some l, some p => some (l, p)
      | _, _ => none := by
  unfold recoverCache scanWindow RStream.getRev
  cases hh : f.has with
  | false =>
    simp only [Bool.not_false, if_true, Bool.false_eq_true, if_false]
    rw [show takeLim 1 s.items.reverse = s.items.reverse.take 1 from rfl]
    cases s.items.reverse with
    | nil => rfl
    | cons p ps => simp [hw hh p]
  | true =>
    simp only [Bool.not_true, Bool.false_eq_true, if_false, if_true]
    cases takeLim limit s.items.reverse with
    | nil => rfl
    | cons p ps => cases List.find? f.pass (p :: ps) <;> rfl

theorem scanWindow_prefix (limit : Nat) (s : RStream) (f : Filt) :
    scanWindow limit s f <+: s.items.reverse := by
  unfold scanWindow takeLim
  split
  · split
    · exact List.prefix_rfl
    · exact List.take_prefix _ _
  · exact List.take_prefix _ _

theorem mem_scanWindow {limit : Nat} {s : RStream} {f : Filt} {p : Pub}
    (h : p ∈ scanWindow limit s f) : p ∈ s.items :=
  List.mem_reverse.mp ((scanWindow_prefix limit s f).subset h)

/-- the newest retained publication sits at `top` -/
theorem head_scanWindow_top (limit : Nat) (s : RStream) (hi : s.Inv) (f : Filt) (l : Pub)
    (h : (scanWindow limit s f).head? = some l) : l.offset = s.top := by
  obtain ⟨rest, hr⟩ := scanWindow_prefix limit s f
  have hl : s.items.getLast? = some l := by
    rw [← List.head?_reverse, ← hr, List.head?_append, h]; rfl
  obtain ⟨_, _, q, _, hq, _, hqo⟩ :=
    offs_head_last hi.itemsOff (List.length_pos_of_mem (List.mem_of_getLast? hl))
  cases hq.symm.trans hl
  have := hi.lo_add
  omega

/-- the first passing publication of the scan window is the newest passing retained one -/
theorem find_newest (limit : Nat) (s : RStream) (hi : s.Inv) (f : Filt) (p : Pub)
    (h : (scanWindow limit s f).find? f.pass = some p) :
    p ∈ scanWindow limit s f ∧ f.pass p = true ∧ ∀ q ∈ s.items, f.pass q = true → q.offset ≤ p.offset := by
  refine ⟨List.mem_of_find?_eq_some h, List.find?_some h, fun q hq hpq => ?_⟩
  obtain ⟨_, as, bs, hw, hnone⟩ := List.find?_eq_some_iff_append.mp h
  obtain ⟨rest, hr⟩ := scanWindow_prefix limit s f
  -- offsets decrease along `items.reverse = as ++ p :: (bs ++ rest)`, and nothing in `as` passes
  have hpw : (as ++ p :: (bs ++ rest)).Pairwise (fun x y => y.offset < x.offset) := by
    have := List.pairwise_reverse.mpr (pairwise_of_offs hi.itemsOff)
    rwa [← hr, hw, List.append_assoc, List.cons_append] at this
  have hq' : q ∈ as ++ p :: (bs ++ rest) := by
    rw [← List.cons_append, ← List.append_assoc, ← hw, hr]; exact List.mem_reverse.mpr hq
  rcases List.mem_append.mp hq' with hq' | hq'
  · have := hnone q hq'
    rw [hpq] at this
    cases this
  · rcases List.mem_cons.mp hq' with rfl | hq'
    · exact Nat.le_refl _
    · exact Nat.le_of_lt ((List.pairwise_cons.mp (List.pairwise_append.mp hpw).2.1).1 q hq')

/-- items are a suffix of the log: anything in the log that is not retained is older than every
retained publication -/
theorem log_older (s : RStream) (hi : s.Inv) (q : Pub) (hq : q ∈ s.log) :
    q ∈ s.items ∨ ∀ p ∈ s.items, q.offset < p.offset := by
  have hpw := pairwise_of_offs hi.logOff
  rw [← List.take_append_drop (s.top - s.items.length) s.log, ← hi.suffix] at hpw hq
  rcases List.mem_append.mp hq with hq | hq
  · exact Or.inr fun p hp => (List.pairwise_append.mp hpw).2.2 q hq p hp
  · exact Or.inl hq

/-- closed form of one `recoverCache` + `isCacheRecovered` round -/
theorem cacheDecide_spec (limit : Nat) (s : RStream) (hi : s.Inv) (f : Filt) (hw : f.WF) (off ep : Nat) :
    cacheDecide limit s f off ep =
      match (scanWindow limit s f).find? f.pass with
      | none => ([], sameState s off ep)
      | some p => (if sameState s off ep then [] else [p], true) := by
  unfold cacheDecide
  rw [recoverCache_spec limit s f hw]
  cases hf : (scanWindow limit s f).find? f.pass with
  | none => cases (scanWindow limit s f).head? <;> rfl
  | some p =>
    cases hh : (scanWindow limit s f).head? with
    | none => rw [List.head?_eq_none_iff.mp hh] at hf; cases hf
    | some l =>
      simp only [isCacheRecovered, head_scanWindow_top limit s hi f l hh, beq_self_eq_true, Bool.true_and]
      cases sameState s off ep <;> rfl

theorem finish_cache_one (delta r : Bool) (p : Pub) (top e off : Nat) (w : Bool) (hp : p.offset ≤ top) :
    finish true delta r [toPlain p] [] top e off w =
      .reply r (if r then [toPlain p] else []) (if r then off else top) e top w := by
  have h1 : ¬ (p.offset > top) := by omega
  cases delta <;> cases r <;> simp [finish, merge, isort, ins, uniq, maxSeen, toPlain, h1]

theorem finish_cacheDecide (limit : Nat) (s : RStream) (hi : s.Inv) (f : Filt) (hw : f.WF) (off ep : Nat)
    (delta : Bool) :
    finish true delta (cacheDecide limit s f off ep).2 ((cacheDecide limit s f off ep).1.map toPlain) []
        s.top s.epoch off true =
      .reply (cacheDecide limit s f off ep).2
        (if (cacheDecide limit s f off ep).2 then (cacheDecide limit s f off ep).1.map toPlain else [])
        (if (cacheDecide limit s f off ep).2 then off else s.top) s.epoch s.top true := by
  rw [cacheDecide_spec limit s hi f hw]
  cases hf : (scanWindow limit s f).find? f.pass with
  | none =>
    simp only [List.map_nil]
    rw [finish_nil]
    cases sameState s off ep <;> rfl
  | some p =>
    have hple := hi.items_le_top (mem_scanWindow (find_newest limit s hi f p hf).1)
    cases sameState s off ep
    · exact finish_cache_one _ _ _ _ _ _ _ hple
    · exact finish_nil _ _ _ _ _ _ _

/-- whatever the handler does, the subscribe ends with its error or in `finish` -/
theorem cacheSubscribe_cases (limit : Nat) (s1 s2 : RStream) (f : Filt) (req : Req) (delta : Bool)
    (h : HandlerReply) (buffered : List MPub) :
    cacheSubscribe limit s1 s2 f req delta h buffered = .handlerError ∨
    ∃ r rp b t e, cacheSubscribe limit s1 s2 f req delta h buffered =
      finish true delta r rp b t e req.offset true := by
  unfold cacheSubscribe
  simp only
  split
  · exact Or.inl rfl
  · split <;> exact Or.inr ⟨_, _, _, _, _, rfl⟩
  · exact Or.inr ⟨_, _, _, _, _, rfl⟩

end CentrifugeVerif.Recovery
