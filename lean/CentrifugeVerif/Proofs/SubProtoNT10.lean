import CentrifugeVerif.Proofs.SubProtoNT7
import CentrifugeVerif.Proofs.SubProtoNT8
import CentrifugeVerif.Proofs.SubProtoNT9
/-!
What layers 1-5 of the no-timeout invariants give once the connection is closed and nothing is in flight.
-/
namespace CentrifugeVerif.SubProto

/-- closed, nothing in flight, no timeout ever fired: no `c.channels` entry, no hub entry, no presence entry -/
theorem closed_settled_maps_empty (s : State) (hi : NTInv s) (h4 : L4 s) (h5 : L5 s) (hc : s.status = .closed) (hs : s.settled) :
    s.channels = [] ∧ s.hub = [] ∧ s.presence = [] := by
  have hchan : ∀ ch, aget s.channels ch = none := by
    intro ch
    cases he : aget s.channels ch with
    | none => rfl
    | some e =>
      exfalso
      have hsub := (settled_entries s hi hs ch e he).1
      rcases h4.Q hc with ⟨c, tc, _, hgc, _, hpc, _⟩ | ⟨_, hall⟩
      · rw [settled_thread_done s hs c tc hgc] at hpc; simp at hpc
      · have := hall ch e he; rw [hsub] at this; cases this
  have hhub : ∀ ch, aget s.hub ch = none := by
    intro ch
    cases hh : aget s.hub ch with
    | none => rfl
    | some g =>
      obtain ⟨e, he, _⟩ := settled_hub s hi hs ch g hh
      rw [hchan ch] at he; cases he
  refine ⟨alist_nil_of_aget_none _ hchan, alist_nil_of_aget_none _ hhub, ?_⟩
  cases hp : s.presence with
  | nil => rfl
  | cons ch r =>
    exfalso
    rcases h5.P ch (by rw [hp]; simp) with ⟨e, he, _⟩ | ⟨x, t, hx, _, ho⟩
    · rw [hchan ch] at he; cases he
    · rw [presOwner, settled_thread_done s hs x t hx] at ho
      simp at ho

end CentrifugeVerif.SubProto
