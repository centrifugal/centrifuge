import CentrifugeVerif.Model.ConnProtoLifecycle
/-!
The lifecycle LTS (`Model/ConnProtoLifecycle.lean`) as a relation, and its invariants.
-/
namespace CentrifugeVerif.Lifecycle

/-- `step` as a relation.  `wCb` / `unsubCb` come in two variants: the callback is nil while the
handlers are not registered. -/
inductive Step (s : St) : Label → St → Prop
  | connectCmdOk (hc : s.cpc = .idle) (hst : s.status ≠ .closed) (hsh : s.shut = .idle) :
      Step s .connectCmdOk { s with cpc := .ready, inHub := true }
  | connectCmdRefused (hc : s.cpc = .idle) (hst : s.status ≠ .closed) (hsh : s.shut ≠ .idle) :
      Step s .connectCmdRefused { s with cpc := .refused }
  | triggerRun (hc : s.cpc = .ready) (hmu : connectMuFree s = true) (hst : s.status = .connecting) :
      Step s .triggerAcquire { s with cpc := .inCb, registered := true, log := s.log ++ [.connectStart] }
  | triggerSkip (hc : s.cpc = .ready) (hmu : connectMuFree s = true) (hst : s.status ≠ .connecting) :
      Step s .triggerAcquire { s with cpc := .doneSkipped }
  | triggerEnd (hc : s.cpc = .inCb) :
      Step s .triggerEnd { s with cpc := .doneRan, status := .connected, log := s.log ++ [.connectEnd] }
  | subscribe (hst : s.status ≠ .closed) (hc : s.cpc ≠ .idle) (hc' : s.cpc ≠ .refused) :
      Step s .subscribe { s with subs := s.subs ++ [s.nextSub], nextSub := s.nextSub + 1 }
  | closeNoop (hmu : connectMuFree s = true) (hst : s.status = .closed) : Step s .closeTry s
  | closeWin (hmu : connectMuFree s = true) (hst : s.status ≠ .closed) :
      Step s .closeTry { s with status := .closed, inHub := false, w := .holdConnect (s.status = .connected) s.subs }
  | wAcquirePresence {p snap} (hw : s.w = .holdConnect p snap) (hmu : presenceMuFree s = true) :
      Step s .wAcquirePresence { s with w := .holdBoth p snap none }
  | wRemove {p n snap} (hw : s.w = .holdBoth p (n :: snap) none) (hn : n ∈ s.subs) :
      Step s .wRemove { s with subs := s.subs.erase n, w := .holdBoth p snap (some n),
                               endedReg := if s.registered then s.endedReg ++ [n] else s.endedReg }
  | wRemoveGone {p n snap} (hw : s.w = .holdBoth p (n :: snap) none) (hn : n ∉ s.subs) :
      Step s .wRemove { s with w := .holdBoth p snap none }
  | wCb {p snap n} (hw : s.w = .holdBoth p snap (some n)) (hr : s.registered = true) :
      Step s .wCb { s with w := .holdBoth p snap none, log := s.log ++ [.unsub n] }
  | wCbNil {p snap n} (hw : s.w = .holdBoth p snap (some n)) (hr : ¬ s.registered = true) :
      Step s .wCb { s with w := .holdBoth p snap none }
  | wDisc (hw : s.w = .holdBoth true [] none) :
      Step s .wDisc { s with w := .inDisc, log := s.log ++ [.discStart] }
  | wDiscSkip (hw : s.w = .holdBoth false [] none) : Step s .wDisc { s with w := .done false }
  | wDiscEnd (hw : s.w = .inDisc) : Step s .wDiscEnd { s with w := .done true, log := s.log ++ [.discEnd] }
  | unsubRemove {n} (hn : n ∈ s.subs) :
      Step s (.unsubRemove n) { s with subs := s.subs.erase n, owing := s.owing ++ [n],
                                       endedReg := if s.registered then s.endedReg ++ [n] else s.endedReg }
  | unsubRemoveGone {n} (hn : n ∉ s.subs) : Step s (.unsubRemove n) s
  | unsubCb {n} (hn : n ∈ s.owing) (hr : s.registered = true) :
      Step s (.unsubCb n) { s with owing := s.owing.erase n, log := s.log ++ [.unsub n] }
  | unsubCbNil {n} (hn : n ∈ s.owing) (hr : ¬ s.registered = true) :
      Step s (.unsubCb n) { s with owing := s.owing.erase n }
  | tickNoop (hmu : presenceMuFree s = true) (hst : s.status = .closed) : Step s .tickAcquire s
  | tickAcquire (hmu : presenceMuFree s = true) (hst : s.status ≠ .closed) :
      Step s .tickAcquire { s with tick := .checked }
  | tickAliveStart (ht : s.tick = .checked) (hr : s.registered = true) :
      Step s .tickAliveStart { s with tick := .inAlive, log := s.log ++ [.aliveStart] }
  | tickAliveEnd (ht : s.tick = .inAlive) :
      Step s .tickAliveEnd { s with tick := .afterAlive, log := s.log ++ [.aliveEnd] }
  | tickRelease (ht : s.tick = .checked ∨ s.tick = .afterAlive) : Step s .tickRelease { s with tick := .none }
  | shutdownSnapshot (hsh : s.shut = .idle) : Step s .shutdownSnapshot { s with shut := .snapshotTaken s.inHub }
  | shutdownDone {had} (hsh : s.shut = .snapshotTaken had) (hcl : had = false ∨ s.status = .closed) :
      Step s .shutdownDone { s with shut := .done }

theorem Step.of_step {s s' : St} {l : Label} (h : step s l = some s') : Step s l s' := by
  unfold step at h
  cases l <;> dsimp only at h
  case connectCmdOk =>
    split at h <;> cases h
    next hg => simp at hg; exact .connectCmdOk hg.1.1 hg.1.2 hg.2
  case connectCmdRefused =>
    split at h <;> cases h
    next hg => simp at hg; exact .connectCmdRefused hg.1.1 hg.1.2 hg.2
  case triggerAcquire =>
    split at h
    · next hg =>
      simp only [Bool.and_eq_true, decide_eq_true_eq] at hg
      split at h <;> cases h
      · next hst => exact .triggerRun hg.1 hg.2 hst
      · next hst => exact .triggerSkip hg.1 hg.2 hst
    · cases h
  case triggerEnd =>
    split at h <;> cases h
    next hc => exact .triggerEnd hc
  case subscribe =>
    split at h <;> cases h
    next hg => simp at hg; exact .subscribe hg.1.1 hg.1.2 hg.2
  case closeTry =>
    split at h
    · next hmu =>
      split at h <;> cases h
      · next hst => exact .closeNoop hmu hst
      · next hst => exact .closeWin hmu hst
    · cases h
  case wAcquirePresence =>
    split at h
    · next p snap hw =>
      split at h <;> cases h
      next hmu => exact .wAcquirePresence hw hmu
    · cases h
  case wRemove =>
    split at h
    · next p n snap hw =>
      split at h <;> cases h
      · next hn => exact .wRemove hw (List.contains_iff_mem.mp hn)
      · next hn => exact .wRemoveGone hw (mt List.contains_iff_mem.mpr hn)
    · cases h
  case wCb =>
    split at h
    · next p snap n hw =>
      cases h
      by_cases hr : s.registered = true
      · rw [if_pos hr]; exact .wCb hw hr
      · rw [if_neg hr]; exact .wCbNil hw hr
    · cases h
  case wDisc =>
    split at h
    · next p hw =>
      split at h <;> cases h
      · next hp => subst hp; exact .wDisc hw
      · next hp => rw [Bool.not_eq_true] at hp; subst hp; exact .wDiscSkip hw
    · cases h
  case wDiscEnd =>
    split at h
    · next hw => cases h; exact .wDiscEnd hw
    · cases h
  case unsubRemove n =>
    split at h <;> cases h
    · next hn => exact .unsubRemove (List.contains_iff_mem.mp hn)
    · next hn => exact .unsubRemoveGone (mt List.contains_iff_mem.mpr hn)
  case unsubCb n =>
    split at h <;> cases h
    next hn =>
      have hn := List.contains_iff_mem.mp hn
      by_cases hr : s.registered = true
      · rw [if_pos hr]; exact .unsubCb hn hr
      · rw [if_neg hr]; exact .unsubCbNil hn hr
  case tickAcquire =>
    split at h
    · next hmu =>
      split at h <;> cases h
      · next hst => exact .tickNoop hmu hst
      · next hst => exact .tickAcquire hmu hst
    · cases h
  case tickAliveStart =>
    split at h <;> cases h
    next hg => simp at hg; exact .tickAliveStart hg.1 hg.2
  case tickAliveEnd =>
    split at h <;> cases h
    next ht => exact .tickAliveEnd ht
  case tickRelease =>
    split at h <;> cases h
    next hg => simp at hg; exact .tickRelease hg
  case shutdownSnapshot =>
    split at h <;> cases h
    next hsh => exact .shutdownSnapshot hsh
  case shutdownDone =>
    split at h
    · next had hsh =>
      split at h <;> cases h
      next hg => simp at hg; exact .shutdownDone hsh hg
    · cases h

theorem run_induction {P : St → Prop} (hstep : ∀ s s' l, P s → step s l = some s' → P s') :
    ∀ (ls : List Label) (s s' : St), P s → run s ls = some s' → P s'
  | [], _, _, h, hr => Option.some.inj hr ▸ h
  | l :: ls, s, s', h, hr => by
    simp only [run] at hr
    split at hr
    · next s1 h1 => exact run_induction hstep ls s1 s' (hstep s s1 l h h1) hr
    · cases hr

theorem run_append (l1 l2 : List Label) (a : St) : run a (l1 ++ l2) = (run a l1).bind (fun m => run m l2) := by
  induction l1 generalizing a with
  | nil => simp [run]
  | cons l l1 ih => simp only [List.cons_append, run]; split <;> simp [ih]

def cntU (n : Nat) (s : St) : Nat := s.log.count (.unsub n)

def wOwes (n : Nat) : WPC → Nat
  | .holdBoth _ _ (some m) => if m = n then 1 else 0
  | _ => 0

/-- callbacks for subscription `n` that some thread still has to run -/
def owes (n : Nat) (s : St) : Nat := s.owing.count n + wOwes n s.w

theorem count_snoc {α} [DecidableEq α] (l : List α) (a b : α) :
    (l ++ [b]).count a = l.count a + if b = a then 1 else 0 := by
  simp only [List.count_append, List.count_singleton, beq_iff_eq]

theorem count_unsub_append_other (log : List Ev) (e : Ev) (n : Nat) (h : e ≠ .unsub n) :
    (log ++ [e]).count (.unsub n) = log.count (.unsub n) := by
  rw [count_snoc, if_neg h, Nat.add_zero]

theorem count_unsub_append_self (log : List Ev) (n m : Nat) :
    (log ++ [Ev.unsub m]).count (.unsub n) = log.count (.unsub n) + (if m = n then 1 else 0) := by
  simp only [count_snoc, Ev.unsub.injEq]

theorem connectMuFree_cpc {s : St} (h : connectMuFree s = true) : s.cpc ≠ .inCb := by
  simp only [connectMuFree, Bool.and_eq_true, bne_iff_ne] at h
  exact h.1

theorem connectMuFree_wOwes {s : St} (h : connectMuFree s = true) (n : Nat) : wOwes n s.w = 0 := by
  simp only [connectMuFree, Bool.and_eq_true] at h
  cases hw : s.w <;> simp [hw] at h <;> rfl

theorem presenceMuFree_tick {s : St} (h : presenceMuFree s = true) : s.tick = .none := by
  simp only [presenceMuFree, Bool.and_eq_true, beq_iff_eq] at h
  exact h.1

/-- `cntU n s + owes n s`: unsubscribe callbacks for `n` that have run or are owed -/
structure UInv (s : St) : Prop where
  nodup : s.subs.Nodup
  bound : ∀ n, n ∈ s.subs → n < s.nextSub
  zero : ∀ n, n ∈ s.subs ∨ s.nextSub ≤ n → cntU n s + owes n s = 0
  once : ∀ n, cntU n s + owes n s ≤ 1
  ended : ∀ n, n ∈ s.endedReg → s.registered = true ∧ cntU n s + owes n s = 1

theorem uinv_init : UInv {} where
  nodup := .nil
  bound _ h := nomatch h
  zero _ _ := rfl
  once _ := Nat.zero_le 1
  ended _ h := nomatch h

/-- an owed callback may be dropped only while the handlers are not registered -/
theorem UInv.mono {s s' : St} (h : UInv s) (h1 : s'.subs = s.subs) (h2 : s'.nextSub = s.nextSub)
    (h3 : s'.endedReg = s.endedReg) (h4 : s.registered = true → s'.registered = true)
    (h5 : ∀ n, cntU n s' + owes n s' ≤ cntU n s + owes n s)
    (h6 : s.registered = true → ∀ n, cntU n s' + owes n s' = cntU n s + owes n s) : UInv s' where
  nodup := h1 ▸ h.nodup
  bound n hn := h2 ▸ h.bound n (h1 ▸ hn)
  zero n hn := Nat.le_zero.mp (h.zero n (h1 ▸ h2 ▸ hn) ▸ h5 n)
  once n := Nat.le_trans (h5 n) (h.once n)
  ended n hn := have ⟨hr, ht⟩ := h.ended n (h3 ▸ hn); ⟨h4 hr, (h6 hr n).trans ht⟩

theorem UInv.of_total_eq {s s' : St} (h : UInv s) (h1 : s'.subs = s.subs) (h2 : s'.nextSub = s.nextSub)
    (h3 : s'.endedReg = s.endedReg) (h4 : s.registered = true → s'.registered = true)
    (h5 : ∀ n, cntU n s' + owes n s' = cntU n s + owes n s) : UInv s' :=
  h.mono h1 h2 h3 h4 (fun n => Nat.le_of_eq (h5 n)) (fun _ => h5)

theorem UInv.frame {s s' : St} (h : UInv s) (h1 : s'.subs = s.subs) (h2 : s'.nextSub = s.nextSub)
    (h3 : s'.endedReg = s.endedReg) (h4 : s.registered = true → s'.registered = true)
    (h5 : ∀ n, cntU n s' = cntU n s) (h6 : ∀ n, owes n s' = owes n s) : UInv s' :=
  h.of_total_eq h1 h2 h3 h4 fun n => by rw [h5, h6]

theorem UInv.remove {s s' : St} {m : Nat} (h : UInv s) (hm : m ∈ s.subs) (h1 : s'.subs = s.subs.erase m)
    (h2 : s'.nextSub = s.nextSub)
    (h3 : s'.endedReg = if s.registered then s.endedReg ++ [m] else s.endedReg)
    (h4 : s'.registered = s.registered)
    (h5 : ∀ n, cntU n s' + owes n s' = cntU n s + owes n s + if m = n then 1 else 0) : UInv s' := by
  have h0 := h.zero m (.inl hm)
  have hne : ∀ n, n ∈ s.subs.erase m ∨ s.nextSub ≤ n → m ≠ n := by
    rintro n (hn | hn) rfl
    · exact h.nodup.not_mem_erase hn
    · exact Nat.lt_irrefl _ (Nat.lt_of_lt_of_le (h.bound m hm) hn)
  have hold : ∀ n, n ∈ s.endedReg → s'.registered = true ∧ cntU n s' + owes n s' = 1 := by
    intro n hn
    have ⟨hr, ht⟩ := h.ended n hn
    have : m ≠ n := by rintro rfl; omega
    rw [h4, h5, if_neg this]
    exact ⟨hr, ht⟩
  constructor
  · rw [h1]; exact h.nodup.erase m
  · intro n hn
    rw [h1] at hn; rw [h2]
    exact h.bound n (List.mem_of_mem_erase hn)
  · intro n hn
    rw [h1, h2] at hn
    rw [h5, if_neg (hne n hn)]
    exact h.zero n (hn.imp_left List.mem_of_mem_erase)
  · intro n
    rw [h5]
    split
    · next e => subst e; omega
    · exact h.once n
  · intro n hn
    rw [h3] at hn
    split at hn
    · next hr =>
      rcases List.mem_append.mp hn with hn | hn
      · exact hold n hn
      · cases List.mem_singleton.mp hn
        rw [h4, h5, if_pos rfl, h0]
        exact ⟨hr, rfl⟩
    · exact hold n hn

theorem UInv.subscribe {s : St} (h : UInv s) :
    UInv { s with subs := s.subs ++ [s.nextSub], nextSub := s.nextSub + 1 } where
  nodup := List.nodup_append.mpr ⟨h.nodup, List.pairwise_singleton _ _, fun a ha b hb => by
    cases List.mem_singleton.mp hb
    exact Nat.ne_of_lt (h.bound a ha)⟩
  bound n hn := by
    rcases List.mem_append.mp hn with hn | hn
    · exact Nat.lt_succ_of_lt (h.bound n hn)
    · cases List.mem_singleton.mp hn
      exact Nat.lt_succ_self _
  zero n hn := h.zero n <| by
    rcases hn with hn | hn
    · rcases List.mem_append.mp hn with hn | hn
      · exact .inl hn
      · cases List.mem_singleton.mp hn
        exact .inr (Nat.le_refl _)
    · exact .inr (Nat.le_of_succ_le hn)
  once := h.once
  ended := h.ended

theorem UInv.step {s s' : St} {l : Label} (h : UInv s) (hs : Step s l s') : UInv s' := by
  cases hs with
  | subscribe => exact h.subscribe
  | closeNoop | unsubRemoveGone | tickNoop => exact h
  | triggerRun =>
    exact h.frame rfl rfl rfl (fun _ => rfl) (fun n => count_unsub_append_other _ _ n (by nofun))
      fun _ => rfl
  | triggerEnd | tickAliveStart | tickAliveEnd =>
    exact h.frame rfl rfl rfl id (fun n => count_unsub_append_other _ _ n (by nofun)) fun _ => rfl
  | closeWin hmu =>
    exact h.frame rfl rfl rfl id (fun _ => rfl) fun n => by
      simp only [owes, connectMuFree_wOwes hmu]; rfl
  | wAcquirePresence hw | wRemoveGone hw | wDiscSkip hw =>
    exact h.frame rfl rfl rfl id (fun _ => rfl) fun n => by simp only [owes, wOwes, hw]
  | wDisc hw | wDiscEnd hw =>
    exact h.frame rfl rfl rfl id (fun n => count_unsub_append_other _ _ n (by nofun)) fun n => by
      simp only [owes, wOwes, hw]
  | wRemove hw hn =>
    exact h.remove hn rfl rfl rfl rfl fun n => by simp only [cntU, owes, wOwes, hw]; omega
  | unsubRemove hn =>
    exact h.remove hn rfl rfl rfl rfl fun n => by simp only [cntU, owes, count_snoc]; omega
  | wCb hw =>
    exact h.of_total_eq rfl rfl rfl id fun n => by
      simp only [cntU, owes, wOwes, hw, count_unsub_append_self]; omega
  | wCbNil hw hr =>
    exact h.mono rfl rfl rfl id (fun n => by simp only [cntU, owes, wOwes, hw]; omega)
      fun hr' => absurd hr' hr
  | unsubCb hn =>
    have := List.count_pos_iff.mpr hn
    exact h.of_total_eq rfl rfl rfl id fun n => by
      simp only [cntU, owes, count_unsub_append_self, List.count_erase, beq_iff_eq]
      split
      · next e => subst e; omega
      · omega
  | unsubCbNil hn hr =>
    exact h.mono rfl rfl rfl id (fun n => by simp only [cntU, owes, List.count_erase]; omega)
      fun hr' => absurd hr' hr
  | _ => exact h.frame rfl rfl rfl id (fun _ => rfl) fun _ => rfl

theorem scan_append_list (l1 l2 : List Ev) : scan (l1 ++ l2) = l2.foldl scanStep (scan l1) :=
  List.foldl_append

theorem scan_append (log : List Ev) (e : Ev) : scan (log ++ [e]) = scanStep (scan log) e :=
  scan_append_list log [e]

theorem foldl_flags : ∀ (log : List Ev) (a : Scan),
    ((log.foldl scanStep a).seenDS = (a.seenDS || decide (Ev.discStart ∈ log))) ∧
    ((log.foldl scanStep a).seenCE = (a.seenCE || decide (Ev.connectEnd ∈ log))) ∧
    ((log.foldl scanStep a).seenCS = (a.seenCS || decide (Ev.connectStart ∈ log)))
  | [], a => by simp
  | e :: l, a => by
    have ih := foldl_flags l (scanStep a e)
    simp only [List.foldl_cons]
    rw [ih.1, ih.2.1, ih.2.2]
    cases e <;> simp [scanStep]

theorem seenCS_iff (l : List Ev) : (scan l).seenCS = true ↔ Ev.connectStart ∈ l := by
  simp [scan, (foldl_flags l {}).2.2]
theorem seenCE_iff (l : List Ev) : (scan l).seenCE = true ↔ Ev.connectEnd ∈ l := by
  simp [scan, (foldl_flags l {}).2.1]
theorem seenDS_iff (l : List Ev) : (scan l).seenDS = true ↔ Ev.discStart ∈ l := by
  simp [scan, (foldl_flags l {}).1]

theorem foldl_ok_mono : ∀ (log : List Ev) (a : Scan), (log.foldl scanStep a).ok = true → a.ok = true
  | [], _, h => h
  | e :: l, a, h => by
    have := foldl_ok_mono l (scanStep a e) h
    cases e <;> simp [scanStep] at this <;> simp [this]

theorem ok_prefix (l1 l2 : List Ev) (h : (scan (l1 ++ l2)).ok = true) : (scan l1).ok = true :=
  foldl_ok_mono l2 _ (scan_append_list l1 l2 ▸ h)

/-- `ok` means: wherever an event sits in the log, its precondition held on the prefix before it -/
theorem ok_split (l1 : List Ev) (e : Ev) (l2 : List Ev) (h : (scan (l1 ++ e :: l2)).ok = true) :
    (scanStep (scan l1) e).ok = true :=
  scan_append l1 e ▸ ok_prefix (l1 ++ [e]) l2 (by rwa [List.append_assoc])

theorem connectStart_once {l1 l2 : List Ev} (hok : (scan (l1 ++ .connectStart :: l2)).ok = true) :
    Ev.connectStart ∉ l1 := fun hm => by
  have h := ok_split l1 _ l2 hok
  simp [scanStep, (seenCS_iff l1).mpr hm] at h

theorem discStart_discipline {l1 l2 : List Ev} (hok : (scan (l1 ++ .discStart :: l2)).ok = true) :
    Ev.discStart ∉ l1 ∧ Ev.connectEnd ∈ l1 ∧ Ev.aliveStart ∉ l2 ∧ Ev.aliveEnd ∉ l2 ∧ Ev.discStart ∉ l2 := by
  have h := ok_split l1 _ l2 hok
  simp only [scanStep, Bool.and_eq_true, Bool.not_eq_true'] at h
  -- an event whose precondition fails once `discStart` was seen cannot follow
  have aux : ∀ e : Ev, (∀ a : Scan, a.seenDS = true → (scanStep a e).ok = false) → e ∉ l2 := by
    intro e hbad hmem
    obtain ⟨a, b, rfl⟩ := List.append_of_mem hmem
    have h2 := ok_split (l1 ++ .discStart :: a) e b (by simpa using hok)
    rw [hbad _ ((seenDS_iff _).mpr (by simp))] at h2
    cases h2
  refine ⟨fun hm => ?_, (seenCE_iff l1).mp h.1.2, aux _ ?_, aux _ ?_, aux _ ?_⟩
  · rw [(seenDS_iff l1).mpr hm] at h; cases h.2
  all_goals intro a ha; simp [scanStep, ha]

/-- every event but `connectStart` needs an earlier event: follow that chain back -/
theorem connectStart_first : ∀ (l1 : List Ev) {l2 : List Ev} {e : Ev},
    (scan (l1 ++ e :: l2)).ok = true → e ≠ .connectStart → Ev.connectStart ∈ l1
  | l1, l2, e, hok, he => by
    have h := ok_split l1 e l2 hok
    have back : ∀ f : Ev, f ≠ .connectStart → f ∈ l1 → Ev.connectStart ∈ l1 := fun f hf hm => by
      obtain ⟨a, b, rfl⟩ := List.append_of_mem hm
      exact List.mem_append_left _ (connectStart_first a (ok_prefix _ _ hok) hf)
    cases e <;> simp only [scanStep, Bool.and_eq_true] at h
    case connectStart => exact absurd rfl he
    case discStart => exact back .connectEnd nofun ((seenCE_iff l1).mp h.1.2)
    case discEnd => exact back .discStart nofun ((seenDS_iff l1).mp h.2)
    case connectEnd | unsub => exact (seenCS_iff l1).mp h.2
    case aliveStart | aliveEnd => exact (seenCS_iff l1).mp h.1.2
termination_by l1 => l1.length
decreasing_by subst l1; simp +arith

def wEarly : WPC → Bool
  | .none => true
  | .holdConnect _ _ => true
  | _ => false

def wPrev : WPC → Bool
  | .holdConnect p _ => p
  | .holdBoth p _ _ => p
  | _ => false

structure Inv (s : St) : Prop where
  ok : (scan s.log).ok = true
  cs : (scan s.log).seenCS = true ↔ (s.cpc = .inCb ∨ s.cpc = .doneRan)
  ce : (scan s.log).seenCE = true ↔ s.cpc = .doneRan
  ds : (scan s.log).seenDS = true ↔ (s.w = .inDisc ∨ s.w = .done true)
  reg : s.registered = true ↔ (s.cpc = .inCb ∨ s.cpc = .doneRan)
  closed : s.status = .closed ↔ s.w ≠ .none
  conn : s.status = .connected → s.cpc = .doneRan
  incb : s.cpc = .inCb → s.status = .connecting
  prev : wPrev s.w = true → s.cpc = .doneRan
  tk : s.tick ≠ .none → wEarly s.w = true
  tkreg : s.tick = .inAlive → s.registered = true

theorem inv_init : Inv {} := by
  constructor <;> simp [scan, wPrev, wEarly]

theorem Inv.w_none {s : St} (h : Inv s) (hst : s.status ≠ .closed) : s.w = .none :=
  Decidable.not_not.mp (mt h.closed.mpr hst)

theorem Inv.seenCS {s : St} (h : Inv s) (hr : s.registered = true) : (scan s.log).seenCS = true :=
  h.cs.mpr (h.reg.mp hr)

theorem Inv.seenDS_false {s : St} (h : Inv s) (hw : wEarly s.w = true) : (scan s.log).seenDS = false :=
  Bool.eq_false_iff.mpr fun hd => by
    rcases h.ds.mp hd with e | e <;> rw [e] at hw <;> cases hw

/-- the invariant mentions `cpc` only through `= .inCb` and `= .doneRan` -/
theorem Inv.set_cpc {s : St} (h : Inv s) (c : CPC) (h1 : s.cpc ≠ .inCb) (h2 : s.cpc ≠ .doneRan)
    (h3 : c ≠ .inCb) (h4 : c ≠ .doneRan) : Inv { s with cpc := c } :=
  { h with
    cs := by simpa [h1, h2, h3, h4] using h.cs
    ce := by simpa [h2, h4] using h.ce
    reg := by simpa [h1, h2, h3, h4] using h.reg
    conn := fun hx => absurd (h.conn hx) h2
    incb := fun hx => absurd hx h3
    prev := fun hx => absurd (h.prev hx) h2 }

theorem Inv.append {s : St} (h : Inv s) (e : Ev) (hok : (scanStep (scan s.log) e).ok = true)
    (hcs : (scanStep (scan s.log) e).seenCS = (scan s.log).seenCS := by rfl)
    (hce : (scanStep (scan s.log) e).seenCE = (scan s.log).seenCE := by rfl)
    (hds : (scanStep (scan s.log) e).seenDS = (scan s.log).seenDS := by rfl) :
    Inv { s with log := s.log ++ [e] } :=
  { h with
    ok := by rw [scan_append]; exact hok
    cs := by rw [scan_append, hcs]; exact h.cs
    ce := by rw [scan_append, hce]; exact h.ce
    ds := by rw [scan_append, hds]; exact h.ds }

theorem Inv.holdBoth {s : St} {p snap o} (h : Inv s) (hw : s.w = .holdBoth p snap o) (snap' o') :
    Inv { s with w := .holdBoth p snap' o' } :=
  { h with
    ds := by simpa [hw] using h.ds
    closed := by simpa [hw] using h.closed
    prev := by simpa [hw, wPrev] using h.prev
    tk := by simpa [hw, wEarly] using h.tk }

theorem Inv.step {s s' : St} {l : Label} (h : Inv s) (hs : Step s l s') : Inv s' := by
  cases hs with
  | closeNoop | tickNoop | unsubRemoveGone => exact h
  | connectCmdOk hc =>
    exact { h.set_cpc .ready (by simp [hc]) (by simp [hc]) nofun nofun with }
  | connectCmdRefused hc =>
    exact h.set_cpc .refused (by simp [hc]) (by simp [hc]) nofun nofun
  | triggerSkip hc =>
    exact h.set_cpc .doneSkipped (by simp [hc]) (by simp [hc]) nofun nofun
  | triggerRun hc _ hst =>
    have hcs : (scan s.log).seenCS = false := by simpa [hc] using h.cs
    exact { h with
      ok := by simp [scan_append, scanStep, h.ok, hcs]
      cs := by simp [scan_append, scanStep]
      ce := by simpa [scan_append, scanStep, hc] using h.ce
      ds := by simpa [scan_append, scanStep] using h.ds
      reg := by simp
      conn := by simp [hst]
      incb := fun _ => hst
      prev := by simpa [hc] using h.prev
      tkreg := fun _ => rfl }
  | triggerEnd hc =>
    have hcs := h.cs.mpr (.inl hc)
    have hw := h.w_none (by simp [h.incb hc])
    exact { h with
      ok := by simp [scan_append, scanStep, h.ok, hcs]
      cs := by simp [scan_append, scanStep, hcs]
      ce := by simp [scan_append, scanStep]
      ds := by simpa [scan_append, scanStep] using h.ds
      reg := by simp [h.reg.mpr (.inl hc)]
      closed := by simp [hw]
      conn := fun _ => rfl
      incb := nofun
      prev := fun _ => rfl }
  | closeWin hmu hst =>
    have hw := h.w_none hst
    have hc := connectMuFree_cpc hmu
    exact { h with
      ds := by simpa [hw] using h.ds
      closed := by simp
      conn := nofun
      incb := fun hx => absurd hx hc
      prev := fun hp => h.conn (by simpa [wPrev] using hp)
      tk := fun _ => rfl }
  | wAcquirePresence hw hmu =>
    exact { h with
      ds := by simpa [hw] using h.ds
      closed := by simpa [hw] using h.closed
      prev := by simpa [hw, wPrev] using h.prev
      tk := fun ht => absurd (presenceMuFree_tick hmu) ht }
  | wRemove hw | wRemoveGone hw | wCbNil hw => exact { h.holdBoth hw _ _ with }
  | wCb hw hr =>
    exact (h.append (.unsub _) (by simp [scanStep, h.ok, h.seenCS hr])).holdBoth hw _ _
  | wDisc hw =>
    have hce := h.ce.mpr (h.prev (by rw [hw]; rfl))
    have hds : (scan s.log).seenDS = false := by simpa [hw] using h.ds
    exact { h with
      ok := by simp [scan_append, scanStep, h.ok, hce, hds]
      cs := by simpa [scan_append, scanStep] using h.cs
      ce := by simpa [scan_append, scanStep] using h.ce
      ds := by simp [scan_append, scanStep]
      closed := by simpa [hw] using h.closed
      prev := nofun
      tk := by simpa [hw, wEarly] using h.tk }
  | wDiscSkip hw =>
    exact { h with
      ds := by simpa [hw] using h.ds
      closed := by simpa [hw] using h.closed
      prev := nofun
      tk := by simpa [hw, wEarly] using h.tk }
  | wDiscEnd hw =>
    have hds := h.ds.mpr (.inl hw)
    have h1 := h.append .discEnd (by simp [scanStep, h.ok, hds])
    exact { h1 with
      ds := by simpa [hw] using h1.ds
      closed := by simpa [hw] using h.closed
      prev := nofun
      tk := by simpa [hw, wEarly] using h.tk }
  | unsubCb _ hr =>
    exact { h.append (.unsub _) (by simp [scanStep, h.ok, h.seenCS hr]) with }
  | tickAcquire _ hst =>
    exact { h with
      tk := fun _ => by rw [h.w_none hst]; rfl
      tkreg := nofun }
  | tickAliveStart ht hr =>
    have hwe := h.tk (by simp [ht])
    have hok : (scanStep (scan s.log) .aliveStart).ok = true := by
      simp [scanStep, h.ok, h.seenCS hr, h.seenDS_false hwe]
    exact { h.append .aliveStart hok with
      tk := fun _ => hwe
      tkreg := fun _ => hr }
  | tickAliveEnd ht =>
    have hwe := h.tk (by simp [ht])
    have hok : (scanStep (scan s.log) .aliveEnd).ok = true := by
      simp [scanStep, h.ok, h.seenCS (h.tkreg ht), h.seenDS_false hwe]
    exact { h.append .aliveEnd hok with
      tk := fun _ => hwe
      tkreg := nofun }
  | tickRelease =>
    exact { h with
      tk := fun ht => absurd rfl ht
      tkreg := nofun }
  | _ => exact { h with }

def passedAdd (s : St) : Prop := s.cpc = .ready ∨ s.cpc = .inCb ∨ s.cpc = .doneRan

structure SInv (s : St) : Prop where
  /-- a client that passed `addClient` and is not closed is registered in the hub -/
  hub : passedAdd s → s.status ≠ .closed → s.inHub = true
  /-- once the shutdown took its snapshot, a client that passed `addClient` is closed already or
  is in the snapshot -/
  sh : s.shut ≠ .idle → passedAdd s → s.status = .closed ∨ s.shut = .snapshotTaken true

theorem sinv_init : SInv {} := by
  constructor <;> simp [passedAdd]

theorem SInv.step {s s' : St} {l : Label} (hI : Inv s) (h : SInv s) (hs : Step s l s') : SInv s' := by
  cases hs with
  | connectCmdOk _ _ hsh => exact ⟨fun _ _ => rfl, fun hsn => absurd hsh hsn⟩
  | connectCmdRefused | triggerSkip => constructor <;> simp [passedAdd]
  | triggerRun hc => exact ⟨fun _ => h.hub (.inl hc), fun hsn _ => h.sh hsn (.inl hc)⟩
  | triggerEnd hc =>
    have hp : passedAdd s := .inr (.inl hc)
    have hst : s.status ≠ .closed := by simp [hI.incb hc]
    exact ⟨fun _ _ => h.hub hp hst, fun hsn _ => .inr ((h.sh hsn hp).resolve_left hst)⟩
  | closeWin => exact ⟨fun _ hcl => absurd rfl hcl, fun _ _ => .inl rfl⟩
  | shutdownSnapshot =>
    refine ⟨h.hub, fun _ hp => ?_⟩
    by_cases hcl : s.status = .closed
    · exact .inl hcl
    · exact .inr (congrArg _ (h.hub hp hcl))
  | shutdownDone hsh hcl =>
    refine ⟨h.hub, fun _ hp => .inl ?_⟩
    rcases hcl with rfl | hcl
    · exact (h.sh (by simp [hsh]) hp).resolve_right (by simp [hsh])
    · exact hcl
  | _ => exact { h with }

theorem shut_done_stable (ls : List Label) (x y : St) (h : run x ls = some y) (hx : x.shut = .done) :
    y.shut = .done :=
  run_induction (P := fun s => s.shut = .done) (fun s s' l hd hs => by
    cases Step.of_step hs with
    | shutdownSnapshot hi => rw [hi] at hd; cases hd
    | shutdownDone => rfl
    | _ => exact hd) ls x y hx h

end CentrifugeVerif.Lifecycle
