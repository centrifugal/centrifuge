import CentrifugeVerif.Model.Stream
/-!
Lemmas about `Model/Stream.lean`: the contiguity invariant is kept by every mutator and, under the
invariant, `Get` is the filter `getSpec` of the retained items (all useOffset × reverse × limit
combinations, index-miss fallbacks included).
-/
namespace CentrifugeVerif.MemStream

variable {α : Type}

/-- lists whose offsets are the contiguous run `a, a+1, …` -/
def Contig (a : Nat) (l : List (Item α)) : Prop := l.map (·.offset) = List.range' a l.length

theorem contig_nil (a : Nat) : Contig a ([] : List (Item α)) := by simp [Contig]

theorem contig_cons {a : Nat} {x : Item α} {xs : List (Item α)} :
    Contig a (x :: xs) ↔ x.offset = a ∧ Contig (a + 1) xs := by
  simp [Contig, List.range'_succ]

theorem contig_mem {a : Nat} {l : List (Item α)} (h : Contig a l) {it : Item α} (hm : it ∈ l) :
    a ≤ it.offset ∧ it.offset < a + l.length := by
  have : it.offset ∈ l.map (·.offset) := List.mem_map_of_mem hm
  rw [h] at this
  exact List.mem_range'_1.mp this

theorem contig_filter_ge {a : Nat} {l : List (Item α)} (h : Contig a l) (o : Nat) :
    l.filter (fun it => decide (o ≤ it.offset)) = l.drop (o - a) := by
  induction l generalizing a with
  | nil => simp
  | cons x xs ih =>
    obtain ⟨hx, hxs⟩ := contig_cons.mp h
    by_cases hle : o ≤ a
    · rw [Nat.sub_eq_zero_of_le hle, List.drop_zero, List.filter_eq_self]
      intro it hit
      have := contig_mem h hit
      rw [decide_eq_true_eq]; omega
    · have : ¬ o ≤ x.offset := by omega
      rw [show o - a = (o - (a + 1)) + 1 by omega, List.drop_succ_cons, List.filter_cons_of_neg (by simpa using this), ih hxs]

theorem contig_filter_le {a : Nat} {l : List (Item α)} (h : Contig a l) (o : Nat) :
    l.filter (fun it => decide (it.offset ≤ o)) = l.take (o + 1 - a) := by
  induction l generalizing a with
  | nil => simp
  | cons x xs ih =>
    obtain ⟨hx, hxs⟩ := contig_cons.mp h
    by_cases hlt : o < a
    · rw [Nat.sub_eq_zero_of_le hlt, List.take_zero, List.filter_eq_nil_iff]
      intro it hit
      have := contig_mem h hit
      rw [decide_eq_true_eq]; omega
    · have : x.offset ≤ o := by omega
      rw [show o + 1 - a = (o + 1 - (a + 1)) + 1 by omega, List.take_succ_cons,
        List.filter_cons_of_pos (by simpa using this), ih hxs]

theorem fromOffset_miss {l : List (Item α)} {o : Nat} (h : ∀ it ∈ l, it.offset ≠ o) : fromOffset o l = none := by
  induction l with
  | nil => rfl
  | cons x xs ih =>
    rw [fromOffset, if_neg (h x (by simp)), ih (fun it hit => h it (by simp [hit]))]

theorem fromOffset_hit {a k : Nat} {l : List (Item α)} (h : Contig a l) (hk : k < l.length) :
    fromOffset (a + k) l = some (l.drop k) := by
  induction l generalizing a k with
  | nil => simp at hk
  | cons x xs ih =>
    obtain ⟨hx, hxs⟩ := contig_cons.mp h
    cases k with
    | zero => rw [fromOffset, if_pos (by omega)]; rfl
    | succ k =>
      rw [fromOffset, if_neg (by omega), show a + (k + 1) = a + 1 + k by omega, ih hxs (by simpa using hk)]
      rfl

theorem uptoOffsetRev_miss {l : List (Item α)} {o : Nat} (h : ∀ it ∈ l, it.offset ≠ o) (acc : List (Item α)) :
    uptoOffsetRev o acc l = none := by
  induction l generalizing acc with
  | nil => rfl
  | cons x xs ih =>
    rw [uptoOffsetRev, if_neg (h x (by simp)), ih (fun it hit => h it (by simp [hit]))]

theorem uptoOffsetRev_hit {a k : Nat} {l : List (Item α)} (h : Contig a l) (hk : k < l.length)
    (acc : List (Item α)) : uptoOffsetRev (a + k) acc l = some ((l.take (k + 1)).reverse ++ acc) := by
  induction l generalizing a k acc with
  | nil => simp at hk
  | cons x xs ih =>
    obtain ⟨hx, hxs⟩ := contig_cons.mp h
    cases k with
    | zero => rw [uptoOffsetRev, if_pos (by omega)]; simp
    | succ k =>
      rw [uptoOffsetRev, if_neg (by omega), show a + (k + 1) = a + 1 + k by omega, ih hxs (by simpa using hk)]
      simp

theorem takeLim_nil {β : Type} (limit : Int) : takeLim limit ([] : List β) = [] := by
  unfold takeLim; split <;> simp

theorem takeLim_zero {β : Type} (l : List β) : takeLim 0 l = [] := by
  simp [takeLim]

theorem takeLim_sublist_prefix {β : Type} (limit : Int) (l : List β) : takeLim limit l <+: l := by
  unfold takeLim; split
  · exact List.prefix_refl _
  · exact List.take_prefix _ _

theorem takeLim_length_le {β : Type} (limit : Int) (l : List β) : (takeLim limit l).length ≤ l.length :=
  (takeLim_sublist_prefix limit l).length_le

theorem takeLim_length_le_limit {β : Type} (limit : Int) (l : List β) (h : 0 ≤ limit) :
    (takeLim limit l).length ≤ limit.toNat := by
  rw [takeLim, if_neg (by omega), List.length_take]
  exact Nat.min_le_left _ _

theorem inv_contig {s : MStream α} (h : s.Inv) : Contig (s.top - s.items.length + 1) s.items := h.1

theorem inv_mem {s : MStream α} (h : s.Inv) {it : Item α} (hm : it ∈ s.items) :
    s.top - s.items.length < it.offset ∧ it.offset ≤ s.top := by
  have := contig_mem h.1 hm
  have := h.2
  omega

theorem new_inv (e : Nat) : (MStream.new e : MStream α).Inv := by
  simp [MStream.new, MStream.Inv]

/-- **`Get` = the filter of the retained items** for every `offset`, `useOffset`, `limit`
(positive, zero, negative) and direction, index-miss fallbacks included. -/
theorem get_spec (s : MStream α) (h : s.Inv) (offset : Nat) (useOffset : Bool) (limit : Int)
    (reverse : Bool) :
    s.get offset useOffset limit reverse = s.getSpec offset useOffset limit reverse := by
  have hc := inv_contig h
  have hl := h.2
  -- the `limit = 0` early return is `takeLim 0`
  have hzero : ∀ w : List (Item α), (if limit = 0 then [] else takeLim limit w) = takeLim limit w := by
    intro w; split
    · next h0 => rw [h0, takeLim_zero]
    · rfl
  cases useOffset
  · -- no offset: the walk is the whole list in the chosen direction
    cases hi : s.items <;> cases reverse <;> simp [MStream.get, MStream.getSpec, hi, hzero, takeLim_nil]
  · simp only [MStream.get, MStream.getSpec, Bool.true_and, decide_eq_true_eq, if_true]
    rw [contig_filter_ge hc, contig_filter_le hc]
    by_cases hbig : offset ≥ s.top + 1
    · -- beyond `top`: nothing, and nothing passes the filter
      rw [if_pos hbig, List.drop_eq_nil_of_le (by omega), if_pos (by omega : offset > s.top)]
      cases reverse <;> simp [takeLim_nil]
    · rw [if_neg hbig, if_neg (by omega : ¬ offset > s.top)]
      by_cases hin : s.top - s.items.length + 1 ≤ offset
      · -- index hit at position `k`
        obtain ⟨k, rfl⟩ := Nat.exists_eq_add_of_le hin
        have hk : k < s.items.length := by omega
        rw [fromOffset_hit hc hk, uptoOffsetRev_hit hc hk, Nat.add_sub_cancel_left,
          show s.top - s.items.length + 1 + k + 1 - (s.top - s.items.length + 1) = k + 1 by omega]
        cases reverse <;> simp [hzero]
      · -- index miss below the retained range: front of the list (forward), nil (reverse)
        have hmiss : ∀ it ∈ s.items, it.offset ≠ offset := fun it hit => by
          have := contig_mem hc hit; omega
        rw [fromOffset_miss hmiss, uptoOffsetRev_miss hmiss, Nat.sub_eq_zero_of_le (by omega),
          Nat.sub_eq_zero_of_le (by omega)]
        cases hi : s.items <;> cases reverse <;> simp [hzero, takeLim_nil]

/-- **`Add` keeps the invariant**, assigns `top + 1`, and keeps at most `size` items. -/
theorem stream_add_inv (s : MStream α) (h : s.Inv) (v : α) (size ver : Nat) (ve : String) :
    (s.add v size ver ve).1.Inv ∧ (s.add v size ver ve).2 = s.top + 1 ∧
      (s.add v size ver ve).1.top = s.top + 1 ∧
      (s.add v size ver ve).1.items.length = min size (s.items.length + 1) ∧
      (s.add v size ver ve).1.epoch = s.epoch := by
  obtain ⟨h1, h2⟩ := h
  have hlen : (s.add v size ver ve).1.items.length = min size (s.items.length + 1) := by
    simp only [MStream.add, List.length_drop, List.length_append, List.length_singleton]
    omega
  refine ⟨⟨?_, by rw [hlen]; exact Nat.le_trans (Nat.min_le_right _ _) (Nat.succ_le_succ h2)⟩,
    rfl, rfl, hlen, rfl⟩
  -- the offsets of `items ++ [new]` are the run ending at `top + 1`; dropping a prefix keeps a run
  rw [hlen]
  simp only [MStream.add, List.map_drop, List.map_append, List.map_singleton, h1,
    List.length_append, List.length_singleton]
  have hrun : List.range' (s.top - s.items.length + 1) s.items.length ++ [s.top + 1] =
      List.range' (s.top - s.items.length + 1) (s.items.length + 1) := by
    rw [List.range'_concat]; congr 2; omega
  rw [hrun, List.drop_range']
  congr 1 <;> omega

theorem stream_add_last (s : MStream α) (v : α) (size ver : Nat) (ve : String) (hs : 0 < size) :
    (s.add v size ver ve).1.items.getLast? = some { offset := s.top + 1, value := v } := by
  simp only [MStream.add]
  rw [List.getLast?_drop, if_neg (by simp; omega), List.getLast?_concat]

theorem clear_inv (s : MStream α) : s.clear.Inv := by simp [MStream.clear, MStream.Inv]

theorem reset_inv (s : MStream α) (e : Nat) : (s.reset e).Inv := by simp [MStream.reset, MStream.Inv]

theorem get_length_le_limit (s : MStream α) (offset : Nat) (useOffset : Bool) (limit : Int)
    (reverse : Bool) (hl : 0 ≤ limit) : (s.get offset useOffset limit reverse).length ≤ limit.toNat := by
  unfold MStream.get
  split
  · exact Nat.zero_le _
  · simp only
    split
    · exact Nat.zero_le _
    · split
      · exact Nat.zero_le _
      · exact takeLim_length_le_limit _ _ hl

end CentrifugeVerif.MemStream
