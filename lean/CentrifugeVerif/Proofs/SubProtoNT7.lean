import CentrifugeVerif.Proofs.SubProtoNT6
/-!
The combined no-timeout invariant and what it gives at settled states.
-/
namespace CentrifugeVerif.SubProto

structure NTInv (s : State) : Prop where
  ghost : Ghost s
  l1 : L1 s
  l2 : L2 s
  l3 : L3 s

theorem NTInv.init : NTInv State.init := ⟨Ghost.init, L1.init, L2.init, L3.init⟩

theorem next_ntInv {s s' : State} {l : Label} (hi : NTInv s) (hl : l.noTmo = true) (hn : next s l = some s') :
    NTInv s' :=
  ⟨next_ghost s s' l hi.ghost hn, next_L1 hi.ghost hi.l1 hl hn,
    next_L2 hi.ghost hi.l1 hi.l2 hl hn, next_L3 hi.ghost hi.l1 hi.l2 hi.l3 hl hn⟩

theorem reachableNT_inv (s : State) (h : ReachableNT s) : NTInv s :=
  reachableNT_invariant NTInv NTInv.init (fun _ _ _ hi hl hn => next_ntInv hi hl hn) s h

theorem settled_thread_done (s : State) (hs : s.settled) (x : Tid) (t : Thread) (h : aget s.threads x = some t) :
    t.pc = .done := hs (x, t) (aget_mem _ _ _ h)

/-- at a settled state every `c.channels` entry is a subscribed one and has its hub entry -/
theorem settled_entries (s : State) (hi : NTInv s) (hs : s.settled) (ch : Chan) (e : Entry)
    (he : aget s.channels ch = some e) : e.subscribed = true ∧ aget s.hub ch = some e.gen := by
  have hsub : e.subscribed = true := by
    rcases Bool.eq_false_or_eq_true e.subscribed with h | h
    · exact h
    · obtain ⟨x, t, hx, _, _, hp⟩ := hi.l2.A ch e he h
      rw [settled_thread_done s hs x t hx] at hp
      simp at hp
  exact ⟨hsub, hi.l3.C ch e he hsub⟩

/-- at a settled state every hub entry belongs to a subscribed `c.channels` entry of the same generation -/
theorem settled_hub (s : State) (hi : NTInv s) (hs : s.settled) (ch : Chan) (g : Gen)
    (hh : aget s.hub ch = some g) : ∃ e, aget s.channels ch = some e ∧ e.subscribed = true ∧ e.gen = g := by
  rcases hi.l3.B ch g hh with ⟨e, he, hg⟩ | ⟨x, t, hx, _, ho⟩
  · exact ⟨e, he, (settled_entries s hi hs ch e he).1, hg⟩
  · rw [owesP, settled_thread_done s hs x t hx] at ho
    simp at ho

end CentrifugeVerif.SubProto
