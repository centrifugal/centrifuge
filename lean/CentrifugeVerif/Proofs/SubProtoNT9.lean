import CentrifugeVerif.Proofs.SubProtoNT4
/-!
Layer 5 of the no-timeout invariants (`L5`): presence.
-/
namespace CentrifugeVerif.SubProto

section
variable {s : State} {tid : Tid} {t t' : Thread} {o : Outcome} {effs : List Eff}

theorem step_presAdd (h : ThreadStep s tid t o effs t') {ch : Chan} (hm : Eff.presAdd ch ∈ effs) :
    ch = t.ch ∧ t'.ch = t.ch ∧ presOwnPc t'.pc = true ∧ t'.presAdded = true := by
  cases h <;> simp at hm <;> simp_all

theorem step_Z_self (h : ThreadStep s tid t o effs t')
    (hz : (presAddPc t.pc || t.presAdded) = true → t.opts.presence = true) :
    (presAddPc t'.pc || t'.presAdded) = true → t'.opts.presence = true := by
  cases h <;> simp_all
  -- left: `hubAdd` and `check2`, which go on to `sPresAdd` only when presence was asked for
  all_goals (rintro (h | h) <;> simp_all)

theorem step_X_self (h : ThreadStep s tid t o effs t') (hp : removePc t'.pc = true) :
    ∀ e, aget (after s tid t' effs).channels t'.ch = some e → e.gen = t'.target → t'.ctx = some e := by
  cases h <;> simp at hp <;> simp_all [after]

theorem step_Y_self (h : ThreadStep s tid t o effs t')
    (hD : holdPc t.pc = true → ∀ e, aget s.channels t.ch = some e → e.gen = t.resGen → e.subscribed = false)
    (hK : rbPc t.pc = true → ∀ e, aget s.channels t.ch = some e → e.gen ≠ t.resGen)
    (hY : failPc t.pc = true → ∀ e, aget s.channels t.ch = some e → e.gen = t.resGen → e.subscribed = false)
    (hp : failPc t'.pc = true) :
    ∀ e, aget (after s tid t' effs).channels t'.ch = some e → e.gen = t'.resGen → e.subscribed = false := by
  cases h <;> simp at hp <;> simp_all [after]

/-- owner of a presence entry among the threads -/
def presOwner (t : Thread) : Prop :=
  (presOwnPc t.pc = true ∧ t.presAdded = true) ∨ uPresRmPc t.pc = true

theorem step_presOwner_self (h : ThreadStep s tid t o effs t') (ho : presOwner t)
    (hz : (presAddPc t.pc || t.presAdded) = true → t.opts.presence = true) :
    (presOwner t' ∧ t'.ch = t.ch) ∨ Eff.presDel t.ch ∈ effs ∨
      (t.pc = .sCommit ∧ ∃ e, effs = [.log (.commit t.ch t.cmdGen), .chanSet t.ch e] ∧ e.subscribed = true ∧ e.presence = true) := by
  unfold presOwner at ho ⊢
  cases h <;> simp [‹t.pc = _›] at ho <;> simp_all

theorem step_uRemove_pres (h : ThreadStep s tid t o effs t') (hp : t.pc = .uRemove) {e : Entry} (hc : t.ctx = some e)
    (he : aget s.channels t.ch = some e) (hg : e.gen = t.target) (hsb : e.subscribed = true) (hpr : e.presence = true) :
    uPresRmPc t'.pc = true ∧ t'.ch = t.ch := by
  cases h <;> cases hp.symm.trans ‹t.pc = _› <;> simp_all [afterRemove]

end

theorem presence_applyEffs (es : List Eff) (s : State) (ch : Chan) (h : ch ∈ (applyEffs s es).presence) :
    (ch ∈ s.presence ∧ Eff.presDel ch ∉ es) ∨ Eff.presAdd ch ∈ es := by
  induction es generalizing s with
  | nil => exact Or.inl ⟨h, by simp⟩
  | cons x r ih =>
    rcases ih _ h with ⟨h1, h2⟩ | h1
    · cases x with
      | presAdd ch' =>
        simp only [applyEff_presAdd_presence, sadd, List.mem_cons, mem_sdel] at h1
        rcases h1 with h1 | ⟨h1, _⟩
        · subst h1; exact Or.inr (by simp)
        · exact Or.inl ⟨h1, by simpa using h2⟩
      | presDel ch' =>
        simp only [applyEff_presDel_presence, mem_sdel] at h1
        refine Or.inl ⟨h1.1, ?_⟩
        simp only [List.mem_cons, Eff.presDel.injEq, not_or]
        exact ⟨h1.2, h2⟩
      | _ => exact Or.inl ⟨by simpa using h1, by simpa using h2⟩
    · exact Or.inr (List.mem_cons_of_mem _ h1)

structure L5 (s : State) : Prop where
  /-- presence is only added when asked for -/
  Z : ∀ x t, aget s.threads x = some t → (presAddPc t.pc || t.presAdded) = true → t.opts.presence = true
  /-- an unsubscribe deletes the entry it read -/
  X : ∀ x t, aget s.threads x = some t → removePc t.pc = true →
    ∀ e, aget s.channels t.ch = some e → e.gen = t.target → t.ctx = some e
  /-- in its failure path a subscribe attempt never meets a subscribed entry of its own generation -/
  Y : ∀ x t, aget s.threads x = some t → failPc t.pc = true →
    ∀ e, aget s.channels t.ch = some e → e.gen = t.resGen → e.subscribed = false
  /-- every presence entry of the connection has an owner: a subscribed `c.channels` entry with the presence
  flag, a subscribe attempt that added it and has not yet committed or rolled it back, or an unsubscribe
  about to remove it -/
  P : ∀ ch, ch ∈ s.presence →
    (∃ e, aget s.channels ch = some e ∧ e.subscribed = true ∧ e.presence = true) ∨
    ∃ x t, aget s.threads x = some t ∧ t.ch = ch ∧ presOwner t

theorem L5.init : L5 State.init := by
  constructor <;> simp [State.init, aget]

theorem next_L5 {s s' : State} {l : Label} (hg : Ghost s) (h1 : L1 s) (h2 : L2 s) (h5 : L5 s)
    (hl : l.noTmo = true) (hn : next s l = some s') : L5 s' := by
  cases l with
  | spawn k ch o =>
    simp only [next, Option.some.injEq] at hn
    subst hn
    refine ⟨?_, spawn_clause h5.X, spawn_clause h5.Y, fun c hc => ?_⟩
    · intro x u hx hp
      rcases aget_append_singleton hx with h | rfl
      · exact h5.Z x u h hp
      · cases k <;> simp [initPc] at hp
    · rcases h5.P c hc with h | ⟨x, u, hx, hr⟩
      · exact Or.inl h
      · exact Or.inr ⟨x, u, aget_append_some _ _ _ _ hx, hr⟩
  | step tid o =>
    have hnt := Label.noTmo_step hl
    obtain ⟨t, effs, t', hget, hst, rfl⟩ := next_step_some hn
    -- the committing thread works on its own (unsubscribed) reservation
    have hcommit_res : t.pc = .sCommit → ∀ e0, aget s.channels t.ch = some e0 →
        e0.subscribed = false ∧ e0.gen = t.resGen ∧ t.cmdGen = t.resGen := by
      intro hp e0 he0
      obtain ⟨e1, he1, hg1, hs1, hc1⟩ := h2.D tid t hget (by simp [hp])
      rw [he0] at he1; cases he1
      exact ⟨hs1, hg1, hc1 (by simp [hp])⟩
    refine ⟨?_, ?_, ?_, ?_⟩
    · -- Z
      intro x u hx hp
      rcases aget_threads_after hget hx with ⟨_, hxo⟩ | ⟨_, rfl⟩ | rfl
      · exact h5.Z x u hxo hp
      · exact step_Z_self hst (h5.Z tid t hget) hp
      · simp [autoClose] at hp
    · -- X
      intro x u hx hp e he hgen
      rcases aget_threads_after hget hx with ⟨_, hxo⟩ | ⟨_, rfl⟩ | rfl
      · rcases entry_after_known hg hst hnt he (hgen ▸ (h1.thrBound x u hxo).2.2.1) with h | ⟨hpc, hch, _, e0, he0, hg0⟩
        · exact h5.X x u hxo hp e h hgen
        · -- a commit over an entry of the target generation: that entry would be a reservation
          have hsub0 := h2.F x u hxo hp e0 he0 (hg0.trans hgen)
          rw [(hcommit_res hpc e0 (hch ▸ he0)).1] at hsub0; cases hsub0
      · exact step_X_self hst hp e he hgen
      · cases hp
    · -- Y
      intro x u hx hp e he hgen
      rcases aget_threads_after hget hx with ⟨hne, hxo⟩ | ⟨_, rfl⟩ | rfl
      · rcases entry_after_known hg hst hnt he (hgen ▸ (h1.thrBound x u hxo).1) with h | ⟨hpc, hch, _, e0, he0, hg0⟩
        · exact h5.Y x u hxo hp e h hgen
        · -- a commit of generation u.resGen by another thread: reservation generations are unique
          obtain ⟨_, hr0, _⟩ := hcommit_res hpc e0 (hch ▸ he0)
          have hnz : u.resGen ≠ 0 := by
            rw [← hgen, ← hg0]; exact hg.entGen _ _ he0
          exact absurd (h1.uniq x tid u t hxo hget hnz (by rw [← hgen, ← hg0, hr0])) hne
      · have hD' : holdPc t.pc = true → ∀ e, aget s.channels t.ch = some e → e.gen = t.resGen → e.subscribed = false := by
          intro hh e1 he1 _
          obtain ⟨e2, he2, _, hs2, _⟩ := h2.D tid t hget hh
          rw [he1] at he2; cases he2; exact hs2
        exact step_Y_self hst hD' (fun hh => (h2.K2 tid t hget hh).2.2) (h5.Y tid t hget) hp e he hgen
      · cases hp
    · -- P
      intro c hc
      rcases presence_applyEffs _ _ _ hc with ⟨hold, hnodel⟩ | hadd
      · rcases h5.P c hold with ⟨e, he, hsb, hpr⟩ | ⟨w, tw, hw, hwch, hwo⟩
        · -- owned by a subscribed entry with the presence flag
          by_cases hdel : Eff.chanDel c ∈ effs
          · obtain ⟨hch, _, _, _, e0, he0, hcs⟩ := step_chanDel hst hdel
            rw [hch] at he; rw [he] at he0; cases he0
            rcases hcs with ⟨hp, _⟩ | ⟨hp, hgq, _⟩ | ⟨hp, hgq, _⟩
            · have := (hcommit_res hp e he).1; rw [hsb] at this; cases this
            · have := h5.Y tid t hget (by simp [hp]) e he hgq; rw [hsb] at this; cases this
            · have hctx := h5.X tid t hget (by simp [hp]) e he hgq
              obtain ⟨r1, r2⟩ := step_uRemove_pres hst hp hctx he hgq hsb hpr
              exact Or.inr ⟨tid, t', aget_threads_after_self hget, by rw [r2, hch], Or.inr r1⟩
          · by_cases hset : ∃ e2, Eff.chanSet c e2 ∈ effs
            · obtain ⟨e2, hm⟩ := hset
              obtain ⟨hch, hcs⟩ := new_entry_cases hg hst hnt hm
              rw [hch] at he
              rcases hcs with ⟨_, _, hnone⟩ | ⟨hp, _, _, e0, he0, _⟩
              · rw [hnone] at he; cases he
              · have := (hcommit_res hp e he).1; rw [hsb] at this; cases this
            · left
              refine ⟨e, ?_, hsb, hpr⟩
              rw [← he]
              exact channels_applyEffs_frame _ _ _ (fun e2 hm => hset ⟨e2, hm⟩) hdel
        · by_cases hwt : w = tid
          · subst hwt
            rw [hget] at hw; cases hw
            rcases step_presOwner_self hst hwo (h5.Z w t hget) with ⟨ho', hch'⟩ | hdel | ⟨hp, e', hm, hsb', hpr'⟩
            · exact Or.inr ⟨w, t', aget_threads_after_self hget, by rw [hch', hwch], ho'⟩
            · rw [hwch] at hdel; exact absurd hdel hnodel
            · exact Or.inl ⟨e', hwch ▸ commit_writes hm, hsb', hpr'⟩
          · exact Or.inr ⟨w, tw, aget_threads_after_other hwt hw, hwch, hwo⟩
      · obtain ⟨hch, r1, r2, r3⟩ := step_presAdd hst hadd
        exact Or.inr ⟨tid, t', aget_threads_after_self hget, by rw [r1, hch], Or.inl ⟨r2, r3⟩⟩

end CentrifugeVerif.SubProto
