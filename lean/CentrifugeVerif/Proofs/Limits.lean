import CentrifugeVerif.Model.Limits
/-!
C37: what one step of the subscription bookkeeping (`Model/Limits.lean`) keeps, and `run_inv` to carry
it along a run.
-/
namespace CentrifugeVerif.Limits

theorem filter_filter_length_le {α : Type} (p q : α → Bool) (l : List α) :
    ((l.filter q).filter p).length ≤ (l.filter p).length :=
  ((List.filter_sublist (l := l) (p := q)).filter p).length_le

theorem step_limit (s : LState) (e : Ev) : (step s e).1.limit = s.limit ∧ (step s e).1.maxLen = s.maxLen := by
  cases e <;> simp only [step] <;> (repeat' split) <;> trivial

theorem run_inv {A : Ev → Prop} {P : LState → Prop} (hstep : ∀ s e, A e → P s → P (step s e).1) :
    ∀ (es : List Ev) (s : LState), (∀ e ∈ es, A e) → P s → P (run s es)
  | [], _, _, h => h
  | e :: es, s, hA, h =>
    run_inv hstep es _ (fun e' he' => hA e' (List.mem_cons_of_mem _ he')) (hstep s e (hA e (List.mem_cons_self ..)) h)

theorem clientEntries_le_total (s : LState) : s.clientEntries ≤ s.total :=
  Nat.add_le_add_right (List.length_filter_le ..) _

theorem clientSubs_le_clientEntries (s : LState) : s.clientSubs ≤ s.clientEntries := by
  unfold LState.clientSubs LState.clientEntries
  rw [← List.countP_eq_length_filter, ← List.countP_eq_length_filter]
  refine Nat.le_trans (List.countP_mono_left fun e _ he => ?_) (Nat.le_add_right ..)
  simp only [decide_eq_true_eq] at he
  simp [Entry.isClient, he]

theorem step_regular_inv (s : LState) (e : Ev) (he : e.regular = true) (hl : 0 < s.limit)
    (hm : s.mapSubscribing = []) (ht : s.total ≤ s.limit) :
    (step s e).1.mapSubscribing = [] ∧ (step s e).1.total ≤ s.limit := by
  cases e with
  | subReg ch len | subPoll ch len | serverSub ch =>
    simp only [step]
    -- the three refusals change no entry; otherwise there was room for one more
    iterate 3 (split; exact ⟨hm, ht⟩)
    rename_i hfull
    refine ⟨hm, ?_⟩
    simp only [LState.total, hm, List.length_append, List.length_cons, List.length_nil] at ht hfull ⊢
    omega
  | complete ch gen ok =>
    simp only [step]
    split
    · split
      · exact ⟨hm, by simpa only [LState.total, List.length_map] using ht⟩
      · exact ⟨hm, Nat.le_trans (Nat.add_le_add_right (List.length_filter_le ..) _) ht⟩
    · exact ⟨hm, ht⟩
  | unsub ch =>
    refine ⟨by simp only [step, hm, List.filter_nil], Nat.le_trans ?_ ht⟩
    exact Nat.add_le_add (List.length_filter_le ..) (List.length_filter_le ..)
  | subMapValidate | mapReserve | mapCommit => cases he

/-- completing a reservation keeps the number of client-side entries -/
theorem complete_map_clientCount (l : List Entry) (ch gen : Nat) :
    ((l.map (fun e => if e.ch = ch ∧ e.gen = gen ∧ e.st = .reserved then { e with st := ChSt.subscribed false } else e)).filter
      Entry.isClient).length = (l.filter Entry.isClient).length := by
  rw [List.filter_map, List.length_map]
  refine congrArg List.length (List.filter_congr fun e _ => ?_)
  show Entry.isClient (if _ then _ else _) = _
  split
  · next hc => simp [Entry.isClient, hc.2.2]
  · rfl

theorem step_client_inv (s : LState) (e : Ev) (hl : 0 < s.limit) (ht : s.clientEntries ≤ s.limit) :
    (step s e).1.clientEntries ≤ s.limit := by
  have hct := clientEntries_le_total s
  cases e with
  | subReg ch len | subPoll ch len =>
    simp only [step]
    -- the three refusals leave the state alone; otherwise there was room for one more
    iterate 3 (split; exact ht)
    rename_i hfull
    have hlt : s.total < s.limit := by omega
    simp only [LState.clientEntries, List.filter_append, List.length_append, List.filter_cons,
      List.filter_nil, Entry.isClient, if_true, List.length_cons, List.length_nil] at ht hct ⊢
    omega
  | subMapValidate ch len =>
    simp only [step]
    iterate 4 (split; exact ht)
    exact ht
  | mapReserve ch =>
    simp only [step]
    iterate 2 (split; exact ht)
    rename_i hfull
    have hlt : s.total < s.limit := by omega
    simp only [LState.clientEntries, List.length_append, List.length_cons, List.length_nil] at ht hct ⊢
    omega
  | mapCommit ch gen =>
    simp only [step]
    split
    · rename_i hany
      -- the committed reservation leaves `mapSubscribing`
      have h1 : (s.mapSubscribing.filter (fun e => decide (e.1 ≠ ch))).length < s.mapSubscribing.length := by
        simp only [List.any_eq_true, decide_eq_true_eq] at hany
        obtain ⟨e, he, hch, _⟩ := hany
        exact List.length_filter_lt_length_iff_exists.mpr ⟨e, he, by simp [hch]⟩
      have h2 := filter_filter_length_le Entry.isClient (fun e : Entry => decide (e.ch ≠ ch)) s.channels
      simp only [LState.clientEntries, List.filter_append, List.length_append, List.filter_cons,
        List.filter_nil, Entry.isClient, if_true, List.length_cons, List.length_nil] at ht ⊢
      omega
    · exact ht
  | complete ch gen ok =>
    simp only [step]
    split
    · split
      · simp only [LState.clientEntries] at ht ⊢
        rw [complete_map_clientCount]; exact ht
      · have h2 := filter_filter_length_le Entry.isClient
          (fun e : Entry => decide (¬ (e.ch = ch ∧ e.gen = gen ∧ e.st = .reserved))) s.channels
        simp only [LState.clientEntries] at ht ⊢
        omega
    · exact ht
  | unsub ch =>
    have h2 := filter_filter_length_le Entry.isClient (fun e : Entry => decide (e.ch ≠ ch)) s.channels
    have h3 := List.length_filter_le (fun e : Nat × Nat => decide (e.1 ≠ ch)) s.mapSubscribing
    simp only [step, LState.clientEntries] at ht ⊢
    omega
  | serverSub ch =>
    simp only [step]
    iterate 3 (split; exact ht)
    -- a server-side entry is not a client-side one
    simp only [LState.clientEntries, List.filter_append, List.length_append, List.filter_cons,
      List.filter_nil, Entry.isClient, Bool.false_eq_true, if_false, List.length_nil] at ht ⊢
    omega

end CentrifugeVerif.Limits
