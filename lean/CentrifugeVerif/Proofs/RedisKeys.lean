import CentrifugeVerif.Model.RedisKeys
import CentrifugeVerif.Spec.RedisSlot
/-!
Lemmas for C34: the Redis hash tag of a key `pre{x}post` (`pre` brace-free), soundness of the
symbolic analysis `analyse` of a generated parts list, and `extractChannel` on the shapes
`messageChannelID` produces.  Bytes: 123 = `{`, 125 = `}`, 46 = `.`.
-/
namespace CentrifugeVerif.RedisKeys
open CentrifugeVerif.Spec.RedisSlot

def NoBrace (p : Bytes) : Prop := ∀ b ∈ p, b ≠ 123

instance (p : Bytes) : Decidable (NoBrace p) := by unfold NoBrace; infer_instance

def NoDot (t : Bytes) : Prop := ∀ b ∈ t, b ≠ 46

instance (t : Bytes) : Decidable (NoDot t) := by unfold NoDot; infer_instance

/-- `x` is non-empty and does not start with `}` -/
def TagOK (x : Bytes) : Prop := x.takeWhile (· ≠ 125) ≠ []

instance (x : Bytes) : Decidable (TagOK x) := by unfold TagOK; infer_instance

theorem tagOK_iff (x : Bytes) : TagOK x ↔ ∃ a t, x = a :: t ∧ a ≠ 125 := by
  unfold TagOK
  cases x with
  | nil => simp
  | cons a t =>
    by_cases ha : a = 125
    · simp [ha]
    · simp [ha]

theorem takeWhile_all (c : UInt8) (t : Bytes) (h : ∀ b ∈ t, b ≠ c) : t.takeWhile (· ≠ c) = t := by
  induction t with
  | nil => rfl
  | cons a tl ih =>
    have ha := h a (by simp)
    have ih' := ih (fun b hb => h b (by simp [hb]))
    simp [ha]
    simpa using ih'

theorem indexOf_takeWhile (c : UInt8) : ∀ (x p : Bytes),
    indexOf c (x ++ c :: p) = some (x.takeWhile (· ≠ c)).length
  | [], p => by simp [indexOf]
  | a :: t, p => by
    by_cases ha : a = c
    · subst ha; simp [indexOf]
    · have ih := indexOf_takeWhile c t p
      simp [indexOf, ha, ih]

theorem indexOf_append_notin (c : UInt8) (pre rest : Bytes) (h : ∀ b ∈ pre, b ≠ c) :
    indexOf c (pre ++ c :: rest) = some pre.length := by
  rw [indexOf_takeWhile, takeWhile_all c pre h]

theorem take_takeWhile (c : UInt8) (x p : Bytes) :
    (x ++ c :: p).take (x.takeWhile (· ≠ c)).length = x.takeWhile (· ≠ c) := by
  have : x ++ c :: p = x.takeWhile (· ≠ c) ++ (x.dropWhile (· ≠ c) ++ c :: p) := by
    rw [← List.append_assoc, List.takeWhile_append_dropWhile]
  rw [this, List.take_left' rfl]

theorem drop_len_succ (pre : Bytes) (c : UInt8) (rest : Bytes) :
    (pre ++ c :: rest).drop (pre.length + 1) = rest :=
  List.drop_length_add_append 1

/-- Hash tag of `pre{x}post` when `pre` has no `{`: the bytes of `x` before its first `}` if there
is at least one, otherwise the whole key. -/
theorem hashTag_shape (pre x post : Bytes) (hpre : ∀ b ∈ pre, b ≠ 123) :
    hashTag (pre ++ 123 :: (x ++ 125 :: post)) =
      if x.takeWhile (· ≠ 125) = [] then pre ++ 123 :: (x ++ 125 :: post) else x.takeWhile (· ≠ 125) := by
  unfold hashTag
  rw [indexOf_append_notin 123 pre _ hpre]
  simp only
  rw [drop_len_succ, indexOf_takeWhile]
  cases hw : x.takeWhile (· ≠ 125) with
  | nil => simp
  | cons a t =>
    simp only [List.length_cons]
    have := take_takeWhile 125 x post
    rw [hw] at this
    simpa using this

theorem render_cons_split (e : Env) (a : Part) {ps pre : List Part} {t : Bytes}
    (ha : NoBrace e.prefix → NoBrace (renderPart e a))
    (ih : render e ps = render e pre ++ t ∧ (NoBrace e.prefix → NoBrace (render e pre))) :
    render e (a :: ps) = render e (a :: pre) ++ t ∧
      (NoBrace e.prefix → NoBrace (render e (a :: pre))) := by
  constructor
  · simp only [render, ih.1, List.append_assoc]
  · intro hp b hb
    rcases List.mem_append.1 hb with hb | hb
    · exact ha hp b hb
    · exact ih.2 hp b hb

/-- Soundness of `analyse`. -/
theorem analyse_render (e : Env) : ∀ (ps pre : List Part) (p : Part) (post : List Part),
    analyse ps = some (pre, p, post) →
    render e ps = render e pre ++ 123 :: (renderPart e p ++ 125 :: render e post) ∧
    (NoBrace e.prefix → NoBrace (render e pre))
  | [], _, _, _, h => nomatch h
  | .prefix :: ps, _, _, _, h => by
    obtain ⟨⟨pre, p, post⟩, hr, ⟨⟩⟩ := Option.map_eq_some_iff.1 h
    exact render_cons_split e .prefix (fun hp => hp) (analyse_render e ps pre p post hr)
  | .lit l :: ps, _, _, _, h => by
    unfold analyse at h
    split at h
    · rename_i hall
      obtain ⟨⟨pre, p, post⟩, hr, ⟨⟩⟩ := Option.map_eq_some_iff.1 h
      exact render_cons_split e (.lit l) (fun _ b hb => by simpa using List.all_eq_true.1 hall b hb)
        (analyse_render e ps pre p post hr)
    · split at h
      · rename_i hlast
        split at h
        · split at h
          · cases h
            obtain ⟨l', rfl⟩ := List.getLast?_eq_some_iff.1 hlast.1
            rw [List.dropLast_concat] at hlast ⊢
            constructor
            · simp [render, renderPart]
            · intro _ b hb
              simp only [render, renderPart, List.append_nil] at hb
              simpa using List.all_eq_true.1 hlast.2 b hb
          · cases h
        · cases h
      · cases h
  | .ch :: ps, _, _, _, h => nomatch h
  | .tag :: ps, _, _, _, h => nomatch h
  | .idem :: ps, _, _, _, h => nomatch h

/-- the part of a key that ends up between the braces (`none`: the key has no recognisable tag) -/
def tagPart (k : List Part) : Option Part := (analyse k).map (·.2.1)

theorem key_hashTag (e : Env) (k : List Part) (p : Part) (hk : tagPart k = some p)
    (hp : NoBrace e.prefix) (hx : TagOK (renderPart e p)) :
    hashTag (render e k) = (renderPart e p).takeWhile (· ≠ 125) := by
  obtain ⟨⟨pre, _, post⟩, ha, rfl⟩ := Option.map_eq_some_iff.1 hk
  have := analyse_render e k pre _ post ha
  rw [this.1, hashTag_shape _ _ _ (this.2 hp), if_neg hx]

theorem keys_same_slot_generic (e : Env) (keys : List (List Part)) (p : Part)
    (hall : ∀ k ∈ keys, tagPart k = some p)
    (hp : NoBrace e.prefix) (hx : TagOK (renderPart e p)) :
    ∀ k1 ∈ keys, ∀ k2 ∈ keys, slot (render e k1) = slot (render e k2) := by
  intro k1 h1 k2 h2
  unfold slot
  rw [key_hashTag e k1 p (hall k1 h1) hp hx, key_hashTag e k2 p (hall k2 h2) hp hx]

/-- `CRC16.indexByte_eq` says the same of the other model's `indexByte`: each Go package has its own. -/
theorem indexByte_eq_indexOf (c : UInt8) : ∀ s : Bytes, indexByte c s = indexOf c s
  | [] => rfl
  | b :: bs => by simp only [indexByte, indexOf, indexByte_eq_indexOf c bs]

theorem trimPrefix_append (p q s : Bytes) : trimPrefix (p ++ (q ++ s)) (p ++ q) = s := by
  unfold trimPrefix
  simp [← List.append_assoc]

/-- no cluster: `prefix.client.ch` -/
theorem brokerExtractChannel_plain (p ch : Bytes) :
    brokerExtractChannel p false false (p ++ (clientInfix ++ ch)) = ch := by
  unfold brokerExtractChannel
  rw [trimPrefix_append]
  rfl

/-- cluster without partitions: `prefix.client.{ch}` -/
theorem brokerExtractChannel_braced (p ch : Bytes) :
    brokerExtractChannel p false true (p ++ (clientInfix ++ 123 :: (ch ++ [125]))) = ch := by
  unfold brokerExtractChannel
  rw [trimPrefix_append]
  have hl : (123 :: (ch ++ [125])).getLast? = some 125 := List.getLast?_concat (l := 123 :: ch)
  have hlen : ¬ (ch.length + 1 + 1 < 2) := by omega
  simp [hl, hlen]

/-- partitions: `prefix.client.{tag}.ch`; the first `.` is the one behind a tag that has none -/
theorem brokerExtractChannel_sharded (p tag ch : Bytes) (c : Bool) (ht : NoDot tag) :
    brokerExtractChannel p true c (p ++ (clientInfix ++ 123 :: (tag ++ 125 :: 46 :: ch))) = ch := by
  unfold brokerExtractChannel
  rw [trimPrefix_append]
  have hno : ∀ b ∈ (123 :: (tag ++ [125]) : Bytes), b ≠ 46 := by
    intro b hb
    simp only [List.mem_cons, List.mem_append, List.not_mem_nil, or_false] at hb
    rcases hb with rfl | hb | rfl
    · decide
    · exact ht b hb
    · decide
  have hre : (123 :: (tag ++ 125 :: 46 :: ch) : Bytes) = (123 :: (tag ++ [125])) ++ 46 :: ch := by simp
  simp only [if_true]
  rw [hre, indexByte_eq_indexOf, indexOf_append_notin 46 _ ch hno]
  simp only [List.length_cons]
  exact drop_len_succ _ 46 ch

end CentrifugeVerif.RedisKeys
