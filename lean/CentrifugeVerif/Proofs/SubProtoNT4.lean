import CentrifugeVerif.Proofs.SubProtoNT3
/-!
`L2` and its preservation by every step that is not a wait-gate timeout.
-/
namespace CentrifugeVerif.SubProto

structure L2 (s : State) : Prop where
  /-- a subscribe attempt in its holding range finds its own reservation in `c.channels` -/
  D : ∀ x t, aget s.threads x = some t → holdPc t.pc = true →
    ∃ e, aget s.channels t.ch = some e ∧ e.gen = t.resGen ∧ e.subscribed = false ∧
      (cmdPc t.pc = true → t.cmdGen = t.resGen)
  /-- an unsubscribe at the wait gate waits for the gate of its target generation -/
  W : ∀ x t, aget s.threads x = some t → waitPc t.pc = true → t.capGate = some t.target
  /-- an unsubscribe about to delete only ever matches a subscribed entry -/
  F : ∀ x t, aget s.threads x = some t → removePc t.pc = true →
    ∀ e, aget s.channels t.ch = some e → e.gen = t.target → e.subscribed = true
  /-- a closed wait gate belongs to no reservation -/
  G : ∀ ch e, aget s.channels ch = some e → e.subscribed = false → e.gen ∉ s.closedGates
  /-- after its commit an attempt captured the gate of its own generation, and that generation is subscribed -/
  K1 : ∀ x t, aget s.threads x = some t → closeGatePc t.pc = true →
    t.cmdGen = t.resGen ∧ (∀ g, t.capGate = some g → g = t.resGen) ∧
      (∀ e, aget s.channels t.ch = some e → e.gen = t.resGen → e.subscribed = true)
  /-- while it rolls a commit back, the attempt's generation is in `c.channels` no more -/
  K2 : ∀ x t, aget s.threads x = some t → rbPc t.pc = true →
    t.cmdGen = t.resGen ∧ (∀ g, t.capGate = some g → g = t.resGen) ∧
      (∀ e, aget s.channels t.ch = some e → e.gen ≠ t.resGen)
  /-- the same once `onSubscribeErrorGen` deleted the reservation -/
  K3 : ∀ x t, aget s.threads x = some t → errPc t.pc = true →
    (∀ g, t.capGate = some g → g = t.resGen) ∧ (∀ e, aget s.channels t.ch = some e → e.gen ≠ t.resGen)
  /-- every reservation has a live owner -/
  A : ∀ ch e, aget s.channels ch = some e → e.subscribed = false →
    ∃ x t, aget s.threads x = some t ∧ t.ch = ch ∧ t.resGen = e.gen ∧ holderPc t.pc = true

theorem L2.init : L2 State.init := by
  constructor <;> simp [State.init, aget]

theorem res_gen_gt (n : Nat) (h : (Entry.reservation (n + 1)).gen ≤ n) : False := by
  simp only [Entry.reservation] at h
  exact absurd h (Nat.not_succ_le_self n)

theorem holderPc_of_holdPc (pc : Pc) (h : holdPc pc = true) : holderPc pc = true := by
  cases pc <;> simp_all

theorem holdPc_of_cmdPc (pc : Pc) (h : cmdPc pc = true) : holdPc pc = true := by
  cases pc <;> simp_all

variable {s : State} {tid : Tid} {t t' : Thread} {o : Outcome} {effs : List Eff}

/-- The entries a step writes are either fresh reservations, or subscribed. -/
theorem new_entry_cases (hg : Ghost s) (hst : ThreadStep s tid t o effs t') (hnt : o ≠ .tmo) {ch : Chan} {e : Entry}
    (hm : Eff.chanSet ch e ∈ effs) :
    ch = t.ch ∧ ((t.pc = .sReserve ∧ e = Entry.reservation (s.genCounter + 1) ∧ aget s.channels t.ch = none) ∨
      (t.pc = .sCommit ∧ e.subscribed = true ∧ e.gen = t.cmdGen ∧ ∃ e0, aget s.channels t.ch = some e0 ∧ e0.gen = t.cmdGen)) := by
  obtain ⟨rfl, hc⟩ := step_chanSet hst hm
  refine ⟨rfl, ?_⟩
  rcases hc with ⟨hp, he, hn, _⟩ | ⟨_, e0, he0, hz, _⟩ | ⟨hp, _, _, hgen, hsub, _, he0⟩ | ⟨ho, _⟩
  · exact Or.inl ⟨hp, he, hn⟩
  · exact absurd hz (hg.entGen _ _ he0)
  · exact Or.inr ⟨hp, hsub, hgen, he0⟩
  · exact absurd ho hnt

theorem entry_after (hg : Ghost s) (hst : ThreadStep s tid t o effs t') (hnt : o ≠ .tmo) {c : Chan} {e : Entry}
    (he : aget (after s tid t' effs).channels c = some e) :
    aget s.channels c = some e ∨ (c = t.ch ∧
      ((t.pc = .sReserve ∧ e = Entry.reservation (s.genCounter + 1) ∧ aget s.channels t.ch = none) ∨
       (t.pc = .sCommit ∧ e.subscribed = true ∧ e.gen = t.cmdGen ∧ ∃ e0, aget s.channels t.ch = some e0 ∧ e0.gen = t.cmdGen))) :=
  (channels_applyEffs _ _ _ _ he).imp_right (new_entry_cases hg hst hnt)

/-- An entry with a generation some thread already knew is old, or the commit over the old entry of that generation. -/
theorem entry_after_known (hg : Ghost s) (hst : ThreadStep s tid t o effs t') (hnt : o ≠ .tmo) {c : Chan} {e : Entry}
    (he : aget (after s tid t' effs).channels c = some e) (hb : e.gen ≤ s.genCounter) :
    aget s.channels c = some e ∨ (t.pc = .sCommit ∧ c = t.ch ∧ e.subscribed = true ∧
      ∃ e0, aget s.channels c = some e0 ∧ e0.gen = e.gen) := by
  rcases entry_after hg hst hnt he with h | ⟨rfl, ⟨_, hre, _⟩ | ⟨hp, hsub, hgc, e0, he0, hg0⟩⟩
  · exact Or.inl h
  · exact (res_gen_gt _ (hre ▸ hb)).elim
  · exact Or.inr ⟨hp, rfl, hsub, e0, he0, hg0.trans hgc.symm⟩

/-- A reservation held by another thread is untouched by the step. -/
theorem reservation_stable (hg : Ghost s) (h1 : L1 s) (h2 : L2 s) (hget : aget s.threads tid = some t)
    (hst : ThreadStep s tid t o effs t') (hnt : o ≠ .tmo) {x : Tid} {tx : Thread} (hx : aget s.threads x = some tx)
    (hne : x ≠ tid) {e : Entry} (he : aget s.channels tx.ch = some e) (hgen : e.gen = tx.resGen)
    (hsb : e.subscribed = false) : aget (after s tid t' effs).channels tx.ch = some e := by
  have hnz : tx.resGen ≠ 0 := by rw [← hgen]; exact hg.entGen _ _ he
  have hcommit : t.pc = .sCommit → ∀ e0, aget s.channels t.ch = some e0 → e0.gen = t.cmdGen → tx.ch = t.ch → False := by
    intro hp e0 he0 hg0 hch
    obtain ⟨e1, he1, hg1, _, hc1⟩ := h2.D tid t hget (by simp [hp])
    rw [hch] at he
    rw [he] at he0 he1; cases he0; cases he1
    exact hne (h1.uniq x tid tx t hx hget hnz (by rw [← hgen, hg1]))
  rw [← he]
  apply channels_applyEffs_frame
  · intro e2 hm
    obtain ⟨hch, hc⟩ := new_entry_cases hg hst hnt hm
    rcases hc with ⟨_, _, hnone⟩ | ⟨hp, _, _, e0, he0, hg0⟩
    · rw [hch, hnone] at he; cases he
    · exact hcommit hp e0 he0 hg0 hch
  · intro hm
    obtain ⟨hch, _, _, _, e0, he0, hc⟩ := step_chanDel hst hm
    rcases hc with ⟨hp, hg0, _⟩ | ⟨hp, hg0, _⟩ | ⟨hp, hg0, _⟩
    · exact hcommit hp e0 he0 hg0 hch
    · rw [hch] at he; rw [he] at he0; cases he0
      exact hne (h1.uniq x tid tx t hx hget hnz (by rw [← hgen, hg0]))
    · rw [hch] at he; rw [he] at he0; cases he0
      have := h2.F tid t hget (by simp [hp]) e he hg0
      rw [hsb] at this; cases this

theorem next_L2 {s s' : State} {l : Label} (hg : Ghost s) (h1 : L1 s) (h2 : L2 s) (hl : l.noTmo = true)
    (hn : next s l = some s') : L2 s' := by
  cases l with
  | spawn k ch o =>
    simp only [next, Option.some.injEq] at hn
    subst hn
    refine ⟨spawn_clause h2.D, spawn_clause h2.W, spawn_clause h2.F, h2.G, spawn_clause h2.K1, spawn_clause h2.K2,
      spawn_clause h2.K3, fun c e he hsb => ?_⟩
    obtain ⟨x, u, hx, hr⟩ := h2.A c e he hsb
    exact ⟨x, u, aget_append_some _ _ _ _ hx, hr⟩
  | step tid o =>
    have hnt := Label.noTmo_step hl
    obtain ⟨t, effs, t', hget, hst, rfl⟩ := next_step_some hn
    have hDt := h2.D tid t hget
    have hshape2 : ∀ e, aget s.channels t.ch = some e → e.subscribed = false → e.gate = some e.gen ∧ e.serverSide = false :=
      fun e he hsb => (h1.shape _ e he).2 hsb
    -- a fresh reservation carries a generation above every generation a thread knows
    have hfresh : ∀ {e : Entry} {g : Gen}, e = Entry.reservation (s.genCounter + 1) → e.gen = g → g ≤ s.genCounter → False :=
      fun hre hgen hb => res_gen_gt _ (hre ▸ hgen ▸ hb)
    refine ⟨?_, ?_, ?_, ?_, ?_, ?_, ?_, ?_⟩
    · -- D
      intro x u hx hp
      rcases aget_threads_after hget hx with ⟨hne, hxo⟩ | ⟨_, rfl⟩ | rfl
      · obtain ⟨e, he, hgen, hsb, hc⟩ := h2.D x u hxo hp
        exact ⟨e, reservation_stable hg h1 h2 hget hst hnt hxo hne he hgen hsb, hgen, hsb, hc⟩
      · exact step_D_self hst hDt (hg.entGen _) hp
      · cases hp
    · -- W
      intro x u hx hp
      rcases aget_threads_after hget hx with ⟨_, hxo⟩ | ⟨_, rfl⟩ | rfl
      · exact h2.W x u hxo hp
      · exact step_W_self hst hshape2 hp
      · cases hp
    · -- F
      intro x u hx hp e he hgen
      rcases aget_threads_after hget hx with ⟨_, hxo⟩ | ⟨_, rfl⟩ | rfl
      · rcases entry_after_known hg hst hnt he (hgen ▸ (h1.thrBound x u hxo).2.2.1) with h | ⟨_, _, hsub, _⟩
        · exact h2.F x u hxo hp e h hgen
        · exact hsub
      · exact step_F_self hst hshape2 (h2.G _) (h2.W tid t hget) hp e he hgen
      · cases hp
    · -- G
      intro c e he hsb hcl
      have hold_or_new := entry_after hg hst hnt he
      rcases closedGates_applyEffs _ _ _ hcl with hc | hc
      · rcases hold_or_new with h | ⟨_, ⟨_, hre, _⟩ | ⟨_, hsub, _⟩⟩
        · exact h2.G c e h hsb hc
        · exact hfresh hre rfl (h1.gateBound _ hc)
        · rw [hsub] at hsb; cases hsb
      · -- the gate is closed by this very step
        rcases step_closeGate hst hc with ⟨hcap, hpc⟩ | ⟨hp, e0, he0, hg0, hgt0⟩ | ⟨ho, _⟩
        · rcases hold_or_new with h | ⟨_, ⟨_, hre, _⟩ | ⟨_, hsub, _⟩⟩
          · -- an old reservation whose gate is closed now: the closing thread captured the gate of its own
            -- reservation generation, so it is the owner, and K1-K3 say that reservation is gone
            obtain ⟨w, tw, hw, hwch, hwres, _⟩ := h2.A c e h hsb
            have hnz : tw.resGen ≠ 0 := by rw [hwres]; exact hg.entGen _ _ h
            have key : (∀ g, t.capGate = some g → g = t.resGen) → e.gen = t.resGen ∧ aget s.channels t.ch = some e := by
              intro kc
              have hres := kc _ hcap
              have hwt : w = tid := h1.uniq w tid tw t hw hget hnz (by rw [hwres, hres])
              subst hwt; rw [hget] at hw; cases hw
              exact ⟨hres, hwch ▸ h⟩
            rcases hpc with hpc | hpc | hpc
            · obtain ⟨_, kc, ke⟩ := h2.K1 tid t hget (by simp [hpc])
              obtain ⟨hres, he0⟩ := key kc
              have := ke e he0 hres
              rw [hsb] at this; cases this
            · obtain ⟨_, kc, ke⟩ := h2.K2 tid t hget (by simp [hpc])
              obtain ⟨hres, he0⟩ := key kc
              exact ke e he0 hres
            · obtain ⟨kc, ke⟩ := h2.K3 tid t hget (by simp [hpc])
              obtain ⟨hres, he0⟩ := key kc
              exact ke e he0 hres
          · exact hfresh hre rfl ((h1.thrBound tid t hget).2.2.2 _ hcap)
          · rw [hsub] at hsb; cases hsb
        · -- closed by an unsubscribe deleting an entry: that entry is subscribed, it has no gate
          have hs0 := h2.F tid t hget (by simp [hp]) e0 he0 hg0
          rw [(h1.shape _ e0 he0).1 hs0] at hgt0; cases hgt0
        · exact absurd ho hnt
    · -- K1
      intro x u hx hp
      rcases aget_threads_after hget hx with ⟨_, hxo⟩ | ⟨_, rfl⟩ | rfl
      · obtain ⟨k0, kc, ke⟩ := h2.K1 x u hxo hp
        refine ⟨k0, kc, fun e he hgen => ?_⟩
        rcases entry_after_known hg hst hnt he (hgen ▸ (h1.thrBound x u hxo).1) with h | ⟨_, _, hsub, _⟩
        · exact ke e h hgen
        · exact hsub
      · exact step_K1_self hst (fun e he hsb => (hshape2 e he hsb).1) hDt hp
      · cases hp
    · -- K2
      intro x u hx hp
      rcases aget_threads_after hget hx with ⟨_, hxo⟩ | ⟨_, rfl⟩ | rfl
      · obtain ⟨k0, kc, ke⟩ := h2.K2 x u hxo hp
        refine ⟨k0, kc, fun e he hgen => ?_⟩
        rcases entry_after_known hg hst hnt he (hgen ▸ (h1.thrBound x u hxo).1) with h | ⟨_, _, _, e0, he0, hg0⟩
        · exact ke e h hgen
        · exact ke e0 he0 (hg0.trans hgen)
      · exact step_K2_self hst (fun e he hsb => (hshape2 e he hsb).1) hDt (h2.K2 tid t hget) hp
      · cases hp
    · -- K3
      intro x u hx hp
      rcases aget_threads_after hget hx with ⟨_, hxo⟩ | ⟨_, rfl⟩ | rfl
      · obtain ⟨kc, ke⟩ := h2.K3 x u hxo hp
        refine ⟨kc, fun e he hgen => ?_⟩
        rcases entry_after_known hg hst hnt he (hgen ▸ (h1.thrBound x u hxo).1) with h | ⟨_, _, _, e0, he0, hg0⟩
        · exact ke e h hgen
        · exact ke e0 he0 (hg0.trans hgen)
      · exact step_K3_self hst (fun e he g => h1.gate_gen he) (h2.K3 tid t hget) hp
      · cases hp
    · -- A
      intro c e he hsb
      rcases channels_applyEffs _ _ _ _ he with h | h
      · obtain ⟨w, tw, hw, hwch, hwres, hwpc⟩ := h2.A c e h hsb
        by_cases hwt : w = tid
        · subst hwt
          rw [hget] at hw; cases hw
          subst hwch
          have hc : cmdPc t.pc = true → t.cmdGen = t.resGen := by
            intro hcp
            obtain ⟨_, _, _, _, hcc⟩ := hDt (holdPc_of_cmdPc _ hcp)
            exact hcc hcp
          obtain ⟨r1, r2, r3⟩ := step_A_self hst hc hwpc h hwres.symm hsb he
          exact ⟨w, t', aget_threads_after_self hget, r1, by rw [r2, hwres], r3⟩
        · exact ⟨w, tw, aget_threads_after_other hwt hw, hwch, hwres, hwpc⟩
      · obtain ⟨hch, hc⟩ := step_chanSet hst h
        rcases hc with ⟨_, hre, _, _, r1, r2, r3⟩ | ⟨_, e0, he0, hz, _⟩ | ⟨_, _, _, _, hsub, _⟩ | ⟨ho, _⟩
        · exact ⟨tid, t', aget_threads_after_self hget, by rw [r1, hch], by rw [r2, hre]; rfl, by rw [r3]; simp⟩
        · exact absurd hz (hg.entGen _ _ he0)
        · rw [hsub] at hsb; cases hsb
        · exact absurd ho hnt

end CentrifugeVerif.SubProto
