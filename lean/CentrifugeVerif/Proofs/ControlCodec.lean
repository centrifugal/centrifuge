import CentrifugeVerif.Gen.ControlCodec
/-!
# Helper lemmas over the regenerated control codec (`Gen/ControlCodec.lean`)

`controlpbFilterFromProto` / `protoFilterFromControlpb` are the two recursive label-filter conversions
of node.go, regenerated from their source; the lemmas below say that converting a filter to its
control-message form and back gives the same filter, for every filter tree.
-/
namespace CentrifugeVerif.Gen.ControlCodec

mutual
theorem filter_roundtrip : ∀ f : GFilterNode, protoFilterFromControlpb (controlpbFilterFromProto f) = f
  | .mk .. => by simp [controlpbFilterFromProto, protoFilterFromControlpb, filter_roundtrip_list]
theorem filter_roundtrip_list :
    ∀ l : GFilterNodes, protoFilterFromControlpbList (controlpbFilterFromProtoList l) = l
  | .nil => by simp [controlpbFilterFromProtoList, protoFilterFromControlpbList]
  | .cons n ns => by
      simp [controlpbFilterFromProtoList, protoFilterFromControlpbList, filter_roundtrip n,
        filter_roundtrip_list ns]
end

theorem filter_comp : protoFilterFromControlpb ∘ controlpbFilterFromProto = id :=
  funext filter_roundtrip

theorem filter_roundtrip_opt (f : Option GFilterNode) :
    (f.map controlpbFilterFromProto).map protoFilterFromControlpb = f := by
  cases f <;> simp [filter_roundtrip]

end CentrifugeVerif.Gen.ControlCodec
