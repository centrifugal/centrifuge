import CentrifugeVerif.Proofs.HandshakeKeyShape
/-!
Go's `base64.StdEncoding.Decode` into the buffer of `isValidChallengeKey` cannot panic (it could
while the buffer had 16 bytes).
-/
namespace CentrifugeVerif.C31
open CentrifugeVerif.Sha1 (Bytes ascii be sha1)
open CentrifugeVerif.Base64
open CentrifugeVerif.Handshake

/-- every quantum eats at least four characters and writes at most three bytes -/
theorem goDecodeLen_no_panic (cap : Nat) : ∀ (f : Nat) (src : Bytes) (n : Nat),
    n + decodedLen src.length ≤ cap → goDecodeLen cap f src n ≠ .panic := by
  intro f
  induction f with
  | zero => intro src n _ h; cases h
  | succ f ih =>
    intro src n hcap h
    unfold decodedLen at hcap
    unfold goDecodeLen at h
    split at h
    · cases h
    · cases h
    · rename_i k rest trailing hq
      obtain ⟨_, hk4, hl, _⟩ := quantum_inv src 0 k rest trailing (by omega) hq
      split at h
      · omega
      split at h
      · cases h
      · exact ih rest _ (by unfold decodedLen; omega) h

/-- `isValidChallengeKey` never panics: the destination has `DecodedLen(24) = 18` bytes and 24
characters cannot decode to more. -/
theorem key_no_panic (s : Bytes) : isValidChallengeKey s ≠ .panic := by
  intro h
  unfold isValidChallengeKey at h
  split at h
  · cases h
  split at h
  · split at h <;> cases h
  · cases h
  · rename_i hp
    exact goDecodeLen_no_panic _ _ s 0 (by omega) hp

end CentrifugeVerif.C31
