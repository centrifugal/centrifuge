import CentrifugeVerif.Model.Timers
/-
Lemmas for C36: the scan of `scheduleNextTimer` picks the minimum pending deadline, and the invariant "the
single timer is armed for the minimum pending deadline" is preserved by every operation.
-/
namespace CentrifugeVerif.Timers

theorem ite_cases {α : Sort _} (P : α → Prop) {c : Prop} [Decidable c] {a b : α}
    (ha : c → P a) (hb : ¬c → P b) : P (if c then a else b) :=
  iteInduction ha hb

/-- `r` is a correct running minimum of the (kind, deadline) pairs `vals` -/
def Good (vals : List (TOp × Nat)) : Option (TOp × Nat) → Prop
  | none => ∀ p ∈ vals, p.2 = 0
  | some (o, t) => 0 < t ∧ (o, t) ∈ vals ∧ ∀ p ∈ vals, 0 < p.2 → t ≤ p.2

theorem good_upd (vals : List (TOp × Nat)) (r : Option (TOp × Nat)) (o : TOp) (v : Nat)
    (h : Good vals r) : Good (vals ++ [(o, v)]) (upd r o v) := by
  have hnew : (o, v) ∈ vals ++ [(o, v)] := List.mem_append_right _ (List.mem_singleton_self _)
  cases r with
  | none =>
    show Good (vals ++ [(o, v)]) (if v > 0 then some (o, v) else none)
    by_cases hv : v > 0
    · rw [if_pos hv]
      exact ⟨hv, hnew, List.forall_mem_append.2 ⟨fun p hp hpos => absurd (h p hp) (Nat.ne_of_gt hpos),
        List.forall_mem_singleton.2 fun _ => Nat.le_refl v⟩⟩
    · rw [if_neg hv]
      exact List.forall_mem_append.2 ⟨h, List.forall_mem_singleton.2 (Nat.eq_zero_of_not_pos hv)⟩
  | some om =>
    obtain ⟨hm, hmem, hmin⟩ := h
    show Good (vals ++ [(o, v)]) (if v > 0 ∧ v < om.2 then some (o, v) else some om)
    by_cases hv : v > 0 ∧ v < om.2
    · rw [if_pos hv]
      exact ⟨hv.1, hnew, List.forall_mem_append.2
        ⟨fun p hp hpos => Nat.le_trans (Nat.le_of_lt hv.2) (hmin p hp hpos),
         List.forall_mem_singleton.2 fun _ => Nat.le_refl v⟩⟩
    · rw [if_neg hv]
      exact ⟨hm, List.mem_append_left _ hmem, List.forall_mem_append.2
        ⟨hmin, List.forall_mem_singleton.2 fun hpos => Nat.le_of_not_lt fun hlt => hv ⟨hpos, hlt⟩⟩⟩

def deadlineOf (s : St) : TOp → Nat
  | .expire => s.nextExpire
  | .presence => s.nextPresence
  | .ping => s.nextPing
  | .pong => s.nextPong
  | .stale => 0

def pairs (s : St) : List (TOp × Nat) :=
  [(.expire, s.nextExpire), (.presence, s.nextPresence), (.ping, s.nextPing), (.pong, s.nextPong)]

theorem pick_good (s : St) : Good (pairs s) (pick s) := by
  have h0 : Good [] (none : Option (TOp × Nat)) := by simp [Good]
  have h1 := good_upd [] none .expire s.nextExpire h0
  have h2 := good_upd _ _ .presence s.nextPresence h1
  have h3 := good_upd _ _ .ping s.nextPing h2
  have h4 := good_upd _ _ .pong s.nextPong h3
  simpa [pick, pairs] using h4

theorem mem_pending {s : St} {t : Nat} : t ∈ pending s ↔ (∃ p ∈ pairs s, p.2 = t) ∧ 0 < t := by
  show t ∈ ((pairs s).map Prod.snd).filter (· > 0) ↔ _
  rw [List.mem_filter, List.mem_map, decide_eq_true_eq]

theorem pick_some (s : St) (o : TOp) (t : Nat) (h : pick s = some (o, t)) :
    0 < t ∧ deadlineOf s o = t ∧ o ≠ .stale ∧ t ∈ pending s ∧ ∀ x ∈ pending s, t ≤ x := by
  have hg := pick_good s
  rw [h] at hg
  obtain ⟨ht, hmem, hmin⟩ := hg
  have hd : deadlineOf s o = t ∧ o ≠ .stale := by
    simp only [pairs, List.mem_cons, Prod.mk.injEq, List.mem_nil_iff, or_false] at hmem
    rcases hmem with ⟨rfl, rfl⟩ | ⟨rfl, rfl⟩ | ⟨rfl, rfl⟩ | ⟨rfl, rfl⟩ <;> exact ⟨rfl, nofun⟩
  refine ⟨ht, hd.1, hd.2, mem_pending.2 ⟨⟨_, hmem, rfl⟩, ht⟩, fun x hx => ?_⟩
  obtain ⟨⟨p, hp, rfl⟩, hpos⟩ := mem_pending.1 hx
  exact hmin p hp hpos

theorem pick_none (s : St) (h : pick s = none) : pending s = [] := by
  have hg := pick_good s
  rw [h] at hg
  refine List.eq_nil_iff_forall_not_mem.2 fun x hx => ?_
  obtain ⟨⟨p, hp, rfl⟩, hpos⟩ := mem_pending.1 hx
  exact absurd (hg p hp) (Nat.ne_of_gt hpos)

theorem pick_ne_none_of_presence (s : St) (h : 0 < s.nextPresence) : pick s ≠ none := fun hn =>
  List.ne_nil_of_mem (mem_pending.2 ⟨⟨(.presence, _), .tail _ (.head _), rfl⟩, h⟩) (pick_none s hn)

/-- the timer is armed for exactly what the scan would pick now -/
def Armed (s : St) : Prop := ∃ o t, pick s = some (o, t) ∧ s.armed = some t ∧ s.timerOp = o

/-- a pending expire deadline belongs to a live expiry stamp that is not later than it -/
def ExpOK (c : Cfg) (s : St) : Prop := 0 < s.nextExpire → 0 < s.exp ∧ s.exp * c.sec ≤ s.nextExpire

def Inv (c : Cfg) (s : St) : Prop :=
  s.status = .closed ∨
  (s.status = .connecting ∧ (s.auth = false ∨ s.unusable = true) ∧ s.timerOp = .stale ∧
    s.nextExpire = 0 ∧ s.nextPresence = 0 ∧ s.nextPing = 0 ∧ s.nextPong = 0) ∨
  (s.status = .connected ∧ s.auth = true ∧ Armed s ∧ 0 < s.nextPresence ∧ ExpOK c s)

theorem inv_init (c : Cfg) (rhr srhr : List Ans) : Inv c { rhr := rhr, srhr := srhr } :=
  Or.inr (Or.inl ⟨rfl, Or.inl rfl, rfl, rfl, rfl, rfl, rfl⟩)

theorem close_status (s : St) (code : Nat) : (close s code).1.status = .closed :=
  ite_cases (fun r : St × List Out => r.1.status = .closed) id fun _ => rfl

theorem close_open {s : St} (code : Nat) (h : s.status ≠ .closed) :
    (close s code).2 = [.disc code] ∧ (close s code).1.status = .closed := by
  unfold close
  rw [if_neg h]
  exact ⟨rfl, rfl⟩

theorem close_inv (c : Cfg) (s : St) (code : Nat) : Inv c (close s code).1 :=
  Or.inl (close_status s code)

theorem connected_ne_closed {s : St} (h : s.status = .connected) : s.status ≠ .closed := by
  rw [h]
  decide

theorem schedule_inv (c : Cfg) (s : St) (hst : s.status = .connected) (ha : s.auth = true)
    (hp : 0 < s.nextPresence) (he : ExpOK c s) : Inv c (schedule s) := by
  unfold schedule
  rw [if_neg (connected_ne_closed hst)]
  cases hpk : pick s with
  | none => exact absurd hpk (pick_ne_none_of_presence s hp)
  | some ot => exact Or.inr (Or.inr ⟨hst, ha, ⟨ot.1, ot.2, hpk, rfl, rfl⟩, hp, he⟩)

theorem schedule_eq (s : St) :
    schedule s = { s with timerOp := (schedule s).timerOp, armed := (schedule s).armed } := by
  unfold schedule
  by_cases h : s.status = .closed
  · rw [if_pos h]
  · rw [if_neg h]
    cases pick s <;> rfl

theorem disableExpiration_eq (s : St) :
    disableExpiration s = { s with exp := 0, nextExpire := 0, timerOp := (disableExpiration s).timerOp,
                                   armed := (disableExpiration s).armed } :=
  schedule_eq _

theorem disableExpiration_inv (c : Cfg) (s : St) (hst : s.status = .connected) (hau : s.auth = true)
    (hp : 0 < s.nextPresence) : Inv c (disableExpiration s) :=
  schedule_inv c _ hst hau hp fun h0 => absurd h0 (Nat.lt_irrefl 0)

theorem unix_mul_le (c : Cfg) (now : Nat) : unix c now * c.sec ≤ now :=
  Nat.div_mul_le_self now c.sec

theorem checkExpired_inv (c : Cfg) (s : St) (now : Nat)
    (hst : s.status = .connected) (ha : s.auth = true) (hp : 0 < s.nextPresence) (hexp : s.exp ≠ 0)
    (hmode : (!c.csr && c.hasRH) = true ∨ s.exp ≤ unix c now) : Inv c (checkExpired c s now).1 := by
  unfold checkExpired
  rw [if_neg fun h => h.elim (connected_ne_closed hst) hexp]
  by_cases hgt : s.exp > unix c now
  · rw [if_pos hgt, if_pos (hmode.resolve_right (Nat.not_le.mpr hgt))]
    refine schedule_inv c _ hst ha hp fun _ => ⟨Nat.pos_of_ne_zero hexp, ?_⟩
    show s.exp * c.sec ≤ now + (s.exp - unix c now) * c.sec
    have := unix_mul_le c now
    have h2 : s.exp * c.sec = unix c now * c.sec + (s.exp - unix c now) * c.sec := by
      rw [← Nat.add_mul]; congr 1; omega
    omega
  · rw [if_neg hgt]; exact close_inv c s _

theorem expire_inv (c : Cfg) (s : St) (now : Nat) (hsec : 0 < c.sec)
    (hst : s.status = .connected) (ha : s.auth = true) (hp : 0 < s.nextPresence)
    (hexp : 0 < s.exp) (hle : s.exp * c.sec ≤ now) : Inv c (expire c s now).1 := by
  have hu : s.exp ≤ unix c now := (Nat.le_div_iff_mul_le hsec).mpr hle
  have hne : s.exp ≠ 0 := Nat.ne_of_gt hexp
  unfold expire
  rw [if_neg fun h => h.elim (connected_ne_closed hst) hne]
  by_cases hm : (!c.csr && c.hasRH) = true
  · rw [if_pos hm]
    cases popAns s.rhr with
    | mk a rest =>
      cases a with
      | error => exact close_inv c _ _
      | expired => exact close_inv c _ _
      | zero =>
        -- expiry is off, so `checkExpired` returns at once
        show Inv c (checkExpired c (disableExpiration { s with rhr := rest }) now).1
        rw [show checkExpired c (disableExpiration { s with rhr := rest }) now = (_, []) from
          if_pos (Or.inr (by rw [disableExpiration_eq]))]
        exact disableExpiration_inv c _ hst ha hp
      | «at» d =>
        dsimp only
        by_cases hea : (Int.ofNat (unix c now) + d).toNat > 0
        · rw [if_pos hea]; exact checkExpired_inv c _ now hst ha hp (Nat.ne_of_gt hea) (.inl hm)
        · rw [if_neg hea]; exact checkExpired_inv c _ now hst ha hp hne (.inr hu)
  · rw [if_neg hm]; exact checkExpired_inv c s now hst ha hp hne (.inr hu)

def timerView (s : St) :=
  (s.status, s.auth, s.unusable, s.timerOp, s.armed, s.nextExpire, s.nextPresence, s.nextPing, s.nextPong, s.exp)

theorem inv_congr (c : Cfg) (s s' : St) (hv : timerView s' = timerView s) (h : Inv c s) : Inv c s' := by
  simp only [timerView, Prod.mk.injEq] at hv
  obtain ⟨h1, h2, h10, h3, h4, h5, h6, h7, h8, h9⟩ := hv
  have hpick : pick s' = pick s := by unfold pick; rw [h5, h6, h7, h8]
  rcases h with h | ⟨a, b, d, e, f, g, i⟩ | ⟨a, b, ⟨o, t, hp, har, hop⟩, e, f⟩
  · exact Or.inl (h1 ▸ h)
  · exact Or.inr (Or.inl ⟨h1 ▸ a, by rw [h2, h10]; exact b, h3 ▸ d, h5 ▸ e, h6 ▸ f, h7 ▸ g, h8 ▸ i⟩)
  · refine Or.inr (Or.inr ⟨h1 ▸ a, h2 ▸ b, ⟨o, t, hpick ▸ hp, h4 ▸ har, h3 ▸ hop⟩, h6 ▸ e, ?_⟩)
    unfold ExpOK at *
    rw [h5, h9]; exact f

theorem sendPing_eq (c : Cfg) (s : St) (now : Nat) :
    sendPing c s now =
      (schedule { s with lastPing := now, ponged := false, nextPing := now + c.pingInterval,
                         nextPong := if c.pongTimeout > 0 ∧ c.uni = false then now + c.pongTimeout
                                     else s.nextPong }, [.ping]) := by
  unfold sendPing
  dsimp only
  by_cases h : c.pongTimeout > 0 ∧ c.uni = false
  · rw [if_pos h, if_pos h]
  · rw [if_neg h, if_neg h]

theorem presenceTick_inv (c : Cfg) (s : St) (now : Nat) (hst : s.status = .connected) (hau : s.auth = true)
    (he : ExpOK c s) (hpos : 0 < now + c.presInterval) : Inv c (presenceTick c s now).1 := by
  unfold presenceTick
  exact inv_congr c (schedule { s with nextPresence := now + c.presInterval }) _ rfl
    (schedule_inv c _ hst hau hpos he)

theorem fireOp_stale (c : Cfg) {s : St} (now : Nat) (hop : s.timerOp = .stale) :
    fireOp c s now = if !s.auth || s.unusable then close s dStale else (s, []) := by
  unfold fireOp
  rw [hop]

theorem fireOp_presence (c : Cfg) {s : St} (now : Nat) (hop : s.timerOp = .presence) :
    fireOp c s now = presenceTick c s now := by
  unfold fireOp
  rw [hop]

theorem fireOp_expire (c : Cfg) {s : St} (now : Nat) (hop : s.timerOp = .expire) :
    fireOp c s now = expire c s now := by
  unfold fireOp
  rw [hop]

theorem fireOp_ping (c : Cfg) {s : St} (now : Nat) (hop : s.timerOp = .ping) :
    fireOp c s now = sendPing c s now := by
  unfold fireOp
  rw [hop]

theorem fireOp_pong (c : Cfg) {s : St} (now : Nat) (hop : s.timerOp = .pong) :
    fireOp c s now = checkPong s := by
  unfold fireOp
  rw [hop]

theorem fireOp_inv (c : Cfg) (s : St) (now : Nat) (hsec : 0 < c.sec) (hnow : 0 < now)
    (hst : s.status = .connected) (hau : s.auth = true) (hp : 0 < s.nextPresence) (he : ExpOK c s)
    (hns : s.timerOp ≠ .stale) (hexp : s.timerOp = .expire → 0 < s.nextExpire ∧ s.nextExpire ≤ now) :
    Inv c (fireOp c s now).1 := by
  cases hop : s.timerOp with
  | stale => exact absurd hop hns
  | presence =>
    rw [fireOp_presence c now hop]
    exact presenceTick_inv c s now hst hau he (Nat.add_pos_left hnow _)
  | expire =>
    rw [fireOp_expire c now hop]
    obtain ⟨h1, h2⟩ := hexp hop
    obtain ⟨h3, h4⟩ := he h1
    exact expire_inv c s now hsec hst hau hp h3 (Nat.le_trans h4 h2)
  | ping =>
    rw [fireOp_ping c now hop, sendPing_eq]
    exact schedule_inv c _ hst hau hp he
  | pong =>
    rw [fireOp_pong c now hop]
    exact ite_cases (fun r : St × List Out => Inv c r.1) (fun _ => close_inv c _ _)
      fun _ => schedule_inv c _ hst hau hp he

theorem fire_unarmed (c : Cfg) {s : St} (now : Nat) (harm : s.armed = none) : fire c s now = (s, []) := by
  unfold fire
  rw [harm]

theorem fire_early (c : Cfg) {s : St} {d now : Nat} (harm : s.armed = some d) (h : now < d) :
    fire c s now = (s, []) := by
  unfold fire
  rw [harm]
  exact if_pos h

theorem fire_due (c : Cfg) {s : St} {d now : Nat} (harm : s.armed = some d) (hd : d ≤ now)
    (hcl : s.status ≠ .closed) : fire c s now = fireOp c { s with armed := none } now := by
  unfold fire
  rw [harm]
  exact (if_neg (Nat.not_lt.mpr hd)).trans (if_neg hcl)

theorem fire_stale (c : Cfg) {s : St} {d now : Nat} (harm : s.armed = some d) (hd : d ≤ now)
    (hcl : s.status ≠ .closed) (hop : s.timerOp = .stale) :
    fire c s now =
      if !s.auth || s.unusable then close { s with armed := none } dStale else ({ s with armed := none }, []) :=
  (fire_due c harm hd hcl).trans (fireOp_stale c now hop)

theorem fire_pong (c : Cfg) {s : St} {d now : Nat} (harm : s.armed = some d) (hd : d ≤ now)
    (hcl : s.status ≠ .closed) (hop : s.timerOp = .pong) :
    fire c s now = checkPong { s with armed := none } :=
  (fire_due c harm hd hcl).trans (fireOp_pong c now hop)

theorem fire_inv (c : Cfg) (s : St) (now : Nat) (hsec : 0 < c.sec) (hnow : 0 < now)
    (h : Inv c s) : Inv c (fire c s now).1 := by
  cases harm : s.armed with
  | none => rw [fire_unarmed c now harm]; exact h
  | some d =>
    by_cases hd : now < d
    · rw [fire_early c harm hd]; exact h
    · have hd := Nat.not_lt.mp hd
      rcases h with hc | ⟨hst, hau, hop, _⟩ | ⟨hst, hau, ⟨o, t, hpk, har, hop⟩, hp, he⟩
      · unfold fire
        rw [harm]
        dsimp only
        rw [if_neg (Nat.not_lt.mpr hd), if_pos hc]
        exact Or.inl hc
      · -- connecting: only the stale timer exists
        have hcond : (!s.auth || s.unusable) = true := by
          rcases hau with h | h <;> simp [h]
        rw [fire_stale c harm hd (by rw [hst]; decide) hop, if_pos hcond]
        exact close_inv c _ _
      · rw [fire_due c harm hd (connected_ne_closed hst)]
        have hdt : d = t := Option.some.inj (harm.symm.trans har)
        obtain ⟨ht, hdl, hns, _, _⟩ := pick_some s o t hpk
        refine fireOp_inv c { s with armed := none } now hsec hnow hst hau hp he (hop ▸ hns) fun hx => ?_
        have hx : o = .expire := hop.symm.trans hx
        subst hx
        have : s.nextExpire = t := hdl
        show 0 < s.nextExpire ∧ s.nextExpire ≤ now
        omega

theorem mem_close {s : St} {code : Nat} {o : Out} : o ∈ (close s code).2 → o = .disc code :=
  ite_cases (fun r : St × List Out => o ∈ r.2 → o = .disc code) (fun _ h => nomatch h)
    fun _ => List.mem_singleton.mp

theorem disc_mem_checkExpired {c : Cfg} {s : St} {now k : Nat} :
    Out.disc k ∈ (checkExpired c s now).2 → k = dExpired :=
  have I := @ite_cases _ fun r : St × List Out => Out.disc k ∈ r.2 → k = dExpired
  I (fun _ h => nomatch h) fun _ => I (fun _ => I (fun _ h => nomatch h) fun _ h => nomatch h)
    fun _ h => Out.disc.inj (mem_close h)

theorem disc_mem_expire {c : Cfg} {s : St} {now k : Nat} :
    Out.disc k ∈ (expire c s now).2 → k = dExpired ∨ k = dServerError := by
  have I := @ite_cases _ fun r : St × List Out => Out.disc k ∈ r.2 → k = dExpired ∨ k = dServerError
  refine I (fun _ h => nomatch h) fun _ => I (fun _ h => ?_) fun _ h => .inl (disc_mem_checkExpired h)
  -- the handler's answer is reported first, then the connection is closed or re-checked
  have tl : ∀ {a : Ans} {l : List Out}, Out.disc k ∈ Out.rh a :: l → Out.disc k ∈ l :=
    List.mem_of_ne_of_mem nofun
  cases hpa : popAns s.rhr with
  | mk a rest =>
    rw [hpa] at h
    cases a with
    | error => exact .inr (Out.disc.inj (mem_close (tl h)))
    | expired => exact .inl (Out.disc.inj (mem_close (tl h)))
    | zero => exact .inl (disc_mem_checkExpired (tl h))
    | «at» d => exact .inl (disc_mem_checkExpired (tl h))

theorem tickSub_out (c : Cfg) (now : Nat) (sb : SubC) (script : List Ans) :
    ∀ o ∈ (tickSub c now sb script).2.1, ∀ k, o ≠ .disc k := by
  have I := @ite_cases _ fun r : Option SubC × List Out × List Ans => ∀ o ∈ r.2.1, ∀ k, o ≠ .disc k
  have one : ∀ o : Out, (∀ k, o ≠ .disc k) → ∀ o' ∈ [o], ∀ k, o' ≠ .disc k := fun _ =>
    (List.forall_mem_singleton (p := fun o : Out => ∀ k, o ≠ Out.disc k)).2
  have two : ∀ a, ∀ o ∈ [Out.srh sb.ch a, .unsub sb.ch uExpired], ∀ k, o ≠ .disc k := fun a =>
    List.forall_mem_cons.2 ⟨fun _ => nofun, one _ fun _ => nofun⟩
  refine I (fun _ => I (fun _ => one _ fun _ => nofun) fun _ => ?_) fun _ => List.forall_mem_nil _
  cases popAns script with
  | mk a rest =>
    cases a with
    | error => exact two _
    | expired => exact two _
    | zero => exact one _ fun _ => nofun
    | «at» d => exact I (fun _ => two _) fun _ => one _ fun _ => nofun

theorem tickSubs_out (c : Cfg) (now : Nat) (subs : List SubC) (script : List Ans) :
    ∀ o ∈ (tickSubs c now subs script).2.1, ∀ k, o ≠ .disc k := by
  induction subs generalizing script with
  | nil => exact List.forall_mem_nil _
  | cons sb rest ih => exact List.forall_mem_append.2 ⟨tickSub_out c now sb script, ih _⟩

theorem disc_mem_fireOp {c : Cfg} {s : St} {now k : Nat} (hns : s.timerOp ≠ .stale)
    (h : Out.disc k ∈ (fireOp c s now).2) : k = dExpired ∨ k = dServerError ∨ k = dNoPong := by
  cases hop : s.timerOp with
  | stale => exact absurd hop hns
  | presence =>
    rw [fireOp_presence c now hop] at h
    rcases List.mem_cons.mp h with e | h
    · cases e
    · exact absurd rfl (tickSubs_out c now _ _ _ h k)
  | expire =>
    rw [fireOp_expire c now hop] at h
    exact (disc_mem_expire h).imp_right .inl
  | ping =>
    rw [fireOp_ping c now hop] at h
    cases List.mem_singleton.mp h
  | pong =>
    rw [fireOp_pong c now hop] at h
    exact ite_cases (fun r : St × List Out => Out.disc k ∈ r.2 → _)
      (fun _ h => .inr (.inr (Out.disc.inj (mem_close h)))) (fun _ h => absurd h List.not_mem_nil) h

/-- once authenticated the stale timer is never the armed one -/
theorem disc_mem_fire {c : Cfg} {s : St} {now k : Nat} (hinv : Inv c s) (hst : s.status = .connected)
    (h : Out.disc k ∈ (fire c s now).2) : k = dExpired ∨ k = dServerError ∨ k = dNoPong := by
  have hcl := connected_ne_closed hst
  rcases hinv with hc | ⟨hc, _⟩ | ⟨_, _, ⟨o, t, hpk, har, hop⟩, _, _⟩
  · exact absurd hc hcl
  · rw [hst] at hc; cases hc
  · by_cases hd : now < t
    · rw [fire_early c har hd] at h; cases h
    · rw [fire_due c har (Nat.not_lt.mp hd) hcl] at h
      exact disc_mem_fireOp (hop ▸ (pick_some s o t hpk).2.2.1) h

theorem applyRefresh_inv (c : Cfg) (s : St) (now : Nat) (d : Int) (hd : 0 < d)
    (hst : s.status = .connected) (hau : s.auth = true) (hp : 0 < s.nextPresence) :
    Inv c (applyRefresh c s now d) := by
  unfold applyRefresh
  refine schedule_inv c _ hst hau hp ?_
  intro _
  show 0 < (Int.ofNat (unix c now) + d).toNat ∧
    (Int.ofNat (unix c now) + d).toNat * c.sec ≤ now + d.toNat * c.sec + c.ecd
  have h1 : (Int.ofNat (unix c now) + d).toNat = unix c now + d.toNat := by
    simp only [Int.ofNat_eq_natCast]; omega
  rw [h1, Nat.add_mul]
  have := unix_mul_le c now
  constructor <;> omega

/-- the operations the theorem covers: no `Client.Refresh` on a connection that has not authenticated yet
(on such a connection it replaces or cancels the stale timer) and `NewClient` only once -/
def Admissible (s : St) : Op → Prop
  | .srefresh _ => s.status ≠ .connecting
  | .new => s.status ≠ .connected
  | _ => True

/-- the three guards every client command starts with; `b` is the command's test of `auth` -/
theorem guard_cases {P : St × List Out → Prop} (s : St) (b : Bool) (body : St × List Out)
    (hclosed : s.status = .closed → P (s, [])) (hrefused : P (close s dBadRequest))
    (hserved : s.status ≠ .closed → s.unusable = false → b = false → P body) :
    P (if s.status = .closed then (s, []) else if s.unusable then close s dBadRequest
      else if b then close s dBadRequest else body) := by
  exact ite_cases P hclosed fun hcl => ite_cases P (fun _ => hrefused) fun hu =>
    ite_cases P (fun _ => hrefused) fun hb => hserved hcl (eq_false_of_ne_true hu) (eq_false_of_ne_true hb)

theorem inv_unauthed {c : Cfg} {s : St} (h : Inv c s) (hcl : s.status ≠ .closed) (ha : s.auth = false) :
    s.status = .connecting ∧ s.timerOp = .stale ∧
      s.nextExpire = 0 ∧ s.nextPresence = 0 ∧ s.nextPing = 0 ∧ s.nextPong = 0 := by
  rcases h with h | ⟨a, _, d⟩ | ⟨_, b, _⟩
  · exact absurd h hcl
  · exact ⟨a, d⟩
  · rw [ha] at b; cases b

theorem inv_authed {c : Cfg} {s : St} (h : Inv c s) (hcl : s.status ≠ .closed) (hu : s.unusable = false)
    (ha : s.auth = true) : s.status = .connected ∧ 0 < s.nextPresence ∧ ExpOK c s := by
  rcases h with h | ⟨_, b, _⟩ | ⟨a, _, _, d⟩
  · exact absurd h hcl
  · rw [ha, hu] at b; cases b <;> contradiction
  · exact ⟨a, d⟩

theorem step_inv (c : Cfg) (s : St) (now : Nat) (op : Op) (hsec : 0 < c.sec) (hnow : 0 < now)
    (hadm : Admissible s op) (h : Inv c s) : Inv c (step c s now op).1 := by
  have I := @ite_cases _ fun r : St × List Out => Inv c r.1
  have G := fun b body => guard_cases (P := fun r => Inv c r.1) s b body Or.inl (close_inv c s _)
  cases op with
  | fire => exact fire_inv c s now hsec hnow h
  | new =>
    refine I (fun _ => ?_) fun _ => h
    rcases h with h | ⟨a, b, _, d⟩ | ⟨a, _⟩
    · exact Or.inl h
    · exact Or.inr (Or.inl ⟨a, b, rfl, d⟩)
    · exact absurd a hadm
  | connect e jp jr =>
    refine G s.auth _ fun hcl _ ha => ?_
    obtain ⟨_, _, e1, _⟩ := inv_unauthed h hcl ha
    dsimp only
    refine schedule_inv c _ rfl rfl (Nat.add_pos_left hnow jr) ?_
    unfold ExpOK
    dsimp only
    by_cases he : e > 0
    · rw [if_pos he, if_pos (Nat.add_pos_right _ he), Nat.add_mul]
      have := unix_mul_le c now
      exact fun _ => ⟨Nat.add_pos_right _ he, by omega⟩
    · rw [if_neg he, if_neg (Nat.lt_irrefl 0), e1]
      exact fun h0 => absurd h0 (Nat.lt_irrefl 0)
  | connectFail =>
    refine G s.auth _ fun hcl _ ha => I (fun _ => close_inv c _ _) fun _ => ?_
    obtain ⟨a, d⟩ := inv_unauthed h hcl ha
    exact Or.inr (Or.inl ⟨a, Or.inr rfl, d⟩)
  | pong =>
    exact G (!s.auth) _ fun _ _ _ => I (fun _ => close_inv c _ _) fun _ => inv_congr c s _ rfl h
  | refresh an =>
    refine G (!s.auth) _ fun hcl hu ha => I (fun _ => h) fun _ => I (fun _ => close_inv c _ _) fun _ => ?_
    have ha : s.auth = true := by simpa using ha
    obtain ⟨a, hp, _⟩ := inv_authed h hcl hu ha
    cases an with
    | error => exact h
    | expired => exact close_inv c _ _
    | zero => exact disableExpiration_inv c s a ha hp
    | «at» d => exact I (fun hd => applyRefresh_inv c s now d hd a ha hp) fun _ => h
  | srefresh an =>
    -- on an open connection `Client.Refresh` is admitted only after authentication
    have hopen : s.status ≠ .closed → s.status = .connected ∧ s.auth = true ∧ 0 < s.nextPresence := by
      rcases h with h | ⟨a, _⟩ | ⟨a, b, _, hp, _⟩
      · exact fun hc => absurd h hc
      · exact absurd a hadm
      · exact fun _ => ⟨a, b, hp⟩
    cases an with
    | expired => exact close_inv c _ _
    | error => exact h
    | zero =>
      refine I Or.inl fun hc => ?_
      obtain ⟨a, b, hp⟩ := hopen hc
      exact disableExpiration_inv c s a b hp
    | «at» d =>
      refine I (fun hd => I Or.inl fun hc => ?_) fun _ => close_inv c _ _
      obtain ⟨a, b, hp⟩ := hopen hc
      exact applyRefresh_inv c s now d hd a b hp
  | sub ch ttl csr =>
    exact G (!s.auth) _ fun _ _ _ => I (fun _ => h) fun _ => inv_congr c s _ rfl h
  | subrefresh ch an =>
    refine G (!s.auth) _ fun _ _ _ => ?_
    cases s.subs.find? (·.ch == ch) with
    | none => exact h
    | some sb =>
      refine I (fun _ => h) fun _ => I (fun _ => close_inv c _ _) fun _ => ?_
      cases an with
      | error => exact h
      | expired => exact close_inv c _ _
      | zero => exact inv_congr c s _ rfl h
      | «at» d => exact I (fun _ => h) fun _ => inv_congr c s _ rfl h

end CentrifugeVerif.Timers
