import CentrifugeVerif.Proofs.Dissolve
/-!
Invariant of the dissolver system (`Model/Dissolve.lean`, part 2) and its preservation, proved on
`Step`: `next` inverted once, in a state that satisfies the invariant.
-/
namespace CentrifugeVerif.Dissolve

/-- states reachable from a fresh dissolver with `nW` workers (`initialCapacity = c > 0`) by any
finite sequence of labels: any interleaving of submitters, workers and closers, any job outcomes, any
choice of the worker woken by `cond.Signal`. -/
inductive Reach (nW c : Nat) : Sys → Prop
  | init : Reach nW c (init nW c)
  | step {s s' : Sys} {l : Label} : Reach nW c s → next s l = some s' → Reach nW c s'

/-- "no job is executed after it succeeded", on the execution log (newest first): an execution of
`j` is acceptable only if no *older* entry is a successful execution of `j`. -/
def RunsOk : List (Job × Bool) → Prop
  | [] => True
  | (j, _) :: older => (j, true) ∉ older ∧ RunsOk older

/-- how many times job `j` is somewhere in the machine: queued, or owned by a worker -/
def cntJ (s : Sys) (j : Job) : Nat := (abs s.q).count j + (heldJobs s.ws).count j

def jc (o : Option Job) (j : Job) : Nat := if o = some j then 1 else 0

structure SInv (s : Sys) : Prop where
  noPanic : s.panicked = false
  noDeqAfterClose : s.deqAfterClose = false
  qOpen : s.q.closed = false → QInv s.q
  qClosed : s.q.closed = true → s.q.cnt = 0 ∧ abs s.q = []
  uniq : ∀ j, cntJ s j ≤ 1
  own : ∀ j, 0 < cntJ s j → j < s.nextId ∧ j ∈ s.accepted ∧ j ∉ s.succeeded
  noLoss : s.q.closed = false → ∀ j ∈ s.accepted, j ∈ s.succeeded ∨ 0 < cntJ s j
  accLt : ∀ j ∈ s.accepted, j < s.nextId
  succLt : ∀ j ∈ s.succeeded, j < s.nextId
  runsOk : RunsOk s.runs
  runsSucc : ∀ j, (j, true) ∈ s.runs → j ∈ s.succeeded
  exitedClosed : W.exited ∈ s.ws → s.q.closed = true
  wakeup : s.q.closed = false → abs s.q ≠ [] → s.ws ≠ [] → ∃ w ∈ s.ws, w ≠ W.parked ∧ w ≠ W.exited

theorem heldJobs_cons (y : W) (ys : List W) (j : Job) :
    (heldJobs (y :: ys)).count j = jc (wjob y) j + (heldJobs ys).count j := by
  simp only [heldJobs, List.filterMap_cons, jc]
  cases h : wjob y with
  | none => simp
  | some k =>
    simp only [List.count_cons, Option.some.injEq]
    by_cases hk : k = j <;> simp [hk] <;> omega

theorem heldJobs_set {ws : List W} {w : Nat} {old : W} (h : ws[w]? = some old) (x : W) (j : Job) :
    (heldJobs (ws.set w x)).count j + jc (wjob old) j = (heldJobs ws).count j + jc (wjob x) j := by
  induction ws generalizing w with
  | nil => simp at h
  | cons y ys ih =>
    cases w with
    | zero =>
      simp only [List.getElem?_cons_zero, Option.some.injEq] at h
      subst h
      simp only [List.set_cons_zero, heldJobs_cons]; omega
    | succ w =>
      simp only [List.getElem?_cons_succ] at h
      simp only [List.set_cons_succ, heldJobs_cons]
      have := ih h; omega

theorem heldJobs_set_same {ws : List W} {w : Nat} {old x : W} (h : ws[w]? = some old) (hx : wjob x = wjob old)
    (j : Job) : (heldJobs (ws.set w x)).count j = (heldJobs ws).count j := by
  have := heldJobs_set h x j
  rw [hx] at this; omega

theorem cntJ_pos_of_held {s : Sys} {w : Nat} {x : W} {j : Job} (h : s.ws[w]? = some x) (hx : wjob x = some j) :
    0 < cntJ s j := by
  have := heldJobs_set h W.idle j
  rw [hx] at this
  simp only [cntJ]
  simp [wjob, jc] at this; omega

theorem count_inflight (s : Sys) (j : Job) : (inflight s).count j = cntJ s j := List.count_append

theorem heldJobs_replicate_idle (n : Nat) (j : Job) : (heldJobs (List.replicate n W.idle)).count j = 0 := by
  simp [heldJobs, List.filterMap_replicate, wjob]

theorem heldJobs_wakeAll (ws : List W) (j : Job) : (heldJobs (wakeAll ws)).count j = (heldJobs ws).count j := by
  have : (wjob ∘ fun x => if x = W.parked then W.removing else x) = wjob := by
    funext x
    by_cases hx : x = W.parked <;> simp [hx, wjob]
  rw [heldJobs, wakeAll, List.filterMap_map, this]
  rfl

theorem exited_wakeAll (ws : List W) : W.exited ∈ wakeAll ws → W.exited ∈ ws := by
  intro h
  simp only [wakeAll, List.mem_map] at h
  obtain ⟨x, hx, hxe⟩ := h
  by_cases hp : x = W.parked
  · simp [hp] at hxe
  · simp only [hp, if_false] at hxe; subst hxe; exact hx

theorem mem_set_self {ws : List W} {w : Nat} {old : W} (h : ws[w]? = some old) (x : W) : x ∈ ws.set w x :=
  List.mem_set (List.getElem?_eq_some_iff.mp h).1 x

theorem exited_set {ws : List W} {w : Nat} {x : W} (h : W.exited ∈ ws.set w x) (hx : x ≠ W.exited) :
    W.exited ∈ ws :=
  (List.mem_or_eq_of_mem_set h).resolve_right fun e => hx e.symm

theorem exists_parked (l : List W) (h : ¬ l.all (fun x => x != W.parked) = true) :
    ∃ p : Nat, l[p]? = some W.parked := by
  simp only [List.all_eq_true, bne_iff_ne, ne_eq, Classical.not_forall, Decidable.not_not] at h
  obtain ⟨x, hx, rfl⟩ := h
  exact List.mem_iff_getElem?.mp hx

theorem wake_spec {ws ws' : List W} {pick : Nat} (h : wake ws pick = some ws') :
    (∀ j, (heldJobs ws').count j = (heldJobs ws).count j) ∧ (W.exited ∈ ws' → W.exited ∈ ws) ∧
    (ws' ≠ [] → W.exited ∉ ws → ∃ w ∈ ws', w ≠ W.parked ∧ w ≠ W.exited) := by
  simp only [wake] at h
  split at h
  · rename_i hp
    cases h
    exact ⟨heldJobs_set_same hp rfl, (exited_set · nofun), fun _ _ => ⟨_, mem_set_self hp _, nofun, nofun⟩⟩
  · split at h
    · -- nobody is parked: the first worker will do
      rename_i hall
      cases h
      refine ⟨fun _ => rfl, id, fun hne hex => ?_⟩
      cases ws with
      | nil => exact absurd rfl hne
      | cons y ys =>
        refine ⟨y, List.mem_cons_self, ?_, fun hy => hex (hy ▸ List.mem_cons_self)⟩
        simpa using List.all_eq_true.mp hall y List.mem_cons_self
    · cases h

/-- `next` with the queue operations resolved: no panic, `Add` refused iff closed, `Remove` pops -/
inductive Step (s : Sys) : Sys → Prop
  | refused : s.q.closed = true →
      Step s { s with nextId := s.nextId + 1, rejected := s.nextId :: s.rejected }
  | submitted {q' : Queue} {ws' : List W} {pick : Nat} : s.q.closed = false → QInv q' →
      abs q' = abs s.q ++ [s.nextId] → wake s.ws pick = some ws' →
      Step s { s with q := q', ws := ws', nextId := s.nextId + 1, accepted := s.nextId :: s.accepted }
  /-- `wait`, `check`, `start`, a `remove` that finds nothing -/
  | moved {w : Nat} {old x : W} : s.ws[w]? = some old → wjob x = wjob old →
      (x = W.exited → s.q.closed = true) → (x = W.parked → s.q.closed = false → abs s.q = []) →
      Step s { s with ws := s.ws.set w x }
  | dequeued {w : Nat} {j : Job} {q' : Queue} : s.ws[w]? = some W.removing → s.q.closed = false → QInv q' →
      abs s.q = j :: abs q' →
      Step s { s with q := q', ws := s.ws.set w (W.holding j), deqs := s.deqs + 1,
                      deqAfterClose := s.deqAfterClose || s.q.closed }
  | succeeded {w : Nat} {j : Job} : s.ws[w]? = some (W.running j) →
      Step s { s with ws := s.ws.set w W.idle, runs := (j, true) :: s.runs, succeeded := j :: s.succeeded }
  | failed {w : Nat} {j : Job} : s.ws[w]? = some (W.running j) →
      Step s { s with ws := s.ws.set w (W.retrying j), runs := (j, false) :: s.runs }
  | dropped {w : Nat} {j : Job} : s.ws[w]? = some (W.retrying j) → s.q.closed = true →
      Step s { s with ws := s.ws.set w W.idle }
  | requeued {w : Nat} {j : Job} {q' : Queue} {ws' : List W} {pick : Nat} : s.ws[w]? = some (W.retrying j) →
      s.q.closed = false → QInv q' → abs q' = abs s.q ++ [j] → wake (s.ws.set w W.idle) pick = some ws' →
      Step s { s with q := q', ws := ws' }
  | closed : Step s { s with q := close s.q, ws := wakeAll s.ws }

theorem next_step {s s' : Sys} {l : Label} (hi : SInv s) (h : next s l = some s') : Step s s' := by
  cases l with
  | submit pick =>
    simp only [next] at h
    cases hcl : s.q.closed with
    | true =>
      rw [add_closed s.q s.nextId hcl] at h
      cases h
      exact .refused hcl
    | false =>
      obtain ⟨q', ha, hq', habs⟩ := add_open (hi.qOpen hcl) s.nextId
      rw [ha] at h
      simp only at h
      split at h
      · cases h
      · rename_i hwk
        cases h
        exact .submitted hcl hq' habs hwk
  | wait w =>
    simp only [next] at h
    split at h
    · rename_i hidle
      split at h
      · cases h
        exact .moved hidle rfl nofun nofun
      · split at h
        · cases h
          exact .moved hidle rfl nofun nofun
        · rename_i hcnt
          cases h
          refine .moved hidle rfl nofun fun _ ho => List.eq_nil_of_length_eq_zero ?_
          rw [abs_length (hi.qOpen ho)]
          exact Decidable.of_not_not hcnt
    · cases h
  | remove w =>
    simp only [next] at h
    split at h
    · rename_i hrem
      cases hcl : s.q.closed with
      | true =>
        rw [remove_empty _ (hi.qClosed hcl).1] at h
        cases h
        exact .moved hrem rfl nofun nofun
      | false =>
        rcases remove_open (hi.qOpen hcl) with ⟨_, hrm⟩ | ⟨j, q', hrm, hq', habs⟩
        · rw [hrm] at h
          cases h
          exact .moved hrem rfl nofun nofun
        · rw [hrm] at h
          cases h
          exact .dequeued hrem hcl hq' habs
    · cases h
  | check w =>
    simp only [next] at h
    split at h
    · rename_i hchk
      cases h
      cases hcl : s.q.closed with
      | true => exact .moved hchk rfl (fun _ => hcl) nofun
      | false => exact .moved hchk rfl nofun nofun
    · cases h
  | start w =>
    simp only [next] at h
    split at h
    · rename_i hhold
      cases h
      exact .moved hhold rfl nofun nofun
    · cases h
  | finish w ok =>
    simp only [next] at h
    split at h
    · rename_i hrun
      cases ok with
      | false =>
        simp only [Bool.false_eq_true, if_false] at h
        cases h
        exact .failed hrun
      | true =>
        simp only [if_true] at h
        cases h
        exact .succeeded hrun
    · cases h
  | readd w pick =>
    simp only [next] at h
    split at h
    · rename_i j hret
      cases hcl : s.q.closed with
      | true =>
        rw [add_closed s.q j hcl] at h
        cases h
        exact .dropped hret hcl
      | false =>
        obtain ⟨q', ha, hq', habs⟩ := add_open (hi.qOpen hcl) j
        rw [ha] at h
        simp only at h
        split at h
        · cases h
        · rename_i hwk
          cases h
          exact .requeued hret hcl hq' habs hwk
    · cases h
  | close => simp only [next] at h; cases h; exact .closed

theorem inv_init (nW c : Nat) (hc : 0 < c) : SInv (init nW c) := by
  have hcnt : ∀ j, cntJ (init nW c) j = 0 := fun j => by
    simp [cntJ, init, abs_newQueue, heldJobs_replicate_idle]
  exact {
    noPanic := rfl
    noDeqAfterClose := rfl
    qOpen := fun _ => inv_newQueue c hc
    qClosed := nofun
    uniq := fun j => by rw [hcnt]; exact Nat.zero_le _
    own := fun j h => by rw [hcnt] at h; cases h
    noLoss := fun _ j h => by cases h
    accLt := fun j h => by cases h
    succLt := fun j h => by cases h
    runsOk := trivial
    runsSucc := fun j h => by cases h
    exitedClosed := fun h => absurd (List.eq_of_mem_replicate h) nofun
    wakeup := fun _ h => absurd (abs_newQueue c) h }

theorem SInv.no_exited {s : Sys} (hi : SInv s) (ho : s.q.closed = false) : W.exited ∉ s.ws := fun he => by
  have := hi.exitedClosed he
  rw [ho] at this; cases this

/-- frame: jobs only move between the queue and the workers -/
theorem inv_move {s : Sys} {q' : Queue} {ws' : List W} (d : Nat) (hi : SInv s)
    (hcnt : ∀ j, (abs q').count j + (heldJobs ws').count j = cntJ s j) (hcl : q'.closed = s.q.closed)
    (hqo : q'.closed = false → QInv q') (hqc : q'.closed = true → q'.cnt = 0 ∧ abs q' = [])
    (hex : W.exited ∈ ws' → q'.closed = true)
    (hwk : q'.closed = false → abs q' ≠ [] → ws' ≠ [] → ∃ w ∈ ws', w ≠ W.parked ∧ w ≠ W.exited) :
    SInv { s with q := q', ws := ws', deqs := d } :=
  { hi with
    qOpen := hqo, qClosed := hqc, exitedClosed := hex, wakeup := hwk
    uniq := fun j => Nat.le_trans (Nat.le_of_eq (hcnt j)) (hi.uniq j)
    own := fun j hj => hi.own j (Nat.lt_of_lt_of_le hj (Nat.le_of_eq (hcnt j)))
    noLoss := fun h j hj => (hi.noLoss (hcl ▸ h) j hj).imp_right fun hp => Nat.lt_of_lt_of_le hp (Nat.le_of_eq (hcnt j).symm) }

/-- frame: at a closed queue jobs may also disappear -/
theorem inv_shut {s : Sys} {q' : Queue} {ws' : List W} (hi : SInv s)
    (hle : ∀ j, (abs q').count j + (heldJobs ws').count j ≤ cntJ s j) (hcl : q'.closed = true)
    (hqc : q'.cnt = 0 ∧ abs q' = []) : SInv { s with q := q', ws := ws' } :=
  { hi with
    qOpen := by simp [hcl]
    qClosed := fun _ => hqc
    uniq := fun j => Nat.le_trans (hle j) (hi.uniq j)
    own := fun j hj => hi.own j (Nat.lt_of_lt_of_le hj (hle j))
    noLoss := by simp [hcl]
    exitedClosed := fun _ => hcl
    wakeup := by simp [hcl] }

/-- a worker parks only at an empty queue and exits only at a closed one -/
theorem inv_move_worker {s : Sys} {w : Nat} {old x : W} (hi : SInv s) (h : s.ws[w]? = some old)
    (hj : wjob x = wjob old) (hex : x = W.exited → s.q.closed = true)
    (hpk : x = W.parked → s.q.closed = false → abs s.q = []) : SInv { s with ws := s.ws.set w x } := by
  refine inv_move s.deqs hi (fun j => ?_) rfl hi.qOpen hi.qClosed (fun he => ?_) (fun ho hne _ => ?_)
  · rw [heldJobs_set_same h hj]; rfl
  · by_cases hx : x = W.exited
    · exact hex hx
    · exact hi.exitedClosed (exited_set he hx)
  · exact ⟨x, mem_set_self h x, fun hx => hne (hpk hx ho), fun hx => by rw [hex hx] at ho; cases ho⟩

theorem count_append_single (l : List Job) (a j : Job) : (l ++ [a]).count j = l.count j + jc (some a) j := by
  simp only [List.count_append, List.count_singleton, jc, Option.some.injEq]
  by_cases h : a = j <;> simp [h]

theorem inv_of_step {s s' : Sys} (hi : SInv s) (h : Step s s') : SInv s' := by
  cases h with
  | refused hcl =>
    exact { hi with
      own := fun j hj => ⟨Nat.lt_succ_of_lt (hi.own j hj).1, (hi.own j hj).2⟩
      accLt := fun j hj => Nat.lt_succ_of_lt (hi.accLt j hj)
      succLt := fun j hj => Nat.lt_succ_of_lt (hi.succLt j hj) }
  | @submitted q' ws' pick hcl hq' habs hwk =>
    obtain ⟨w1, w2, w3⟩ := wake_spec hwk
    have hfresh : cntJ s s.nextId = 0 := Nat.eq_zero_of_not_pos fun h0 => Nat.lt_irrefl _ (hi.own _ h0).1
    have hc : ∀ j, (abs q').count j + (heldJobs ws').count j = cntJ s j + jc (some s.nextId) j := fun j => by
      simp only [cntJ, habs, count_append_single, w1]; omega
    have hjc : ∀ j, s.nextId ≠ j → jc (some s.nextId) j = 0 := fun j hj => by simp [jc, hj]
    exact { hi with
      qOpen := fun _ => hq'
      qClosed := by simp [hq'.opened]
      uniq := fun j => by
        simp only [cntJ]
        rw [hc]
        by_cases hj : s.nextId = j
        · subst hj; simp [jc, hfresh]
        · rw [hjc j hj]; exact hi.uniq j
      own := fun j hj => by
        simp only [cntJ] at hj
        rw [hc] at hj
        by_cases hjn : s.nextId = j
        · subst hjn
          exact ⟨Nat.lt_succ_self _, List.mem_cons_self, fun hs => Nat.lt_irrefl _ (hi.succLt _ hs)⟩
        · rw [hjc j hjn] at hj
          have := hi.own j hj
          exact ⟨Nat.lt_succ_of_lt this.1, List.mem_cons_of_mem _ this.2.1, this.2.2⟩
      noLoss := fun _ j hj => by
        simp only [cntJ]
        rw [hc]
        rcases List.mem_cons.mp hj with rfl | hj
        · right; simp [jc]
        · exact (hi.noLoss hcl j hj).imp_right fun h' => by omega
      accLt := fun j hj => by
        rcases List.mem_cons.mp hj with rfl | hj
        · exact Nat.lt_succ_self _
        · exact Nat.lt_succ_of_lt (hi.accLt j hj)
      succLt := fun j hj => Nat.lt_succ_of_lt (hi.succLt j hj)
      exitedClosed := fun he => absurd (w2 he) (hi.no_exited hcl)
      wakeup := fun _ _ hne => w3 hne (hi.no_exited hcl) }
  | moved h hj hex hpk => exact inv_move_worker hi h hj hex hpk
  | @dequeued w j q' hrem hcl hq' habs =>
    rw [hcl, Bool.or_false]
    refine inv_move _ hi (fun k => ?_) (hq'.opened.trans hcl.symm) (fun _ => hq') (by simp [hq'.opened])
      (fun he => absurd (exited_set he nofun) (hi.no_exited hcl))
      (fun _ _ _ => ⟨_, mem_set_self hrem _, nofun, nofun⟩)
    have := heldJobs_set hrem (W.holding j) k
    simp only [cntJ, habs, List.count_cons]
    simp [wjob, jc] at this ⊢
    omega
  | @failed w j hrun =>
    -- the job that ran is owned, hence not yet successful
    have hnotrun : (j, true) ∉ s.runs := fun hm =>
      (hi.own j (cntJ_pos_of_held hrun rfl)).2.2 (hi.runsSucc j hm)
    exact { inv_move_worker (x := W.retrying j) hi hrun rfl nofun nofun with
      runsOk := ⟨hnotrun, hi.runsOk⟩
      runsSucc := fun k hk => hi.runsSucc k (by simpa using hk) }
  | @succeeded w j hrun =>
    obtain ⟨hjlt, -, hjns⟩ := hi.own j (cntJ_pos_of_held hrun rfl)
    have hnotrun : (j, true) ∉ s.runs := fun hm => hjns (hi.runsSucc j hm)
    have hc : ∀ k, (abs s.q).count k + (heldJobs (s.ws.set w W.idle)).count k + jc (some j) k = cntJ s k := by
      intro k
      have := heldJobs_set hrun W.idle k
      simp only [cntJ]
      simp [wjob, jc] at this ⊢
      omega
    have hjc : ∀ k, k ≠ j → jc (some j) k = 0 := fun k hk => by simp [jc, Ne.symm hk]
    exact { hi with
      uniq := fun k => by
        simp only [cntJ]
        have := hc k; have := hi.uniq k; omega
      own := fun k hk => by
        simp only [cntJ] at hk
        have hck := hc k
        obtain ⟨a, b, c⟩ := hi.own k (by omega)
        refine ⟨a, b, fun hm => ?_⟩
        rcases List.mem_cons.mp hm with rfl | hm
        · have := hi.uniq k
          simp only [jc, if_true] at hck; omega
        · exact c hm
      noLoss := fun hcl k hk => by
        simp only [cntJ]
        by_cases hjk : k = j
        · exact Or.inl (hjk ▸ List.mem_cons_self)
        · have hck := hc k
          rw [hjc k hjk] at hck
          exact (hi.noLoss hcl k hk).imp (List.mem_cons_of_mem _) fun h' => by omega
      succLt := fun k hk => by
        rcases List.mem_cons.mp hk with rfl | hk
        · exact hjlt
        · exact hi.succLt k hk
      runsOk := ⟨hnotrun, hi.runsOk⟩
      runsSucc := fun k hk => by
        rcases List.mem_cons.mp hk with e | hk
        · exact (Prod.mk.inj e).1 ▸ List.mem_cons_self
        · exact List.mem_cons_of_mem _ (hi.runsSucc k hk)
      exitedClosed := fun he => hi.exitedClosed (exited_set he nofun)
      wakeup := fun _ _ _ => ⟨_, mem_set_self hrun _, nofun, nofun⟩ }
  | @dropped w j hret hcl =>
    refine inv_shut hi (fun k => ?_) hcl (hi.qClosed hcl)
    have := heldJobs_set hret W.idle k
    simp only [cntJ]
    simp [wjob, jc] at this; omega
  | @requeued w j q' ws' pick hret hcl hq' habs hwk =>
    obtain ⟨w1, w2, w3⟩ := wake_spec hwk
    have hnex : W.exited ∉ s.ws.set w W.idle := fun he => hi.no_exited hcl (exited_set he nofun)
    refine inv_move s.deqs hi (fun k => ?_) (hq'.opened.trans hcl.symm) (fun _ => hq') (by simp [hq'.opened])
      (fun he => absurd (w2 he) hnex) (fun _ _ hne => w3 hne hnex)
    have := heldJobs_set hret W.idle k
    simp only [cntJ, habs, count_append_single, w1]
    simp [wjob, jc] at this ⊢
    omega
  | closed =>
    obtain ⟨c1, c2, c3⟩ := close_spec s.q
    exact inv_shut hi (fun k => by simp [cntJ, c3, heldJobs_wakeAll]) c1 ⟨c2, c3⟩

theorem inv_step {s s' : Sys} {l : Label} (hi : SInv s) (h : next s l = some s') : SInv s' :=
  inv_of_step hi (next_step hi h)

theorem reach_inv {nW c : Nat} (hc : 0 < c) {s : Sys} (h : Reach nW c s) : SInv s := by
  induction h with
  | init => exact inv_init nW c hc
  | step _ hn ih => exact inv_step ih hn

theorem reach_run {nW c : Nat} {s s' : Sys} (ls : List Label) (h : Reach nW c s) (hr : run s ls = some s') :
    Reach nW c s' := by
  induction ls generalizing s with
  | nil => simp [run] at hr; subst hr; exact h
  | cons l ls ih =>
    simp only [run] at hr
    split at hr
    · cases hr
    · rename_i s1 hs1
      exact ih (Reach.step h hs1) hr

inductive QOp where
  | add (j : Job)
  | rem
deriving Repr, DecidableEq

/-- FIFO specification: state = list of queued jobs, output = what `Remove` returned -/
def specStep (l : List Job) : QOp → List Job × Option Job
  | .add j => (l ++ [j], none)
  | .rem => match l with
    | [] => ([], none)
    | x :: xs => (xs, some x)

def implStep (q : Queue) : QOp → Option (Queue × Option Job)
  | .add j => match add q j with
    | some (q', true) => some (q', none)
    | _ => none       -- panic, or refused (cannot happen on an open queue)
  | .rem => remove q

def specRun (l : List Job) : List QOp → List Job × List (Option Job)
  | [] => (l, [])
  | op :: ops =>
    let (l', o) := specStep l op
    let (l'', os) := specRun l' ops
    (l'', o :: os)

def implRun (q : Queue) : List QOp → Option (Queue × List (Option Job))
  | [] => some (q, [])
  | op :: ops =>
    match implStep q op with
    | none => none
    | some (q', o) =>
      match implRun q' ops with
      | none => none
      | some (q'', os) => some (q'', o :: os)

theorem count_le_one_of_mem {l : List Job} {j : Job} (h : l.count j ≤ 1) (hm : j ∈ l) : l.count j = 1 := by
  have := List.count_pos_iff.mpr hm; omega

theorem fifo_step {s s' : Sys} (h : Step s s') (ho : s'.q.closed = false) :
    s.q.closed = false ∧
    ((s'.deqs = s.deqs ∧ ∃ added, abs s'.q = abs s.q ++ added) ∨
     (s'.deqs = s.deqs + 1 ∧ ∃ j, abs s.q = j :: abs s'.q)) := by
  have same : s'.q = s.q → s'.deqs = s.deqs → s.q.closed = false ∧
      ((s'.deqs = s.deqs ∧ ∃ added, abs s'.q = abs s.q ++ added) ∨
       (s'.deqs = s.deqs + 1 ∧ ∃ j, abs s.q = j :: abs s'.q)) :=
    fun hq hd => ⟨hq ▸ ho, Or.inl ⟨hd, [], by rw [hq, List.append_nil]⟩⟩
  cases h with
  | refused | moved | succeeded | failed | dropped => exact same rfl rfl
  | submitted hcl _ habs => exact ⟨hcl, Or.inl ⟨rfl, _, habs⟩⟩
  | dequeued _ hcl _ habs => exact ⟨hcl, Or.inr ⟨rfl, _, habs⟩⟩
  | requeued _ hcl _ habs => exact ⟨hcl, Or.inl ⟨rfl, _, habs⟩⟩
  | closed => cases ho

theorem fifo_run (ls : List Label) : ∀ {s s' : Sys}, SInv s → run s ls = some s' → s'.q.closed = false →
    s.q.closed = false ∧ s.deqs ≤ s'.deqs ∧
    ∃ added, abs s'.q = (abs s.q ++ added).drop (s'.deqs - s.deqs) := by
  induction ls with
  | nil =>
    intro s s' _ h ho
    cases h
    exact ⟨ho, Nat.le_refl _, [], by rw [Nat.sub_self, List.append_nil, List.drop_zero]⟩
  | cons l ls ih =>
    intro s s' hi h ho
    simp only [run] at h
    split at h
    · cases h
    · rename_i s1 hs1
      obtain ⟨ho1, hle, added, ha⟩ := ih (inv_step hi hs1) h ho
      obtain ⟨hso, ⟨hd, a1, h1⟩ | ⟨hd, x, hx⟩⟩ := fifo_step (next_step hi hs1) ho1
      · exact ⟨hso, by omega, a1 ++ added, by rw [ha, h1, hd, List.append_assoc]⟩
      · refine ⟨hso, by omega, added, ?_⟩
        rw [ha, hx, show s'.deqs - s.deqs = s'.deqs - s1.deqs + 1 by omega]
        rfl

/-- a non-trivial run used as witness in the property file -/
def exampleRun : List Label :=
  [.wait 0, .wait 1, .submit 0, .remove 0, .start 0, .submit 1, .remove 1, .start 1, .submit 0, .submit 0,
   .submit 0, .finish 0 false, .readd 0 0, .finish 1 true, .wait 1, .remove 1, .start 1, .wait 0, .remove 0,
   .start 0, .finish 1 true, .finish 0 true, .wait 0, .remove 0, .start 0, .close, .submit 0, .finish 0 true,
   .wait 0, .check 0, .wait 1, .check 1]

end CentrifugeVerif.Dissolve
