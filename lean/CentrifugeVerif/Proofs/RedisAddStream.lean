import CentrifugeVerif.Proofs.RedisLua
import CentrifugeVerif.Gen.Lua.BrokerHistoryAddStream
/-
Symbolic execution of the *translated* `broker_history_add_stream.lua` (`Gen/Lua/BrokerHistoryAddStream.lean`,
regenerated from /repo on every run), part by part.  Each lemma holds for all keys, all argument strings
and all Redis states satisfying the stated (typing) hypotheses.  When the script changes, the parts
change and these proofs stop checking — that is the tie.

Variables a part does not inspect stay arbitrary `LVal`s, so the kernel compares the tail call into the
next part argument by argument.
-/
namespace CentrifugeVerif.AddStream
open CentrifugeVerif CentrifugeVerif.Redis CentrifugeVerif.Lua CentrifugeVerif.LuaRedis CentrifugeVerif.Gen.Lua

structure AddArgs where
  payload : String
  size : String
  ttl : String
  chan : String
  metaExp : String
  fresh : String
  pcmd : String
  rexp : String
  delta : String
  ver : String
  vep : String

def AddArgs.argv (a : AddArgs) : LVal :=
  .tbl [.str a.payload, .str a.size, .str a.ttl, .str a.chan, .str a.metaExp, .str a.fresh, .str a.pcmd,
        .str a.rexp, .str a.delta, .str a.ver, .str a.vep]

def keysT (sk mk rk : String) : LVal := .tbl [.str sk, .str mk, .str rk]

abbrev P1 (sk mk rk : String) (a : AddArgs) : RedisM LVal :=
  broker_history_add_stream_p1 (keysT sk mk rk) a.argv (.str sk) (.str mk) (.str rk) (.str a.payload) (.str a.size)
    (.str a.ttl) (.str a.chan) (.str a.metaExp) (.str a.fresh) (.str a.pcmd) (.str a.rexp) (.str a.delta)
    (.str a.ver) (.str a.vep)
abbrev P2 (sk mk rk : String) (a : AddArgs) : RedisM LVal :=
  broker_history_add_stream_p2 (keysT sk mk rk) a.argv (.str sk) (.str mk) (.str rk) (.str a.payload) (.str a.size)
    (.str a.ttl) (.str a.chan) (.str a.metaExp) (.str a.fresh) (.str a.pcmd) (.str a.rexp) (.str a.delta)
    (.str a.ver) (.str a.vep)
abbrev P4 (sk mk rk : String) (a : AddArgs) (ep : LVal) : RedisM LVal :=
  broker_history_add_stream_p4 (keysT sk mk rk) a.argv (.str sk) (.str mk) (.str rk) (.str a.payload) (.str a.size)
    (.str a.ttl) (.str a.chan) (.str a.metaExp) (.str a.fresh) (.str a.pcmd) (.str a.rexp) (.str a.delta)
    (.str a.ver) (.str a.vep) ep
abbrev P5 (sk mk rk : String) (a : AddArgs) (ep : LVal) : RedisM LVal :=
  broker_history_add_stream_p5 (keysT sk mk rk) a.argv (.str sk) (.str mk) (.str rk) (.str a.payload) (.str a.size)
    (.str a.ttl) (.str a.chan) (.str a.metaExp) (.str a.fresh) (.str a.pcmd) (.str a.rexp) (.str a.delta)
    (.str a.ver) (.str a.vep) ep

/-- the hash stored at `k` (`[]` when the key is absent), provided the key does not hold another type -/
def HashAt (s : Redis) (k : String) (h : List (String × String)) : Prop := getHash s k = .ok h

theorem script_eq_p1 (sk mk rk : String) (a : AddArgs) (s : Redis) :
    run (broker_history_add_stream (keysT sk mk rk) a.argv) s = run (P1 sk mk rk a) s := by
  rfl

variable {K A vsk vmk vrk pl sz ttl ch mexp fr pcmd vrexp dl vver vvep : LVal}
  {s : Redis} {h : List (String × String)}

section p1
variable {rk rexp : String} (hk : HashAt s rk h)
include hk

theorem p1_hit {ep : String} (hrexp : rexp ≠ "") (he : hlookup h "e" = some ep) :
    run (broker_history_add_stream_p1 K A vsk vmk (.str rk) pl sz ttl ch mexp fr pcmd (.str rexp) dl vver vvep) s
      = (.ok (.tbl [respToLua (optBulk (hlookup h "s")), .str ep, .str "1", .str "0"]), s) := by
  refine (run_if_pos (truthy_ne_str hrexp)).trans ((run_call_bind _ (call_hmget2 hk "e" "s")).trans ?_)
  rw [he]
  -- `mkTable` needs the offset read to be non-`nil`
  cases hlookup h "s" <;> rfl

theorem p1_miss (hmiss : rexp = "" ∨ hlookup h "e" = none) :
    run (broker_history_add_stream_p1 K A vsk vmk (.str rk) pl sz ttl ch mexp fr pcmd (.str rexp) dl vver vvep) s
      = run (broker_history_add_stream_p2 K A vsk vmk (.str rk) pl sz ttl ch mexp fr pcmd (.str rexp) dl vver vvep) s := by
  by_cases hrexp : rexp = ""
  · subst hrexp
    rfl
  · refine (run_if_pos (truthy_ne_str hrexp)).trans ((run_call_bind _ (call_hmget2 hk "e" "s")).trans ?_)
    rw [hmiss.resolve_left hrexp]
    rfl

end p1

section metaHash
variable {mk : String} (hk : HashAt s mk h)
include hk

theorem p2_p3_epoch_present {e : String} (he : hlookup h "e" = some e) :
    run (broker_history_add_stream_p2 K A vsk (.str mk) vrk pl sz ttl ch mexp fr pcmd vrexp dl vver vvep) s
      = run (broker_history_add_stream_p4 K A vsk (.str mk) vrk pl sz ttl ch mexp fr pcmd vrexp dl vver vvep (.str e)) s := by
  refine (run_call_bind _ (call_hget hk "e")).trans ?_
  rw [he]
  rfl

theorem p2_p3_epoch_absent {fresh : String} (he : hlookup h "e" = none) :
    run (broker_history_add_stream_p2 K A vsk (.str mk) vrk pl sz ttl ch mexp (.str fresh) pcmd vrexp dl vver vvep) s
      = run (broker_history_add_stream_p4 K A vsk (.str mk) vrk pl sz ttl ch mexp (.str fresh) pcmd vrexp dl vver vvep
          (.str fresh)) (putHash s mk (hset1 h "e" fresh)) := by
  refine (run_call_bind _ (call_hget hk "e")).trans ?_
  rw [he]
  exact run_call_bind _ (call_hset1 hk "e" fresh)

end metaHash

/-- the offset a version-suppressed publish reports: `tonumber(s)` of the meta hash, 0 when absent -/
def suppressedOffset (hm : List (String × String)) : Except LuaErr LVal :=
  match hlookup hm "s" with
  | none => .ok (.num 0)
  | some x => tonumber (.str x)

theorem p4_unversioned {ep : LVal} :
    run (broker_history_add_stream_p4 K A vsk vmk vrk pl sz ttl ch mexp fr pcmd vrexp dl (.str "0") vvep ep) s
      = run (broker_history_add_stream_p5 K A vsk vmk vrk pl sz ttl ch mexp fr pcmd vrexp dl (.str "0") vvep ep) s := by
  rfl

theorem p4_suppressed {mk ver vep ep pv : String} {x y n : Int}
    (hk : HashAt s mk h) (hver : ver ≠ "0")
    (hv : hlookup h "v" = some pv)
    (hep : vep = "" ∨ hlookup h "ve" = some vep)
    (hx : tonumber (.str pv) = .ok (.num x)) (hy : tonumber (.str ver) = .ok (.num y)) (hle : y ≤ x)
    (hoff : suppressedOffset h = .ok (.num n)) :
    run (broker_history_add_stream_p4 K A vsk (.str mk) vrk pl sz ttl ch mexp fr pcmd vrexp dl (.str ver) (.str vep)
        (.str ep)) s
      = (.ok (.tbl [.num n, .str ep, .str "0", .str "1"]), s) := by
  refine (run_if_pos (truthy_ne_str hver)).trans ((run_call_bind _ (call_hmget3 hk "v" "ve" "s")).trans ?_)
  unfold suppressedOffset at hoff
  have hve := hep.resolve_left
  cases hs : hlookup h "s" <;> rw [hs] at hoff
  · cases hoff
    by_cases h0 : vep = "" <;> simp [hv, hx, hy, hle, h0, hve, mkTable]
  · by_cases h0 : vep = "" <;> simp [hv, hx, hy, hle, hoff, h0, hve, mkTable]

/-- whenever `m` finishes without a Lua error, its value is `v` -/
def OkRet (m : RedisM LVal) (v : LVal) : Prop := ∀ s r s', run m s = (.ok r, s') → r = v

theorem okret_bind {α : Type} {m : RedisM α} {f : α → RedisM LVal} {v : LVal}
    (h : ∀ x, OkRet (f x) v) : OkRet (m >>= f) v := by
  intro s r s' hr
  rw [run_bind] at hr
  rcases hm : run m s with ⟨(e | x), s1⟩
  · simp [hm] at hr
  · simp [hm] at hr; exact h x s1 r s' hr

theorem okret_ite {c : Prop} [Decidable c] {a b : RedisM LVal} {v : LVal}
    (ha : OkRet a v) (hb : OkRet b v) : OkRet (if c then a else b) v := by
  split <;> assumption

theorem okret_pure (v : LVal) : OkRet (pure v) v := by
  intro s r s' h; simp at h; exact h.1.symm

/-- the reply of a stored publication -/
def storedReply (top ep : LVal) : LVal := .tbl [top, ep, .str "0", .str "0"]

/- parts 6 to 13 hand the epoch and the new top offset on unchanged; part 13 returns them -/
section store
variable {ep : String} {n : Int} {prev : LVal}

theorem p13_ok : OkRet (broker_history_add_stream_p13 K A vsk vmk vrk pl sz ttl ch mexp fr pcmd vrexp dl vver vvep
    (.str ep) (.num n) prev) (storedReply (.num n) (.str ep)) :=
  okret_pure _

theorem p12_ok : OkRet (broker_history_add_stream_p12 K A vsk vmk vrk pl sz ttl ch mexp fr pcmd vrexp dl vver vvep
    (.str ep) (.num n) prev) (storedReply (.num n) (.str ep)) :=
  okret_ite (okret_bind fun _ => okret_bind fun _ => p13_ok) p13_ok

theorem p11_ok : OkRet (broker_history_add_stream_p11 K A vsk vmk vrk pl sz ttl ch mexp fr pcmd vrexp dl vver vvep
    (.str ep) (.num n) prev) (storedReply (.num n) (.str ep)) := by
  refine okret_ite (okret_ite ?_ ?_) p12_ok
  -- statements skipped: 14 building the delta frame (6 for the plain one), then `PUBLISH`
  · iterate 15 refine okret_bind fun _ => ?_
    exact p12_ok
  · iterate 7 refine okret_bind fun _ => ?_
    exact p12_ok

theorem p10_ok : OkRet (broker_history_add_stream_p10 K A vsk vmk vrk pl sz ttl ch mexp fr pcmd vrexp dl vver vvep
    (.str ep) (.num n) prev) (storedReply (.num n) (.str ep)) :=
  okret_bind fun _ => okret_bind fun _ => p11_ok

theorem p9_ok : OkRet (broker_history_add_stream_p9 K A vsk vmk vrk pl sz ttl ch mexp fr pcmd vrexp dl vver vvep
    (.str ep) (.num n) prev) (storedReply (.num n) (.str ep)) :=
  okret_ite (okret_bind fun _ => p10_ok) p10_ok

theorem p8_ok : OkRet (broker_history_add_stream_p8 K A vsk vmk vrk pl sz ttl ch mexp fr pcmd vrexp dl vver vvep
    (.str ep) (.num n) prev) (storedReply (.num n) (.str ep)) := by
  refine okret_bind fun _ => okret_ite ?_ p9_ok
  -- `XREVRANGE`, the length of its reply, the comparison with 0
  iterate 3 refine okret_bind fun _ => ?_
  refine okret_ite ?_ p9_ok
  -- payload by index (3), field list (2), loop bounds (2), the loop
  iterate 8 refine okret_bind fun _ => ?_
  exact p9_ok

theorem p6_p7_ok : OkRet (broker_history_add_stream_p6 K A vsk vmk vrk pl sz ttl ch mexp fr pcmd vrexp dl vver vvep
    (.str ep) (.num n)) (storedReply (.num n) (.str ep)) :=
  okret_ite (okret_bind fun _ => p8_ok) p8_ok

end store

/-- `tonumber`-free reading of the meta hash's `s` field as HINCRBY sees it -/
def curOffset (hm : List (String × String)) : Option Int :=
  match hlookup hm "s" with
  | none => some 0
  | some x => parseDecInt x

/-- from part 5 (HINCRBY) on: the reply is the old offset + 1 and the epoch determined earlier, unless the
script aborts with a Lua/Redis error -/
theorem p5_ok {mk ep : String} {c : Int} (hk : HashAt s mk h) (hc : curOffset h = some c)
    (hsmall : (c + 1).natAbs < 2 ^ 53) {r : LVal} {s' : Redis}
    (hrun : run (broker_history_add_stream_p5 K A vsk (.str mk) vrk pl sz ttl ch mexp fr pcmd vrexp dl vver vvep
      (.str ep)) s = (.ok r, s')) :
    r = storedReply (.num (c + 1)) (.str ep) :=
  p6_p7_ok _ _ _ ((run_call_bind _ (call_hincrby_one hk "s" hc hsmall)).symm.trans hrun)

end CentrifugeVerif.AddStream
