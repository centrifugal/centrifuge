import CentrifugeVerif.Proofs.Stream
import CentrifugeVerif.Proofs.StreamAbs
import CentrifugeVerif.Proofs.HistoryHubSweep
/-!
Refinement of the memory broker's history hub (`Model/HistoryHub.lean`) to the bounded-log
specification (`Spec/AbsStream.lean`), and the invariants of the hub.

The abstraction and the invariant see a hub only through its streams and its epoch counter, so
every hub function is described by what it does to these two.
-/
namespace CentrifugeVerif.HistoryHub
open CentrifugeVerif.MemStream CentrifugeVerif.AbsStream

/-- abstraction of one stream: forget the explicit offsets and the version pair -/
def absS (s : MStream Pub) : AbsChan Pub := ⟨s.epoch, s.top, s.items.map (·.value)⟩

/-- abstraction of the hub: forget deadlines and queues -/
def Hub.abs (h : Hub) : Abs Pub := ⟨fun ch => (h.chans ch).stream.map absS, h.nextEpoch⟩

theorem abs_ext {h : Hub} {a : Abs Pub} (hc : ∀ x, (h.chans x).stream.map absS = a.chans x)
    (hn : h.nextEpoch = a.nextEpoch) : h.abs = a :=
  Abs.ext' (funext hc) hn

theorem abs_chans_of_some {h : Hub} {ch : String} {s : MStream Pub} (hst : (h.chans ch).stream = some s) :
    h.abs.chans ch = some (absS s) := congrArg (Option.map absS) hst

theorem abs_chans_of_none {h : Hub} {ch : String} (hst : (h.chans ch).stream = none) :
    h.abs.chans ch = none := congrArg (Option.map absS) hst

theorem entries_absS (s : MStream Pub) (h : s.Inv) : (absS s).entries = s.items := by
  unfold AbsChan.entries absS
  simp only [List.length_map]
  rw [← h.1, List.zipWith_map, List.zipWith_self]
  exact List.map_id' _

theorem absS_add (s : MStream Pub) (v : Pub) (size ver : Nat) (ve : String) :
    absS (s.add v size ver ve).1 = (absS s).append v size := by
  simp [absS, MStream.add, AbsChan.append, List.map_drop]

theorem absS_clear (s : MStream Pub) : absS s.clear = (absS s).clear := rfl

theorem map_absS_clear (o : Option (MStream Pub)) :
    (o.map MStream.clear).map absS = (o.map absS).map AbsChan.clear := by
  cases o <;> rfl

theorem absS_new (e : Nat) : absS (MStream.new e) = ⟨e, 0, []⟩ := rfl

@[simp] theorem set_chans_same (h : Hub) (ch : String) (c : ChanState) : (h.set ch c).chans ch = c :=
  if_pos rfl

theorem set_chans_other (h : Hub) (ch x : String) (c : ChanState) (hx : x ≠ ch) :
    (h.set ch c).chans x = h.chans x := if_neg hx

theorem set_stream (h : Hub) (ch : String) (c : ChanState) (x : String) :
    ((h.set ch c).chans x).stream = if x = ch then c.stream else (h.chans x).stream := by
  show (if x = ch then c else h.chans x).stream = _
  split <;> rfl

@[simp] theorem set_nextEpoch (h : Hub) (ch : String) (c : ChanState) : (h.set ch c).nextEpoch = h.nextEpoch := rfl
@[simp] theorem set_metaTTL (h : Hub) (ch : String) (c : ChanState) : (h.set ch c).metaTTL = h.metaTTL := rfl

theorem set_stream_of_eq (h : Hub) (ch : String) (c : ChanState) (x : String)
    (hc : c.stream = (h.chans ch).stream) : ((h.set ch c).chans x).stream = (h.chans x).stream := by
  rw [set_stream]
  split
  · next hx => rw [hx, hc]
  · rfl

theorem touchMeta_stream (h : Hub) (ch : String) (m n : Nat) (x : String) :
    ((h.touchMeta ch m n).chans x).stream = (h.chans x).stream := by
  unfold Hub.touchMeta
  split
  · exact set_stream_of_eq _ _ _ _ rfl
  · rfl

@[simp] theorem touchMeta_nextEpoch (h : Hub) (ch : String) (m n : Nat) :
    (h.touchMeta ch m n).nextEpoch = h.nextEpoch := by
  unfold Hub.touchMeta; split <;> rfl

@[simp] theorem touchMeta_metaTTL (h : Hub) (ch : String) (m n : Nat) :
    (h.touchMeta ch m n).metaTTL = h.metaTTL := by
  unfold Hub.touchMeta; split <;> rfl

theorem touchExpire_stream (h : Hub) (ch : String) (t n : Nat) (x : String) :
    ((h.touchExpire ch t n).chans x).stream = (h.chans x).stream :=
  set_stream_of_eq _ _ _ _ rfl

@[simp] theorem touchExpire_nextEpoch (h : Hub) (ch : String) (t n : Nat) :
    (h.touchExpire ch t n).nextEpoch = h.nextEpoch := rfl

@[simp] theorem touchExpire_metaTTL (h : Hub) (ch : String) (t n : Nat) :
    (h.touchExpire ch t n).metaTTL = h.metaTTL := rfl

theorem touchMeta_abs (h : Hub) (ch : String) (m n : Nat) : (h.touchMeta ch m n).abs = h.abs :=
  abs_ext (fun x => by rw [touchMeta_stream]; rfl) (touchMeta_nextEpoch h ch m n)

theorem get_of_none {h : Hub} {ch : String} (f : Filter) (m n : Nat) (hst : (h.chans ch).stream = none) :
    (∀ x, ((h.get ch f m n).1.chans x).stream =
        if x = ch then some (MStream.new h.nextEpoch) else (h.chans x).stream) ∧
      (h.get ch f m n).1.nextEpoch = h.nextEpoch + 1 ∧ (h.get ch f m n).2 = ([], ⟨0, h.nextEpoch⟩) := by
  unfold Hub.get Hub.getCore
  simp only [touchMeta_stream, hst, touchMeta_nextEpoch]
  refine ⟨fun x => ?_, trivial, rfl⟩
  rw [set_stream, touchMeta_stream]

theorem get_of_some {h : Hub} {ch : String} {s : MStream Pub} (f : Filter) (m n : Nat)
    (hst : (h.chans ch).stream = some s) :
    ∃ pubs, h.get ch f m n = (h.touchMeta ch m n, pubs, ⟨s.top, s.epoch⟩) ∧
      (pubs = [] ∨ ∃ o u, pubs = s.get o u f.limit f.reverse) := by
  unfold Hub.get Hub.getCore
  simp only [touchMeta_stream, hst]
  cases f.since with
  | none =>
    simp only
    split
    · exact ⟨_, rfl, .inl rfl⟩
    · exact ⟨_, rfl, .inr ⟨_, _, rfl⟩⟩
  | some p =>
    simp only
    split
    · exact ⟨_, rfl, .inl rfl⟩
    · split
      · exact ⟨_, rfl, .inl rfl⟩
      · exact ⟨_, rfl, .inr ⟨_, _, rfl⟩⟩

theorem get_keeps_stream (h : Hub) (ch : String) (f : Filter) (m n : Nat) (x : String) (s : MStream Pub)
    (hx : (h.chans x).stream = some s) : ((h.get ch f m n).1.chans x).stream = some s := by
  cases hst : (h.chans ch).stream with
  | some t =>
    obtain ⟨pubs, he, _⟩ := get_of_some f m n hst
    rw [he, touchMeta_stream, hx]
  | none =>
    have hne : x ≠ ch := fun e => by rw [e, hst] at hx; cases hx
    rw [(get_of_none f m n hst).1, if_neg hne, hx]

/-- the domain on which `getLocked` is the specification's read: offsets are `uint64` values
(`since.offset < 2^64`, `top + 1 < 2^64`); forward reads: every `since`; reverse reads: `since`
a position up to `top + 1` (beyond that the code returns nothing — recorded quirk) -/
def FilterOK (top : Nat) (f : Filter) : Prop :=
  match f.since with
  | none => True
  | some p => if f.reverse then p.offset ≤ top + 1 ∧ top + 1 < u64 else p.offset < u64 ∧ top + 1 < u64

/-- state part: `getLocked` only creates a missing channel (fresh epoch, top 0) -/
theorem get_abs (h : Hub) (ch : String) (f : Filter) (m n : Nat) :
    (h.get ch f m n).1.abs = (h.abs.ensure ch).1 ∧ (h.get ch f m n).2.2 = (h.abs.ensure ch).2.pos := by
  cases hst : (h.chans ch).stream with
  | none =>
    obtain ⟨h1, h2, h3⟩ := get_of_none f m n hst
    rw [ensure_of_none (abs_chans_of_none hst), h3]
    refine ⟨abs_ext (fun x => ?_) h2, rfl⟩
    rw [h1]
    show _ = if x = ch then _ else _
    split <;> rfl
  | some s =>
    obtain ⟨pubs, he, _⟩ := get_of_some f m n hst
    rw [ensure_of_some (abs_chans_of_some hst), he, touchMeta_abs]
    exact ⟨rfl, rfl⟩

/-- output part: on the `FilterOK` domain `getLocked` returns exactly the specification's read -/
theorem get_pubs (h : Hub) (ch : String) (f : Filter) (m n : Nat) (s : MStream Pub)
    (hst : (h.chans ch).stream = some s) (hi : s.Inv) (hf : FilterOK s.top f) :
    (h.get ch f m n).2.1 = (absS s).read f := by
  -- nothing retained is newer than an offset from `top` on
  have hnewer : ∀ p, s.top ≤ p → s.items.filter (fun it => decide (p < it.offset)) = [] := fun p hp =>
    List.filter_eq_nil_iff.mpr fun it hit => by have := (inv_mem hi hit).2; rw [decide_eq_true_eq]; omega
  unfold Hub.get Hub.getCore AbsChan.read
  simp only [touchMeta_stream, hst]
  rw [entries_absS s hi]
  unfold FilterOK at hf
  cases hsince : f.since with
  | none =>
    simp only
    split
    · next h0 => rw [h0, takeLim_zero]
    · rw [MemStream.get_spec s hi]
      cases f.reverse <;> rfl
  | some p =>
    rw [hsince] at hf
    simp only
    cases hrev : f.reverse with
    | false =>
      simp only [hrev, Bool.false_eq_true, if_false, Bool.not_false, Bool.true_and, Bool.and_eq_true,
        decide_eq_true_eq] at hf ⊢
      split
      · -- top = since.offset: nothing is newer
        next hc => rw [hnewer _ (by omega), takeLim_nil]
      · split
        · -- since = 2^64−1: nothing is newer (tops are uint64 values)
          next hmax => rw [hnewer _ (by omega), takeLim_nil]
        · rw [Nat.mod_eq_of_lt (by omega), MemStream.get_spec s hi]
          rfl
    | true =>
      simp only [hrev, if_true, Bool.not_true, Bool.false_and, Bool.false_eq_true, if_false] at hf ⊢
      split
      · -- since.offset = 0: the wrapped offset 2^64−1 lies beyond `top`, and nothing is older than 0
        next h0 =>
        have hnone : s.items.filter (fun it => decide (it.offset < p.offset)) = [] :=
          List.filter_eq_nil_iff.mpr fun it _ => by simp [h0]
        rw [hnone, MemStream.get_spec s hi, List.reverse_nil, takeLim_nil]
        simp only [MStream.getSpec, if_pos (by omega : u64 - 1 > s.top)]
      · next h0 =>
        rw [MemStream.get_spec s hi]
        simp only [MStream.getSpec, if_neg (by omega : ¬ p.offset - 1 > s.top)]
        congr 2
        exact List.filter_congr fun it _ => decide_eq_decide.mpr (by omega)

theorem remove_stream (h : Hub) (ch x : String) :
    ((h.remove ch).chans x).stream =
      if x = ch then (h.chans ch).stream.map MStream.clear else (h.chans x).stream := by
  cases hst : (h.chans ch).stream with
  | none =>
    simp only [Hub.remove, hst]
    split
    · next hx => rw [hx, hst]; rfl
    · rfl
  | some s =>
    simp only [Hub.remove, hst]
    exact set_stream _ _ _ _

theorem remove_abs (h : Hub) (ch : String) : (h.remove ch).abs = h.abs.clear ch := by
  refine abs_ext (fun x => ?_) (by unfold Hub.remove; simp only; split <;> rfl)
  rw [remove_stream]
  show _ = if x = ch then _ else _
  split
  · exact map_absS_clear _
  · rfl

@[simp] theorem tick_nextEpoch (h : Hub) (n : Nat) : (h.tick n).nextEpoch = h.nextEpoch := by
  unfold Hub.tick Hub.sweepRemove Hub.sweepExpire
  split <;> split <;> rfl

theorem tick_abs (h : Hub) (n : Nat) : Abs.Tick h.abs (h.tick n).abs := by
  refine ⟨tick_nextEpoch h n, fun x => ?_⟩
  show Option.map absS _ = _ ∨ Option.map absS _ = _ ∨ Option.map absS _ = _
  rcases tick_stream h n x with e | e | ⟨e, _⟩ <;> rw [e]
  · exact .inl rfl
  · exact .inr (.inl (map_absS_clear _))
  · exact .inr (.inr rfl)

/-- the version check of `historyHub.add` against a stream -/
def VersionSkip (o : PubOpts) (s : MStream Pub) : Prop :=
  o.version > 0 ∧ (o.versionEpoch = "" ∨ o.versionEpoch = s.topVersionEpoch) ∧ o.version ≤ s.topVersion

instance (o : PubOpts) (s : MStream Pub) : Decidable (VersionSkip o s) := by
  unfold VersionSkip; exact inferInstance

theorem new_not_versionSkip (o : PubOpts) (e : Nat) : ¬ VersionSkip o (MStream.new e) :=
  fun ⟨h0, _, hle⟩ => Nat.not_lt.mpr hle h0

theorem versionSkip_eq_some_iff (h : Hub) (ch : String) (o : PubOpts) (p : Pos) :
    h.versionSkip ch o = some p ↔
      ∃ s, (h.chans ch).stream = some s ∧ VersionSkip o s ∧ p = ⟨s.top, s.epoch⟩ := by
  unfold Hub.versionSkip
  cases (h.chans ch).stream with
  | none => simp
  | some s =>
    simp only [Option.some.injEq, exists_eq_left']
    split
    · next hv => exact ⟨fun e => ⟨hv, (Option.some.inj e).symm⟩, fun ⟨_, e⟩ => e ▸ rfl⟩
    · next hv => exact ⟨nofun, fun ⟨hv', _⟩ => absurd hv' hv⟩

theorem add_of_skip {h : Hub} {ch : String} {o : PubOpts} {p : Pos} (pub : Pub) (n : Nat)
    (hv : h.versionSkip ch o = some p) : h.add ch pub o n = (h, ⟨p, none, true⟩) := by
  simp only [Hub.add, hv]

theorem add_of_noskip {h : Hub} {ch : String} {o : PubOpts} (pub : Pub) (n : Nat)
    (hv : h.versionSkip ch o = none) :
    h.add ch pub o n =
      (((h.deltaRead ch o n).1.touchExpire ch o.ttl n).touchMeta ch o.metaTTL n).addCore ch pub o
        (h.deltaRead ch o n).2 := by
  simp only [Hub.add, hv]

theorem addCore_skip (g : Hub) (ch : String) (pub : Pub) (o : PubOpts) (prev : Option (Item Pub))
    (s : MStream Pub) (hst : (g.chans ch).stream = some s) (hv : VersionSkip o s) :
    g.addCore ch pub o prev = (g, ⟨⟨s.top, s.epoch⟩, none, true⟩) := by
  unfold VersionSkip at hv
  simp only [Hub.addCore, hst, if_pos hv]

theorem addCore_store (g : Hub) (ch : String) (pub : Pub) (o : PubOpts) (prev : Option (Item Pub))
    (s : MStream Pub) (hst : (g.chans ch).stream = some s) (hv : ¬ VersionSkip o s) :
    g.addCore ch pub o prev =
      (g.set ch { g.chans ch with stream := some (s.add pub o.size o.version o.versionEpoch).1 },
        ⟨⟨s.top + 1, s.epoch⟩, prev, false⟩) := by
  unfold VersionSkip at hv
  simp only [Hub.addCore, hst, if_neg hv]
  rfl

theorem addCore_new (g : Hub) (ch : String) (pub : Pub) (o : PubOpts) (prev : Option (Item Pub))
    (hst : (g.chans ch).stream = none) :
    g.addCore ch pub o prev =
      ({ (g.set ch { g.chans ch with
            stream := some ((MStream.new g.nextEpoch : MStream Pub).add pub o.size o.version o.versionEpoch).1 }) with
          nextEpoch := g.nextEpoch + 1 },
        ⟨⟨1, g.nextEpoch⟩, prev, false⟩) := by
  simp only [Hub.addCore, hst]
  rfl

/-- **how an `add` that passes the version check goes.**  `s0` is the stream `stream.Add` works
on: the channel's, or a fresh one when the channel has none (created by the delta read or, without
`UseDelta`, by the storing tail — with the same epoch either way). -/
theorem add_store {h : Hub} {ch : String} {o : PubOpts} (pub : Pub) (n : Nat)
    (hv : h.versionSkip ch o = none) {s0 : MStream Pub}
    (hs0 : s0 = (h.chans ch).stream.getD (MStream.new h.nextEpoch)) :
    (∀ x, ((h.add ch pub o n).1.chans x).stream =
        if x = ch then some (s0.add pub o.size o.version o.versionEpoch).1 else (h.chans x).stream) ∧
      (h.add ch pub o n).1.nextEpoch =
        (if (h.chans ch).stream.isSome then h.nextEpoch else h.nextEpoch + 1) ∧
      (h.add ch pub o n).2 = ⟨⟨s0.top + 1, s0.epoch⟩, (h.deltaRead ch o n).2, false⟩ := by
  rw [add_of_noskip pub n hv]
  generalize hg : ((h.deltaRead ch o n).1.touchExpire ch o.ttl n).touchMeta ch o.metaTTL n = g
  have hgs : ∀ x, (g.chans x).stream = ((h.deltaRead ch o n).1.chans x).stream := fun x => by
    rw [← hg, touchMeta_stream, touchExpire_stream]
  have hge : g.nextEpoch = (h.deltaRead ch o n).1.nextEpoch := by
    rw [← hg, touchMeta_nextEpoch, touchExpire_nextEpoch]
  subst hs0
  cases hst : (h.chans ch).stream with
  | some s0 =>
    -- the channel has a stream: the delta read changes no stream
    have hd : (h.deltaRead ch o n).1 = h ∨ (h.deltaRead ch o n).1 = h.touchMeta ch o.metaTTL n := by
      unfold Hub.deltaRead
      split
      · obtain ⟨pubs, he, _⟩ := get_of_some { limit := 1, reverse := true } o.metaTTL n hst
        exact .inr (congrArg Prod.fst he)
      · exact .inl rfl
    have hds : ∀ x, ((h.deltaRead ch o n).1.chans x).stream = (h.chans x).stream := fun x => by
      rcases hd with e | e <;> rw [e]
      exact touchMeta_stream _ _ _ _ _
    have hde : (h.deltaRead ch o n).1.nextEpoch = h.nextEpoch := by
      rcases hd with e | e <;> rw [e]
      exact touchMeta_nextEpoch _ _ _ _
    have hnv : ¬ VersionSkip o s0 := fun hv' => by
      rw [(versionSkip_eq_some_iff h ch o _).mpr ⟨s0, hst, hv', rfl⟩] at hv
      cases hv
    rw [addCore_store g ch pub o _ s0 (by rw [hgs, hds, hst]) hnv]
    refine ⟨fun x => ?_, hge.trans hde, rfl⟩
    rw [set_stream, hgs, hds]
    rfl
  | none =>
    by_cases hdl : o.useDelta = true
    · -- no stream, delta read: it creates the stream, the tail stores into it
      have hd : (h.deltaRead ch o n).1 = (h.get ch { limit := 1, reverse := true } o.metaTTL n).1 := by
        simp only [Hub.deltaRead, hdl, if_true]
      obtain ⟨h1, h2, _⟩ := get_of_none { limit := 1, reverse := true } o.metaTTL n hst
      rw [hd] at hgs hge
      rw [addCore_store g ch pub o _ _ (by rw [hgs, h1, if_pos rfl]) (new_not_versionSkip o _)]
      refine ⟨fun x => ?_, hge.trans h2, rfl⟩
      rw [set_stream, hgs, h1]
      split <;> rfl
    · -- no stream, no delta read: the tail creates the stream
      have hd : (h.deltaRead ch o n).1 = h := by
        simp only [Hub.deltaRead, hdl]; rfl
      rw [hd] at hgs hge
      rw [addCore_new g ch pub o _ (by rw [hgs, hst]), hge]
      refine ⟨fun x => ?_, rfl, rfl⟩
      show ((g.set ch _).chans x).stream = _
      rw [set_stream, hgs]
      rfl

theorem versionSkip_none_of_store {h : Hub} {ch : String} {pub : Pub} {o : PubOpts} {n : Nat}
    (hs : (h.add ch pub o n).2.skip = false) : h.versionSkip ch o = none := by
  cases hv : h.versionSkip ch o with
  | none => rfl
  | some p => rw [add_of_skip pub n hv] at hs; cases hs

/-- a skipped `add` returns the current top position and leaves the hub **completely unchanged**
(streams, deadlines, queues; also with `UseDelta`: the version check precedes the delta read) -/
theorem add_skip_spec (h : Hub) (ch : String) (pub : Pub) (o : PubOpts) (n : Nat)
    (hs : (h.add ch pub o n).2.skip = true) :
    ∃ s, (h.chans ch).stream = some s ∧ VersionSkip o s ∧
      h.add ch pub o n = (h, ⟨⟨s.top, s.epoch⟩, none, true⟩) := by
  cases hv : h.versionSkip ch o with
  | some p =>
    obtain ⟨s, hst, hvs, rfl⟩ := (versionSkip_eq_some_iff h ch o p).mp hv
    exact ⟨s, hst, hvs, add_of_skip pub n hv⟩
  | none =>
    rw [(add_store pub n hv rfl).2.2] at hs
    cases hs

theorem add_skip_iff (h : Hub) (ch : String) (pub : Pub) (o : PubOpts) (n : Nat) :
    (h.add ch pub o n).2.skip = true ↔ ∃ s, (h.chans ch).stream = some s ∧ VersionSkip o s := by
  constructor
  · intro hs
    obtain ⟨s, hst, hv, _⟩ := add_skip_spec h ch pub o n hs
    exact ⟨s, hst, hv⟩
  · rintro ⟨s, hst, hv⟩
    rw [add_of_skip pub n ((versionSkip_eq_some_iff h ch o _).mpr ⟨s, hst, hv, rfl⟩)]

theorem add_store_spec (h : Hub) (ch : String) (pub : Pub) (o : PubOpts) (n : Nat)
    (hs : (h.add ch pub o n).2.skip = false) :
    (h.add ch pub o n).1.abs = (h.abs.append ch pub o.size).1 ∧
      (h.add ch pub o n).2.pos = (h.abs.append ch pub o.size).2 := by
  have hv := versionSkip_none_of_store hs
  unfold Abs.append
  cases hst : (h.chans ch).stream with
  | some s =>
    obtain ⟨h1, h2, h3⟩ := add_store pub n hv (s0 := s) (by rw [hst]; rfl)
    rw [ensure_of_some (abs_chans_of_some hst), h3]
    refine ⟨abs_ext (fun x => ?_) (by rw [h2, hst]; rfl), rfl⟩
    rw [h1]
    show _ = if x = ch then _ else _
    split
    · exact congrArg some (absS_add _ _ _ _ _)
    · rfl
  | none =>
    obtain ⟨h1, h2, h3⟩ := add_store pub n hv (s0 := MStream.new h.nextEpoch) (by rw [hst]; rfl)
    rw [ensure_of_none (abs_chans_of_none hst), h3]
    refine ⟨abs_ext (fun x => ?_) (by rw [h2, hst]; rfl), rfl⟩
    rw [h1]
    show _ = if x = ch then _ else if x = ch then _ else _
    split
    · exact congrArg some (absS_add _ _ _ _ _)
    · rfl

theorem add_stream_other (h : Hub) (ch : String) (pub : Pub) (o : PubOpts) (n : Nat) (x : String)
    (hx : x ≠ ch) : (((h.add ch pub o n).1).chans x).stream = (h.chans x).stream := by
  cases hv : h.versionSkip ch o with
  | some p => rw [add_of_skip pub n hv]
  | none =>
    rw [(add_store pub n hv rfl).1, if_neg hx]

/-- every stream satisfies the contiguity invariant and the abstract state is well-formed -/
def Hub.Inv (h : Hub) : Prop :=
  (∀ ch s, (h.chans ch).stream = some s → s.Inv) ∧ h.abs.Inv

theorem init_inv (m : Nat) : ({ metaTTL := m } : Hub).Inv :=
  ⟨nofun, nofun, fun _ _ _ _ _ => nofun, Nat.le_refl 1⟩

theorem streams_inv_of_update {h h' : Hub} {ch : String} {t : Option (MStream Pub)}
    (hi : ∀ x s, (h.chans x).stream = some s → s.Inv)
    (hu : ∀ x, (h'.chans x).stream = if x = ch then t else (h.chans x).stream)
    (ht : ∀ s, t = some s → s.Inv) : ∀ x s, (h'.chans x).stream = some s → s.Inv := by
  intro x s hs
  rw [hu] at hs
  split at hs
  · exact ht s hs
  · exact hi x s hs

theorem inv_of_map_clear {o : Option (MStream Pub)} {s : MStream Pub}
    (hs : o.map MStream.clear = some s) : s.Inv := by
  cases o with
  | none => cases hs
  | some t => cases hs; exact MemStream.clear_inv t

theorem get_inv (h : Hub) (hi : h.Inv) (ch : String) (f : Filter) (m n : Nat) : (h.get ch f m n).1.Inv := by
  refine ⟨?_, by rw [(get_abs h ch f m n).1]; exact ensure_inv _ hi.2 ch⟩
  cases hst : (h.chans ch).stream with
  | none =>
    exact streams_inv_of_update hi.1 (get_of_none f m n hst).1 fun s hs => by cases hs; exact new_inv _
  | some t =>
    obtain ⟨pubs, he, _⟩ := get_of_some f m n hst
    rw [he]
    intro x s hs
    rw [touchMeta_stream] at hs
    exact hi.1 x s hs

theorem add_inv (h : Hub) (hi : h.Inv) (ch : String) (pub : Pub) (o : PubOpts) (n : Nat) :
    (h.add ch pub o n).1.Inv := by
  cases hv : h.versionSkip ch o with
  | some p => rw [add_of_skip pub n hv]; exact hi
  | none =>
    have h3 := (add_store pub n hv rfl).2.2
    refine ⟨?_, by rw [(add_store_spec h ch pub o n (by rw [h3])).1]; exact append_inv _ hi.2 _ _ _⟩
    have hs0i : ((h.chans ch).stream.getD (MStream.new h.nextEpoch)).Inv := by
      cases hst : (h.chans ch).stream with
      | none => exact new_inv _
      | some s0 => exact hi.1 ch s0 hst
    exact streams_inv_of_update hi.1 (add_store pub n hv rfl).1 fun s hs => by
      cases hs; exact (MemStream.stream_add_inv _ hs0i _ _ _ _).1

theorem remove_inv (h : Hub) (hi : h.Inv) (ch : String) : (h.remove ch).Inv := by
  refine ⟨?_, by rw [remove_abs]; exact AbsStream.clear_inv _ hi.2 _⟩
  exact streams_inv_of_update hi.1 (remove_stream h ch) fun s hs => inv_of_map_clear hs

theorem tick_hub_inv (h : Hub) (hi : h.Inv) (n : Nat) : (h.tick n).Inv := by
  refine ⟨?_, tick_inv _ _ hi.2 (tick_abs h n)⟩
  intro x s hs
  rcases tick_stream h n x with e | e | ⟨e, _⟩ <;> rw [e] at hs
  · exact hi.1 x s hs
  · exact inv_of_map_clear hs
  · cases hs

end CentrifugeVerif.HistoryHub
