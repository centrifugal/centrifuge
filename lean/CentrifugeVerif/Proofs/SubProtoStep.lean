import CentrifugeVerif.Proofs.SubProto
import CentrifugeVerif.Proofs.SubProtoEff
/-!
One step of one thread: `stepThread` as the relation `ThreadStep`, the successor state `after`, and which
effects a step can have.
-/
namespace CentrifugeVerif.SubProto

abbrev after (s : State) (tid : Tid) (t' : Thread) (effs : List Eff) : State :=
  applyEffs { s with threads := setThread s.threads tid t' } effs

theorem threads_applyEff (s : State) (e : Eff) (p : Tid × Thread) (h : p ∈ (applyEff s e).threads) :
    p ∈ s.threads ∨ p.2 = autoClose := by
  cases e <;> simp_all
  rcases h with h | h
  · exact Or.inl h
  · exact Or.inr (by rw [h])

theorem threads_applyEffs (es : List Eff) (s : State) (p : Tid × Thread) (h : p ∈ (applyEffs s es).threads) :
    p ∈ s.threads ∨ p.2 = autoClose := by
  induction es generalizing s with
  | nil => exact Or.inl h
  | cons e r ih =>
    rcases ih _ h with h1 | h1
    · exact threads_applyEff s e p h1
    · exact Or.inr h1

/-- `stepThread` as a relation: one constructor per enabled branch -/
inductive ThreadStep (s : State) (tid : Tid) (t : Thread) : Outcome → List Eff → Thread → Prop
  | reserveClosed (hp : t.pc = .sReserve) (hc : t.kind = .ssub ∧ s.status = .closed) :
      ThreadStep s tid t .ok [] { t with pc := .done, ret := .ok }
  | reserveTaken (hp : t.pc = .sReserve) (hc : ¬(t.kind = .ssub ∧ s.status = .closed)) {e : Entry}
      (he : aget s.channels t.ch = some e) : ThreadStep s tid t .ok [] { t with pc := .done, ret := .err }
  | reserve (hp : t.pc = .sReserve) (hc : ¬(t.kind = .ssub ∧ s.status = .closed))
      (he : aget s.channels t.ch = none) :
      ThreadStep s tid t .ok [.mint, .chanSet t.ch (Entry.reservation (s.genCounter + 1))]
        { t with resGen := s.genCounter + 1, pc := if t.kind = .csub then .sOnSub else .sReadGen }
  | onSubOk (hp : t.pc = .sOnSub) : ThreadStep s tid t .ok [] { t with pc := .sReadGen }
  | onSubFail (hp : t.pc = .sOnSub) : ThreadStep s tid t .fail [] { t with failDisc := false, pc := .sErrDel }
  | onSubDisc (hp : t.pc = .sOnSub) : ThreadStep s tid t .failDisc [] { t with failDisc := true, pc := .sErrDel }
  | readGen (hp : t.pc = .sReadGen) {e : Entry} (he : aget s.channels t.ch = some e) (hg : e.gen ≠ 0) :
      ThreadStep s tid t .ok [] { t with cmdGen := e.gen, pc := if t.kind = .csub then .sCheck1 else .sHubAdd }
  | readGenMint (hp : t.pc = .sReadGen) {e : Entry} (he : aget s.channels t.ch = some e) (hg : e.gen = 0) :
      ThreadStep s tid t .ok [.mint, .chanSet t.ch { e with gen := s.genCounter + 1 }]
        { t with cmdGen := s.genCounter + 1, pc := if t.kind = .csub then .sCheck1 else .sHubAdd }
  | readGenNone (hp : t.pc = .sReadGen) (he : aget s.channels t.ch = none) :
      ThreadStep s tid t .ok [.mint]
        { t with cmdGen := s.genCounter + 1, pc := if t.kind = .csub then .sCheck1 else .sHubAdd }
  | check1Fail (hp : t.pc = .sCheck1) (hc : (aget s.channels t.ch).isNone ∨ s.status = .closed) :
      ThreadStep s tid t .ok [] { t with failDisc := true, pc := afterCmdFail t }
  | check1 (hp : t.pc = .sCheck1) (hc : ¬((aget s.channels t.ch).isNone ∨ s.status = .closed)) :
      ThreadStep s tid t .ok [] { t with pc := .sHubAdd }
  | hubAdd (hp : t.pc = .sHubAdd) :
      ThreadStep s tid t .ok [.hubSet t.ch t.cmdGen]
        { t with pc := if t.kind = .csub then .sCheck2 else afterChecks t }
  | hubAddFail (hp : t.pc = .sHubAdd) (hh : ¬(aget s.hub t.ch).isSome) :
      ThreadStep s tid t .fail [.hubSet t.ch t.cmdGen, .hubDelIf t.ch t.cmdGen]
        { t with failDisc := true, pc := afterCmdFail t }
  | check2Fail (hp : t.pc = .sCheck2) (hc : (aget s.channels t.ch).isNone ∨ s.status = .closed) :
      ThreadStep s tid t .ok [] { t with failDisc := true, pc := afterCmdFail t }
  | check2 (hp : t.pc = .sCheck2) (hc : ¬((aget s.channels t.ch).isNone ∨ s.status = .closed)) :
      ThreadStep s tid t .ok [] { t with pc := afterChecks t }
  | presAdd (hp : t.pc = .sPresAdd) :
      ThreadStep s tid t .ok [.presAdd t.ch] { t with presAdded := true, pc := afterPres t }
  | presAddFail (hp : t.pc = .sPresAdd) :
      ThreadStep s tid t .fail [] { t with presAdded := true, failDisc := true, pc := .sDeferPres }
  | reply (hp : t.pc = .sReply) : ThreadStep s tid t .ok [.log (.replyOk tid)] { t with pc := .sCommit }
  | commitClosed (hp : t.pc = .sCommit) {e : Entry} (he : aget s.channels t.ch = some e)
      (hg : e.gen = t.cmdGen) (hc : s.status = .closed) :
      ThreadStep s tid t .ok [.chanDel t.ch] { t with capGate := e.gate, pc := .sRbHub }
  | commit (hp : t.pc = .sCommit) {e : Entry} (he : aget s.channels t.ch = some e)
      (hg : e.gen = t.cmdGen) (hc : ¬s.status = .closed) :
      ThreadStep s tid t .ok
        [.log (.commit t.ch t.cmdGen),
         .chanSet t.ch { gen := t.cmdGen, subscribed := true, presence := t.opts.presence,
                         joinLeave := t.opts.joinLeave, serverSide := t.kind = .ssub, gate := none }]
        { t with capGate := e.gate, pc := .sCloseGate }
  | commitLost (hp : t.pc = .sCommit) (he : ∀ e, aget s.channels t.ch = some e → ¬e.gen = t.cmdGen) :
      ThreadStep s tid t .ok [] { t with capGate := none, pc := .sRbHub }
  | rbHub (hp : t.pc = .sRbHub) :
      ThreadStep s tid t .ok [.hubDelIf t.ch t.cmdGen]
        { t with pc := if t.opts.presence then .sRbPres else .sRbClose }
  | rbPres (hp : t.pc = .sRbPres) : ThreadStep s tid t .ok [.presDel t.ch] { t with pc := .sRbClose }
  | rbClose (hp : t.pc = .sRbClose) :
      ThreadStep s tid t .ok (gateEff t.capGate)
        { t with capGate := none, failDisc := if t.kind = .csub then true else t.failDisc,
                 pc := if t.kind = .csub then afterCmdFail t else .done,
                 ret := if t.kind = .csub then t.ret else .err }
  | closeGate (hp : t.pc = .sCloseGate) :
      ThreadStep s tid t .ok (gateEff t.capGate)
        { t with capGate := none,
                 pc := if t.kind = .csub then (if t.opts.joinLeave then .sJoin else .done) else .sDpf,
                 ret := if t.kind = .csub ∧ ¬ t.opts.joinLeave then .ok else t.ret }
  | dpf (hp : t.pc = .sDpf) : ThreadStep s tid t .ok [] { t with pc := .sPush }
  | pushClosed (hp : t.pc = .sPush) (hw : s.writerClosed = true) :
      ThreadStep s tid t .ok [] { t with pc := .done, ret := .err }
  | pushJoin (hp : t.pc = .sPush) (hw : ¬s.writerClosed = true) (hj : t.opts.joinLeave = true) :
      ThreadStep s tid t .ok [] { t with pc := .sJoin }
  | push (hp : t.pc = .sPush) (hw : ¬s.writerClosed = true) (hj : ¬t.opts.joinLeave = true) :
      ThreadStep s tid t .ok [] { t with pc := .done, ret := .ok }
  | join (hp : t.pc = .sJoin) :
      ThreadStep s tid t .ok [.log (.join t.ch t.cmdGen)] { t with pc := .done, ret := .ok }
  | deferPres (hp : t.pc = .sDeferPres) : ThreadStep s tid t .ok [.presDel t.ch] { t with pc := .sErrDel }
  | errDel (hp : t.pc = .sErrDel) {e : Entry} (he : aget s.channels t.ch = some e) (hg : e.gen = t.resGen) :
      ThreadStep s tid t .ok [.chanDel t.ch] { t with capGate := e.gate, pc := .sErrHub }
  | errDelLost (hp : t.pc = .sErrDel) (he : ∀ e, aget s.channels t.ch = some e → ¬e.gen = t.resGen) :
      ThreadStep s tid t .ok [] { t with capGate := none, pc := .sErrHub }
  | errHub (hp : t.pc = .sErrHub) :
      ThreadStep s tid t .ok [.hubDelIf t.ch t.resGen] { t with pc := .sErrClose }
  | errCloseDisc (hp : t.pc = .sErrClose) (hk : t.kind = .csub) (hf : t.failDisc = true) :
      ThreadStep s tid t .ok (gateEff t.capGate ++ [.spawnClose])
        { t with capGate := none, pc := .done, ret := .err }
  | errCloseReply (hp : t.pc = .sErrClose) (hk : t.kind = .csub) (hf : ¬t.failDisc = true) :
      ThreadStep s tid t .ok (gateEff t.capGate) { t with capGate := none, pc := .sErrOut }
  | errCloseRet (hp : t.pc = .sErrClose) (hk : ¬t.kind = .csub) :
      ThreadStep s tid t .ok (gateEff t.capGate) { t with capGate := none, pc := .done, ret := .err }
  | errOut (hp : t.pc = .sErrOut) :
      ThreadStep s tid t .ok [.log (.replyErr tid)] { t with pc := .done, ret := .err }
  | statusClosed (hp : t.pc = .uStatus) (hc : s.status = .closed) :
      ThreadStep s tid t .ok [] { t with pc := .done, ret := .ok }
  | status (hp : t.pc = .uStatus) (hc : ¬s.status = .closed) : ThreadStep s tid t .ok [] { t with pc := .uSnap }
  | snapNone (hp : t.pc = .uSnap) (he : aget s.channels t.ch = none) :
      ThreadStep s tid t .ok [] { t with pc := unsubRetPc t.kind, ret := unsubRet t.kind t.ret }
  | snapWait (hp : t.pc = .uSnap) {e : Entry} (he : aget s.channels t.ch = some e)
      (hw : (!e.serverSide && !e.subscribed && e.gate.isSome) = true) :
      ThreadStep s tid t .ok [] { t with target := e.gen, ctx := some e, capGate := e.gate, pc := .uWait }
  | snap (hp : t.pc = .uSnap) {e : Entry} (he : aget s.channels t.ch = some e)
      (hw : ¬(!e.serverSide && !e.subscribed && e.gate.isSome) = true) :
      ThreadStep s tid t .ok [] { t with target := e.gen, ctx := some e, capGate := e.gate, pc := .uRemove }
  | wakeNone (hp : t.pc = .uWait) {g : Gen} (hcap : t.capGate = some g) (hg : g ∈ s.closedGates)
      (he : aget s.channels t.ch = none) :
      ThreadStep s tid t .ok [] { t with pc := unsubRetPc t.kind, ret := unsubRet t.kind t.ret }
  | wake (hp : t.pc = .uWait) {g : Gen} (hcap : t.capGate = some g) (hg : g ∈ s.closedGates) {e : Entry}
      (he : aget s.channels t.ch = some e) :
      ThreadStep s tid t .ok [] { t with ctx := some e, pc := .uRemove }
  | tmoGate (hp : t.pc = .uWait) {e : Entry} (he : aget s.channels t.ch = some e) {g : Gen}
      (hg : e.gate = some g) :
      ThreadStep s tid t .tmo [.closeGate g, .chanSet t.ch { e with gate := none }, .spawnClose]
        { t with pc := .uTmoLog }
  | tmo (hp : t.pc = .uWait) (he : ∀ e, aget s.channels t.ch = some e → e.gate = none) :
      ThreadStep s tid t .tmo [.spawnClose] { t with pc := .uTmoLog }
  | tmoLog (hp : t.pc = .uTmoLog) :
      ThreadStep s tid t .ok [] { t with pc := unsubRetPc t.kind, ret := unsubRet t.kind t.ret }
  | remove (hp : t.pc = .uRemove) {c : Entry} (hc : t.ctx = some c) {e : Entry}
      (he : aget s.channels t.ch = some e) (hg : e.gen = t.target) :
      ThreadStep s tid t .ok (gateEff e.gate ++ [.chanDel t.ch]) { t with pc := afterRemove c }
  | removeLost (hp : t.pc = .uRemove) {c : Entry} (hc : t.ctx = some c)
      (he : ∀ e, aget s.channels t.ch = some e → ¬e.gen = t.target) :
      ThreadStep s tid t .ok [] { t with pc := unsubRetPc t.kind, ret := unsubRet t.kind t.ret }
  | presRm (hp : t.pc = .uPresRm) {c : Entry} (hc : t.ctx = some c) :
      ThreadStep s tid t .ok [.presDel t.ch]
        { t with pc := if c.joinLeave && c.subscribed then .uLeave else .uHubRm }
  | leave (hp : t.pc = .uLeave) {c : Entry} (hc : t.ctx = some c) :
      ThreadStep s tid t .ok [.log (.leave t.ch c.gen)] { t with pc := .uHubRm }
  | hubRm (hp : t.pc = .uHubRm) {c : Entry} (hc : t.ctx = some c) :
      ThreadStep s tid t .ok [.hubDelIf t.ch t.target]
        { t with pc := if c.subscribed then .uOnUnsub else unsubRetPc t.kind,
                 ret := if c.subscribed then t.ret else unsubRet t.kind t.ret }
  | onUnsub (hp : t.pc = .uOnUnsub) :
      ThreadStep s tid t .ok [.log (.onUnsub t.ch)]
        { t with pc := unsubRetPc t.kind, ret := unsubRet t.kind t.ret }
  | out (hp : t.pc = .uOut) :
      ThreadStep s tid t .ok [.log (.replyOk tid)] { t with pc := .done, ret := .ok }
  | enterClosed (hp : t.pc = .cEnter) (hm : ¬s.connectMu.isSome) (hc : s.status = .closed) :
      ThreadStep s tid t .ok [] { t with pc := .done, ret := .ok }
  | enter (hp : t.pc = .cEnter) (hm : ¬s.connectMu.isSome) (hc : ¬s.status = .closed) :
      ThreadStep s tid t .ok [.markClosed tid]
        { t with prevConnected := s.status = .connected, pending := s.channels.map (·.1),
                 pc := .cRemoveClient }
  | removeClient (hp : t.pc = .cRemoveClient) : ThreadStep s tid t .ok [.unregister] { t with pc := .cDpf }
  | cDpf (hp : t.pc = .cDpf) : ThreadStep s tid t .ok [] { t with pc := .cWriter }
  | writer (hp : t.pc = .cWriter) : ThreadStep s tid t .ok [.writerClose] { t with pc := .cTClose }
  | tClose (hp : t.pc = .cTClose) : ThreadStep s tid t .ok [] { t with pc := .cLoop }
  | pick (hp : t.pc = .cLoop) {ch : Chan} (hc : ch ∈ t.pending) :
      ThreadStep s tid t (.pick ch) []
        { t with pending := sdel t.pending ch, ch := ch, pc := .uSnap, ctx := none, target := 0,
                 capGate := none }
  | loopDone (hp : t.pc = .cLoop) (he : t.pending.isEmpty = true) :
      ThreadStep s tid t .ok [] { t with pc := if t.prevConnected then .cOnDisc else .cExit }
  | onDisc (hp : t.pc = .cOnDisc) : ThreadStep s tid t .ok [.log .onDisconnect] { t with pc := .cExit }
  | exit (hp : t.pc = .cExit) : ThreadStep s tid t .ok [.unlock] { t with pc := .done, ret := .ok }

theorem forall_of_eq_some {β : Type} {o : Option β} {v : β} {P : β → Prop} (h : o = some v) (hv : P v) :
    ∀ e, o = some e → P e := fun e he => by rw [h] at he; cases he; exact hv

theorem forall_of_eq_none {β : Type} {o : Option β} {P : β → Prop} (h : o = none) :
    ∀ e, o = some e → P e := fun e he => by rw [h] at he; cases he

/-- unfold `stepThread` on a hypothesis `hs : stepThread s tid t o = some (effs, t')` into one goal per
enabled branch, with `effs` and `t'` replaced by the concrete effect list and thread record -/
macro "step_cases" hs:ident : tactic =>
  `(tactic| (unfold stepThread at $hs:ident
             split at $hs:ident <;> (try (repeat' split at $hs:ident)) <;> (try cases $hs:ident)))

theorem ThreadStep.of_eq {s : State} {tid : Tid} {t t' : Thread} {o : Outcome} {effs : List Eff}
    (hs : stepThread s tid t o = some (effs, t')) : ThreadStep s tid t o effs t' := by
  unfold stepThread at hs
  split at hs <;> (try dsimp only at hs) <;> repeat' (first | cases hs | split at hs)
  -- one goal per enabled branch, in the order of the branches of `stepThread`, which is the order of the
  -- constructors (a constructor that joins two branches comes twice)
  · exact .reserveClosed ‹_› ‹_›
  · exact .reserveTaken ‹_› ‹_› ‹_›
  · exact .reserve ‹_› ‹_› ‹_›
  · exact .onSubOk ‹_›
  · exact .onSubFail ‹_›
  · exact .onSubDisc ‹_›
  · exact .readGen ‹_› ‹_› ‹_›
  · exact .readGenMint ‹_› ‹_› (Decidable.not_not.mp ‹_›)
  · exact .readGenNone ‹_› ‹_›
  · exact .check1Fail ‹_› ‹_›
  · exact .check1 ‹_› ‹_›
  · exact .hubAdd ‹_›
  · exact .hubAddFail ‹_› ‹_›
  · exact .check2Fail ‹_› ‹_›
  · exact .check2 ‹_› ‹_›
  · exact .presAdd ‹_›
  · exact .presAddFail ‹_›
  · exact .reply ‹_›
  · exact .commitClosed ‹_› ‹_› ‹_› ‹_›
  · exact .commit ‹_› ‹_› ‹_› ‹_›
  · exact .commitLost ‹_› (forall_of_eq_some ‹_› ‹_›)
  · exact .commitLost ‹_› (forall_of_eq_none ‹_›)
  · exact .rbHub ‹_›
  · exact .rbPres ‹_›
  · exact .rbClose ‹_›
  · exact .closeGate ‹_›
  · exact .dpf ‹_›
  · exact .pushClosed ‹_› ‹_›
  · exact .pushJoin ‹_› ‹_› ‹_›
  · exact .push ‹_› ‹_› ‹_›
  · exact .join ‹_›
  · exact .deferPres ‹_›
  · exact .errDel ‹_› ‹_› ‹_›
  · exact .errDelLost ‹_› (forall_of_eq_some ‹_› ‹_›)
  · exact .errDelLost ‹_› (forall_of_eq_none ‹_›)
  · exact .errHub ‹_›
  · exact .errCloseDisc ‹_› ‹_› ‹_›
  · exact .errCloseReply ‹_› ‹_› ‹_›
  · exact .errCloseRet ‹_› ‹_›
  · exact .errOut ‹_›
  · exact .statusClosed ‹_› ‹_›
  · exact .status ‹_› ‹_›
  · exact .snapNone ‹_› ‹_›
  · exact .snapWait ‹_› ‹_› ‹_›
  · exact .snap ‹_› ‹_› ‹_›
  · exact .wakeNone ‹_› ‹_› ‹_› ‹_›
  · exact .wake ‹_› ‹_› ‹_› ‹_›
  · exact .tmoGate ‹_› ‹_› ‹_›
  · exact .tmo ‹_› (forall_of_eq_some ‹_› ‹_›)
  · exact .tmo ‹_› (forall_of_eq_none ‹_›)
  · exact .tmoLog ‹_›
  · exact .remove ‹_› ‹_› ‹_› ‹_›
  · exact .removeLost ‹_› ‹_› (forall_of_eq_some ‹_› ‹_›)
  · exact .removeLost ‹_› ‹_› (forall_of_eq_none ‹_›)
  · exact .presRm ‹_› ‹_›
  · exact .leave ‹_› ‹_›
  · exact .hubRm ‹_› ‹_›
  · exact .onUnsub ‹_›
  · exact .out ‹_›
  · exact .enterClosed ‹_› ‹_› ‹_›
  · exact .enter ‹_› ‹_› ‹_›
  · exact .removeClient ‹_›
  · exact .cDpf ‹_›
  · exact .writer ‹_›
  · exact .tClose ‹_›
  · exact .pick ‹_› ‹_›
  · exact .loopDone ‹_› ‹_›
  · exact .onDisc ‹_›
  · exact .exit ‹_›

theorem next_step_some {s s' : State} {tid : Tid} {o : Outcome} (h : next s (.step tid o) = some s') :
    ∃ t effs t', aget s.threads tid = some t ∧ ThreadStep s tid t o effs t' ∧ s' = after s tid t' effs := by
  simp only [next] at h
  split at h
  · cases h
  · rename_i t ht
    split at h
    · cases h
    · rename_i effs t' hst
      simp only [Option.some.injEq] at h
      exact ⟨t, effs, t', ht, .of_eq hst, h.symm⟩

theorem channels_applyEffs (es : List Eff) (s : State) (ch : Chan) (e : Entry)
    (h : aget (applyEffs s es).channels ch = some e) : aget s.channels ch = some e ∨ Eff.chanSet ch e ∈ es := by
  induction es generalizing s with
  | nil => exact Or.inl h
  | cons x r ih =>
    rcases ih _ h with h1 | h1
    · cases x <;> simp_all [aget_aset, aget_adel]
      · rename_i ch' e'
        by_cases hc : ch' = ch <;> simp_all
    · exact Or.inr (List.mem_cons_of_mem _ h1)

theorem status_applyEffs (es : List Eff) (s : State) :
    (applyEffs s es).status = .closed ↔ s.status = .closed ∨ ∃ x, Eff.markClosed x ∈ es := by
  induction es generalizing s with
  | nil => simp
  | cons x r ih =>
    rw [applyEffs_cons, ih]
    cases x <;> simp_all

theorem registered_applyEffs (es : List Eff) (s : State) :
    (applyEffs s es).registered = true ↔ s.registered = true ∧ Eff.unregister ∉ es := by
  induction es generalizing s with
  | nil => simp
  | cons x r ih =>
    rw [applyEffs_cons, ih]
    cases x <;> simp_all

theorem aget_setThread (ts : List (Tid × Thread)) (tid x : Tid) (t' : Thread) :
    aget (setThread ts tid t') x = if x = tid then (aget ts tid).map (fun _ => t') else aget ts x := by
  induction ts with
  | nil => simp [setThread, aget]
  | cons p r ih =>
    obtain ⟨k, w⟩ := p
    simp only [setThread, List.map_cons, aget] at ih ⊢
    by_cases hk : k = tid
    · subst hk
      simp only [if_true, ih]
      by_cases hx : x = k
      · simp [hx]
      · simp [hx, Ne.symm hx]
    · simp only [hk, if_false, ih]
      by_cases hx : x = tid
      · subst hx; simp [hk]
      · simp [hx]

theorem aget_threads_applyEffs (es : List Eff) (s : State) (x : Tid) (v : Thread)
    (h : aget s.threads x = some v) : aget (applyEffs s es).threads x = some v := by
  induction es generalizing s with
  | nil => exact h
  | cons e r ih =>
    apply ih
    cases e <;> simp_all
    exact aget_append_some _ _ _ _ h

theorem aget_threads_after {s : State} {tid : Tid} {t t' : Thread} {effs : List Eff} {x : Tid} {u : Thread}
    (hget : aget s.threads tid = some t) (h : aget (after s tid t' effs).threads x = some u) :
    (x ≠ tid ∧ aget s.threads x = some u) ∨ (x = tid ∧ u = t') ∨ u = autoClose := by
  have hm := aget_mem _ _ _ h
  rcases threads_applyEffs _ _ _ hm with h1 | h1
  · -- the pair is in `setThread …`; compare with the lookup there
    by_cases hx : x = tid
    · subst hx
      have hs : aget (setThread s.threads x t') x = some t' := by simp [aget_setThread, hget]
      have := aget_threads_applyEffs effs { s with threads := setThread s.threads x t' } x t' hs
      rw [h] at this
      exact Or.inr (Or.inl ⟨rfl, by cases this; rfl⟩)
    · cases hs : aget (setThread s.threads tid t') x with
      | some v =>
        have := aget_threads_applyEffs effs { s with threads := setThread s.threads tid t' } x v hs
        rw [h] at this; cases this
        rw [aget_setThread] at hs; simp only [hx, if_false] at hs
        exact Or.inl ⟨hx, hs⟩
      | none =>
        have := (aget_none_iff _ _).mp hs
        exact absurd (List.mem_map_of_mem (f := (·.1)) h1) this
  · exact Or.inr (Or.inr h1)

theorem aget_threads_after_self {s : State} {tid : Tid} {t t' : Thread} {effs : List Eff}
    (hget : aget s.threads tid = some t) : aget (after s tid t' effs).threads tid = some t' := by
  apply aget_threads_applyEffs
  simp [aget_setThread, hget]

theorem aget_threads_after_other {s : State} {tid : Tid} {t' : Thread} {effs : List Eff} {x : Tid} {u : Thread}
    (hx : x ≠ tid) (h : aget s.threads x = some u) : aget (after s tid t' effs).threads x = some u := by
  apply aget_threads_applyEffs
  simp [aget_setThread, hx, h]

/-- the events an effect list appends to the log, in order -/
def logged : List Eff → List Ev
  | [] => []
  | .log ev :: r => ev :: logged r
  | _ :: r => logged r

theorem mem_logged (es : List Eff) (ev : Ev) : ev ∈ logged es ↔ Eff.log ev ∈ es := by
  induction es with
  | nil => simp [logged]
  | cons x r ih => cases x <;> simp_all [logged]

@[simp] theorem logged_append (a b : List Eff) : logged (a ++ b) = logged a ++ logged b := by
  induction a with
  | nil => rfl
  | cons x r ih => cases x <;> simp [logged, ih]

@[simp] theorem logged_gateEff (g : Option Gen) : logged (gateEff g) = [] := by
  cases g <;> simp [gateEff, logged]

theorem log_applyEffs_eq (es : List Eff) (s : State) : (applyEffs s es).log = s.log ++ logged es := by
  induction es generalizing s with
  | nil => simp [logged]
  | cons x r ih =>
    rw [applyEffs_cons, ih]
    cases x <;> simp [logged]

theorem log_applyEffs (es : List Eff) (s : State) (ev : Ev) :
    ev ∈ (applyEffs s es).log ↔ ev ∈ s.log ∨ Eff.log ev ∈ es := by
  rw [log_applyEffs_eq, List.mem_append, mem_logged]

@[simp] theorem mem_gateEff (e : Eff) (g : Option Gen) : e ∈ gateEff g ↔ ∃ x, g = some x ∧ e = .closeGate x := by
  cases g <;> simp [gateEff]

/-! What a step can do, effect by effect: `simp at hm` discards the steps without the effect in question. -/

section
variable {s : State} {tid : Tid} {t t' : Thread} {o : Outcome} {effs : List Eff}

theorem step_chanSet (h : ThreadStep s tid t o effs t') {ch : Chan} {e : Entry} (hm : Eff.chanSet ch e ∈ effs) :
    ch = t.ch ∧
    ((t.pc = .sReserve ∧ e = Entry.reservation (s.genCounter + 1) ∧ aget s.channels t.ch = none ∧ Eff.mint ∈ effs ∧
        t'.ch = t.ch ∧ t'.resGen = s.genCounter + 1 ∧ t'.pc = if t.kind = .csub then .sOnSub else .sReadGen) ∨
     (t.pc = .sReadGen ∧ ∃ e0, aget s.channels t.ch = some e0 ∧ e0.gen = 0 ∧ e = { e0 with gen := s.genCounter + 1 }) ∨
     (t.pc = .sCommit ∧ s.status ≠ .closed ∧ effs = [.log (.commit t.ch t.cmdGen), .chanSet t.ch e] ∧
        e.gen = t.cmdGen ∧ e.subscribed = true ∧ e.gate = none ∧
        ∃ e0, aget s.channels t.ch = some e0 ∧ e0.gen = t.cmdGen) ∨
     (o = .tmo ∧ ∃ e0, aget s.channels t.ch = some e0 ∧ e = { e0 with gate := none })) := by
  cases h <;> simp at hm <;> simp_all [Entry.reservation]

theorem step_logged (h : ThreadStep s tid t o effs t') :
    logged effs = [] ∨ ∃ ev, logged effs = [ev] ∧
      ((ev = .commit t.ch t.cmdGen ∧ t.pc = .sCommit) ∨
       (ev = .join t.ch t.cmdGen ∧ t.pc = .sJoin ∧ t'.pc = .done) ∨
       (∃ c, ev = .leave t.ch c.gen ∧ t.pc = .uLeave ∧ t.ctx = some c ∧ t'.pc = .uHubRm ∧ t'.ch = t.ch ∧ t'.target = t.target) ∨
       (ev = .onUnsub t.ch) ∨ ev = .onDisconnect ∨ ev = .replyOk tid ∨ ev = .replyErr tid) := by
  cases h <;> simp [logged] <;> simp_all

theorem step_markClosed (h : ThreadStep s tid t o effs t') {x : Tid} (hm : Eff.markClosed x ∈ effs) :
    x = tid ∧ t.pc = .cEnter ∧ s.connectMu = none ∧ s.status ≠ .closed ∧ t'.pc = .cRemoveClient ∧
      t'.pending = s.channels.map (·.1) := by
  cases h <;> simp at hm <;> simp_all

theorem step_cRemoveClient (h : ThreadStep s tid t o effs t') (hp : t.pc = .cRemoveClient) :
    Eff.unregister ∈ effs := by
  cases h <;> cases hp.symm.trans ‹t.pc = _›
  exact List.mem_singleton_self _

theorem step_kind_res (h : ThreadStep s tid t o effs t') :
    t'.kind = t.kind ∧
      (t'.resGen = t.resGen ∨ (t.pc = .sReserve ∧ t'.resGen = s.genCounter + 1 ∧ Eff.mint ∈ effs)) := by
  cases h <;> simp_all

end

theorem step_unregister (s : State) (tid : Tid) (t t' : Thread) (o : Outcome) (effs : List Eff)
    (hs : stepThread s tid t o = some (effs, t')) (hm : Eff.unregister ∈ effs) : t.pc = .cRemoveClient := by
  cases ThreadStep.of_eq hs <;> simp at hm
  assumption

end CentrifugeVerif.SubProto
