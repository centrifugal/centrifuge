import CentrifugeVerif.Model.SubReply
/-! For C01: facts about `toMPubs`, `recDecision` and `latestOf`. -/
namespace CentrifugeVerif.SubReply
open CentrifugeVerif.Merge

theorem toMPubs_offsets (s : Nat) (l : List HPub) :
    (toMPubs s l).map (·.offset) = l.map (·.offset) := by
  induction l generalizing s with
  | nil => rfl
  | cons p ps ih => simp [toMPubs, ih]

theorem exists_mem_toMPubs (s : Nat) (l : List HPub) (o : Nat) (f : Bool) :
    (∃ m ∈ toMPubs s l, m.offset = o ∧ m.filtered = f) ↔ ∃ p ∈ l, p.offset = o ∧ p.filtered = f := by
  induction l generalizing s with
  | nil => simp [toMPubs]
  | cons p ps ih => simp only [toMPubs, List.mem_cons, exists_eq_or_imp, ih]

/-- a contiguous run whose first element is `a` and whose last element is `t` is exactly
`a, a+1, …, t`. -/
theorem range'_last (a n t : Nat) (hn : 0 < n)
    (h : (List.range' a n).getLast? = some t) : t + 1 = a + n := by
  rw [List.getLast?_range', if_neg (by omega)] at h
  cases h
  omega

/-- a "recovered" decision means: recovery was requested, the epochs agree, and the history
run starts right after the requested offset and ends at the stream top. -/
theorem recDecision_recovered {req : Req} {h : Hist} {l : List MPub}
    (hd : recDecision req h = some (some l)) :
    l = toMPubs 0 h.pubs ∧ recoveredOK h req.offset = true := by
  unfold recDecision at hd
  by_cases hrc : req.recover = true
  · simp only [hrc, if_true] at hd
    split at hd
    · split at hd <;> simp at hd
    · unfold isStreamRecovered at hd
      by_cases hok : recoveredOK h req.offset = true
      · simp only [hok, if_true, Option.some.injEq] at hd
        exact ⟨hd.symm, hok⟩
      · simp only [hok, Bool.false_eq_true, if_false] at hd
        split at hd <;> simp at hd
  · simp [hrc] at hd

theorem recDecision_not_recovered_or {req : Req} {h : Hist} {r : Option (List MPub)}
    (hd : recDecision req h = some r) : r = none ∨ r = some (toMPubs 0 h.pubs) := by
  cases r with
  | none => exact Or.inl rfl
  | some l => exact Or.inr (by rw [(recDecision_recovered hd).1])

theorem lastOffset_le_of_mem_le {l : List MPub} {m : Nat} (h : ∀ p ∈ l, p.offset ≤ m) :
    lastOffset l ≤ m := by
  unfold lastOffset
  cases hl : l.getLast? with
  | none => exact Nat.zero_le _
  | some q => exact h q (List.mem_of_getLast? hl)

theorem latestOf_eq (top : Nat) (merged : List MPub) (maxSeen : Nat) :
    latestOf top merged maxSeen = max (max top (lastOffset merged)) maxSeen := by
  have h1 : adj1 top merged = max top (lastOffset merged) := by
    unfold adj1
    split
    · next h => rw [h]; exact (Nat.max_eq_left (Nat.zero_le _)).symm
    · split <;> omega
  unfold latestOf
  rw [h1]
  split <;> omega

theorem latestOf_ge_top (top : Nat) (merged : List MPub) (maxSeen : Nat) :
    top ≤ latestOf top merged maxSeen ∧ maxSeen ≤ latestOf top merged maxSeen := by
  rw [latestOf_eq]
  omega

theorem latestOf_eq_max {top : Nat} {merged : List MPub} {maxSeen : Nat}
    (h : ∀ p ∈ merged, p.offset ≤ maxSeen) : latestOf top merged maxSeen = max top maxSeen := by
  have := lastOffset_le_of_mem_le h
  rw [latestOf_eq]
  omega

theorem dropStale_sublist (off : Nat) (b l : List MPub) : (dropStale off b l).Sublist l := by
  unfold dropStale
  split
  · exact .refl _
  · exact List.filter_sublist

/-- with nothing buffered the filter is skipped: then `l` must hold no stale entry itself -/
theorem mem_dropStale {off : Nat} {b l : List MPub} (h : b = [] → ∀ p ∈ l, off < p.offset) {p : MPub} :
    p ∈ dropStale off b l ↔ p ∈ l ∧ off < p.offset := by
  unfold dropStale
  split
  · next hb => exact ⟨fun hp => ⟨hp, h (List.isEmpty_iff.mp hb) p hp⟩, (·.1)⟩
  · simp [List.mem_filter]

end CentrifugeVerif.SubReply
