import CentrifugeVerif.Proofs.SubProto
/-!
Program-counter classes used by the no-timeout invariants, with their evaluation lemmas.
-/
namespace CentrifugeVerif.SubProto

/-- the rollback of `commitSubscription` (closed client or reservation lost): hub removal, presence removal, gate close -/
def rbPc : Pc → Bool
  | .sRbHub | .sRbPres | .sRbClose => true
  | _ => false
@[simp] theorem rbPc_sReserve : rbPc .sReserve = false := rfl
@[simp] theorem rbPc_sOnSub : rbPc .sOnSub = false := rfl
@[simp] theorem rbPc_sReadGen : rbPc .sReadGen = false := rfl
@[simp] theorem rbPc_sCheck1 : rbPc .sCheck1 = false := rfl
@[simp] theorem rbPc_sHubAdd : rbPc .sHubAdd = false := rfl
@[simp] theorem rbPc_sCheck2 : rbPc .sCheck2 = false := rfl
@[simp] theorem rbPc_sPresAdd : rbPc .sPresAdd = false := rfl
@[simp] theorem rbPc_sReply : rbPc .sReply = false := rfl
@[simp] theorem rbPc_sCommit : rbPc .sCommit = false := rfl
@[simp] theorem rbPc_sRbHub : rbPc .sRbHub = true := rfl
@[simp] theorem rbPc_sRbPres : rbPc .sRbPres = true := rfl
@[simp] theorem rbPc_sRbClose : rbPc .sRbClose = true := rfl
@[simp] theorem rbPc_sCloseGate : rbPc .sCloseGate = false := rfl
@[simp] theorem rbPc_sDpf : rbPc .sDpf = false := rfl
@[simp] theorem rbPc_sPush : rbPc .sPush = false := rfl
@[simp] theorem rbPc_sJoin : rbPc .sJoin = false := rfl
@[simp] theorem rbPc_sDeferPres : rbPc .sDeferPres = false := rfl
@[simp] theorem rbPc_sErrDel : rbPc .sErrDel = false := rfl
@[simp] theorem rbPc_sErrHub : rbPc .sErrHub = false := rfl
@[simp] theorem rbPc_sErrClose : rbPc .sErrClose = false := rfl
@[simp] theorem rbPc_sErrOut : rbPc .sErrOut = false := rfl
@[simp] theorem rbPc_uStatus : rbPc .uStatus = false := rfl
@[simp] theorem rbPc_uSnap : rbPc .uSnap = false := rfl
@[simp] theorem rbPc_uWait : rbPc .uWait = false := rfl
@[simp] theorem rbPc_uTmoLog : rbPc .uTmoLog = false := rfl
@[simp] theorem rbPc_uRemove : rbPc .uRemove = false := rfl
@[simp] theorem rbPc_uPresRm : rbPc .uPresRm = false := rfl
@[simp] theorem rbPc_uLeave : rbPc .uLeave = false := rfl
@[simp] theorem rbPc_uHubRm : rbPc .uHubRm = false := rfl
@[simp] theorem rbPc_uOnUnsub : rbPc .uOnUnsub = false := rfl
@[simp] theorem rbPc_uOut : rbPc .uOut = false := rfl
@[simp] theorem rbPc_cEnter : rbPc .cEnter = false := rfl
@[simp] theorem rbPc_cRemoveClient : rbPc .cRemoveClient = false := rfl
@[simp] theorem rbPc_cDpf : rbPc .cDpf = false := rfl
@[simp] theorem rbPc_cWriter : rbPc .cWriter = false := rfl
@[simp] theorem rbPc_cTClose : rbPc .cTClose = false := rfl
@[simp] theorem rbPc_cLoop : rbPc .cLoop = false := rfl
@[simp] theorem rbPc_cOnDisc : rbPc .cOnDisc = false := rfl
@[simp] theorem rbPc_cExit : rbPc .cExit = false := rfl
@[simp] theorem rbPc_done : rbPc .done = false := rfl
@[simp] theorem rbPc_ite (c : Prop) [Decidable c] (a b : Pc) :
    rbPc (if c then a else b) = if c then rbPc a else rbPc b := apply_ite rbPc c a b
@[simp] theorem rbPc_unsubRetPc (k : Kind) : rbPc (unsubRetPc k) = false := by
  cases k <;> rfl
@[simp] theorem rbPc_afterRemove (c : Entry) : rbPc (afterRemove c) = false :=
  pc_afterRemove c rfl rfl rfl
@[simp] theorem rbPc_afterCmdFail (t : Thread) : rbPc (afterCmdFail t) = false :=
  pc_afterCmdFail t rfl rfl
@[simp] theorem rbPc_afterChecks (t : Thread) : rbPc (afterChecks t) = false :=
  pc_afterChecks t rfl rfl rfl
@[simp] theorem rbPc_afterPres (t : Thread) : rbPc (afterPres t) = false :=
  pc_afterPres t rfl rfl

/-- `onSubscribeErrorGen` after its `c.mu` section: hub removal and gate close -/
def errPc : Pc → Bool
  | .sErrHub | .sErrClose => true
  | _ => false
@[simp] theorem errPc_sReserve : errPc .sReserve = false := rfl
@[simp] theorem errPc_sOnSub : errPc .sOnSub = false := rfl
@[simp] theorem errPc_sReadGen : errPc .sReadGen = false := rfl
@[simp] theorem errPc_sCheck1 : errPc .sCheck1 = false := rfl
@[simp] theorem errPc_sHubAdd : errPc .sHubAdd = false := rfl
@[simp] theorem errPc_sCheck2 : errPc .sCheck2 = false := rfl
@[simp] theorem errPc_sPresAdd : errPc .sPresAdd = false := rfl
@[simp] theorem errPc_sReply : errPc .sReply = false := rfl
@[simp] theorem errPc_sCommit : errPc .sCommit = false := rfl
@[simp] theorem errPc_sRbHub : errPc .sRbHub = false := rfl
@[simp] theorem errPc_sRbPres : errPc .sRbPres = false := rfl
@[simp] theorem errPc_sRbClose : errPc .sRbClose = false := rfl
@[simp] theorem errPc_sCloseGate : errPc .sCloseGate = false := rfl
@[simp] theorem errPc_sDpf : errPc .sDpf = false := rfl
@[simp] theorem errPc_sPush : errPc .sPush = false := rfl
@[simp] theorem errPc_sJoin : errPc .sJoin = false := rfl
@[simp] theorem errPc_sDeferPres : errPc .sDeferPres = false := rfl
@[simp] theorem errPc_sErrDel : errPc .sErrDel = false := rfl
@[simp] theorem errPc_sErrHub : errPc .sErrHub = true := rfl
@[simp] theorem errPc_sErrClose : errPc .sErrClose = true := rfl
@[simp] theorem errPc_sErrOut : errPc .sErrOut = false := rfl
@[simp] theorem errPc_uStatus : errPc .uStatus = false := rfl
@[simp] theorem errPc_uSnap : errPc .uSnap = false := rfl
@[simp] theorem errPc_uWait : errPc .uWait = false := rfl
@[simp] theorem errPc_uTmoLog : errPc .uTmoLog = false := rfl
@[simp] theorem errPc_uRemove : errPc .uRemove = false := rfl
@[simp] theorem errPc_uPresRm : errPc .uPresRm = false := rfl
@[simp] theorem errPc_uLeave : errPc .uLeave = false := rfl
@[simp] theorem errPc_uHubRm : errPc .uHubRm = false := rfl
@[simp] theorem errPc_uOnUnsub : errPc .uOnUnsub = false := rfl
@[simp] theorem errPc_uOut : errPc .uOut = false := rfl
@[simp] theorem errPc_cEnter : errPc .cEnter = false := rfl
@[simp] theorem errPc_cRemoveClient : errPc .cRemoveClient = false := rfl
@[simp] theorem errPc_cDpf : errPc .cDpf = false := rfl
@[simp] theorem errPc_cWriter : errPc .cWriter = false := rfl
@[simp] theorem errPc_cTClose : errPc .cTClose = false := rfl
@[simp] theorem errPc_cLoop : errPc .cLoop = false := rfl
@[simp] theorem errPc_cOnDisc : errPc .cOnDisc = false := rfl
@[simp] theorem errPc_cExit : errPc .cExit = false := rfl
@[simp] theorem errPc_done : errPc .done = false := rfl
@[simp] theorem errPc_ite (c : Prop) [Decidable c] (a b : Pc) :
    errPc (if c then a else b) = if c then errPc a else errPc b := apply_ite errPc c a b
@[simp] theorem errPc_unsubRetPc (k : Kind) : errPc (unsubRetPc k) = false := by
  cases k <;> rfl
@[simp] theorem errPc_afterRemove (c : Entry) : errPc (afterRemove c) = false :=
  pc_afterRemove c rfl rfl rfl
@[simp] theorem errPc_afterCmdFail (t : Thread) : errPc (afterCmdFail t) = false :=
  pc_afterCmdFail t rfl rfl
@[simp] theorem errPc_afterChecks (t : Thread) : errPc (afterChecks t) = false :=
  pc_afterChecks t rfl rfl rfl
@[simp] theorem errPc_afterPres (t : Thread) : errPc (afterPres t) = false :=
  pc_afterPres t rfl rfl

/-- the attempt still answers for its reservation: `holdPc` of the spec plus the failure path `sDeferPres`, `sErrDel` -/
def holderPc : Pc → Bool
  | .sOnSub | .sReadGen | .sCheck1 | .sHubAdd | .sCheck2 | .sPresAdd | .sReply | .sCommit | .sDeferPres | .sErrDel => true
  | _ => false
@[simp] theorem holderPc_sReserve : holderPc .sReserve = false := rfl
@[simp] theorem holderPc_sOnSub : holderPc .sOnSub = true := rfl
@[simp] theorem holderPc_sReadGen : holderPc .sReadGen = true := rfl
@[simp] theorem holderPc_sCheck1 : holderPc .sCheck1 = true := rfl
@[simp] theorem holderPc_sHubAdd : holderPc .sHubAdd = true := rfl
@[simp] theorem holderPc_sCheck2 : holderPc .sCheck2 = true := rfl
@[simp] theorem holderPc_sPresAdd : holderPc .sPresAdd = true := rfl
@[simp] theorem holderPc_sReply : holderPc .sReply = true := rfl
@[simp] theorem holderPc_sCommit : holderPc .sCommit = true := rfl
@[simp] theorem holderPc_sRbHub : holderPc .sRbHub = false := rfl
@[simp] theorem holderPc_sRbPres : holderPc .sRbPres = false := rfl
@[simp] theorem holderPc_sRbClose : holderPc .sRbClose = false := rfl
@[simp] theorem holderPc_sCloseGate : holderPc .sCloseGate = false := rfl
@[simp] theorem holderPc_sDpf : holderPc .sDpf = false := rfl
@[simp] theorem holderPc_sPush : holderPc .sPush = false := rfl
@[simp] theorem holderPc_sJoin : holderPc .sJoin = false := rfl
@[simp] theorem holderPc_sDeferPres : holderPc .sDeferPres = true := rfl
@[simp] theorem holderPc_sErrDel : holderPc .sErrDel = true := rfl
@[simp] theorem holderPc_sErrHub : holderPc .sErrHub = false := rfl
@[simp] theorem holderPc_sErrClose : holderPc .sErrClose = false := rfl
@[simp] theorem holderPc_sErrOut : holderPc .sErrOut = false := rfl
@[simp] theorem holderPc_uStatus : holderPc .uStatus = false := rfl
@[simp] theorem holderPc_uSnap : holderPc .uSnap = false := rfl
@[simp] theorem holderPc_uWait : holderPc .uWait = false := rfl
@[simp] theorem holderPc_uTmoLog : holderPc .uTmoLog = false := rfl
@[simp] theorem holderPc_uRemove : holderPc .uRemove = false := rfl
@[simp] theorem holderPc_uPresRm : holderPc .uPresRm = false := rfl
@[simp] theorem holderPc_uLeave : holderPc .uLeave = false := rfl
@[simp] theorem holderPc_uHubRm : holderPc .uHubRm = false := rfl
@[simp] theorem holderPc_uOnUnsub : holderPc .uOnUnsub = false := rfl
@[simp] theorem holderPc_uOut : holderPc .uOut = false := rfl
@[simp] theorem holderPc_cEnter : holderPc .cEnter = false := rfl
@[simp] theorem holderPc_cRemoveClient : holderPc .cRemoveClient = false := rfl
@[simp] theorem holderPc_cDpf : holderPc .cDpf = false := rfl
@[simp] theorem holderPc_cWriter : holderPc .cWriter = false := rfl
@[simp] theorem holderPc_cTClose : holderPc .cTClose = false := rfl
@[simp] theorem holderPc_cLoop : holderPc .cLoop = false := rfl
@[simp] theorem holderPc_cOnDisc : holderPc .cOnDisc = false := rfl
@[simp] theorem holderPc_cExit : holderPc .cExit = false := rfl
@[simp] theorem holderPc_done : holderPc .done = false := rfl
@[simp] theorem holderPc_ite (c : Prop) [Decidable c] (a b : Pc) :
    holderPc (if c then a else b) = if c then holderPc a else holderPc b := apply_ite holderPc c a b
@[simp] theorem holderPc_unsubRetPc (k : Kind) : holderPc (unsubRetPc k) = false := by
  cases k <;> rfl
@[simp] theorem holderPc_afterRemove (c : Entry) : holderPc (afterRemove c) = false :=
  pc_afterRemove c rfl rfl rfl
@[simp] theorem holderPc_afterCmdFail (t : Thread) : holderPc (afterCmdFail t) = true :=
  pc_afterCmdFail t rfl rfl
@[simp] theorem holderPc_afterChecks (t : Thread) : holderPc (afterChecks t) = true :=
  pc_afterChecks t rfl rfl rfl
@[simp] theorem holderPc_afterPres (t : Thread) : holderPc (afterPres t) = true :=
  pc_afterPres t rfl rfl

/-- `unsubscribe` blocked on `subscribingCh` -/
def waitPc : Pc → Bool
  | .uWait => true
  | _ => false
@[simp] theorem waitPc_sReserve : waitPc .sReserve = false := rfl
@[simp] theorem waitPc_sOnSub : waitPc .sOnSub = false := rfl
@[simp] theorem waitPc_sReadGen : waitPc .sReadGen = false := rfl
@[simp] theorem waitPc_sCheck1 : waitPc .sCheck1 = false := rfl
@[simp] theorem waitPc_sHubAdd : waitPc .sHubAdd = false := rfl
@[simp] theorem waitPc_sCheck2 : waitPc .sCheck2 = false := rfl
@[simp] theorem waitPc_sPresAdd : waitPc .sPresAdd = false := rfl
@[simp] theorem waitPc_sReply : waitPc .sReply = false := rfl
@[simp] theorem waitPc_sCommit : waitPc .sCommit = false := rfl
@[simp] theorem waitPc_sRbHub : waitPc .sRbHub = false := rfl
@[simp] theorem waitPc_sRbPres : waitPc .sRbPres = false := rfl
@[simp] theorem waitPc_sRbClose : waitPc .sRbClose = false := rfl
@[simp] theorem waitPc_sCloseGate : waitPc .sCloseGate = false := rfl
@[simp] theorem waitPc_sDpf : waitPc .sDpf = false := rfl
@[simp] theorem waitPc_sPush : waitPc .sPush = false := rfl
@[simp] theorem waitPc_sJoin : waitPc .sJoin = false := rfl
@[simp] theorem waitPc_sDeferPres : waitPc .sDeferPres = false := rfl
@[simp] theorem waitPc_sErrDel : waitPc .sErrDel = false := rfl
@[simp] theorem waitPc_sErrHub : waitPc .sErrHub = false := rfl
@[simp] theorem waitPc_sErrClose : waitPc .sErrClose = false := rfl
@[simp] theorem waitPc_sErrOut : waitPc .sErrOut = false := rfl
@[simp] theorem waitPc_uStatus : waitPc .uStatus = false := rfl
@[simp] theorem waitPc_uSnap : waitPc .uSnap = false := rfl
@[simp] theorem waitPc_uWait : waitPc .uWait = true := rfl
@[simp] theorem waitPc_uTmoLog : waitPc .uTmoLog = false := rfl
@[simp] theorem waitPc_uRemove : waitPc .uRemove = false := rfl
@[simp] theorem waitPc_uPresRm : waitPc .uPresRm = false := rfl
@[simp] theorem waitPc_uLeave : waitPc .uLeave = false := rfl
@[simp] theorem waitPc_uHubRm : waitPc .uHubRm = false := rfl
@[simp] theorem waitPc_uOnUnsub : waitPc .uOnUnsub = false := rfl
@[simp] theorem waitPc_uOut : waitPc .uOut = false := rfl
@[simp] theorem waitPc_cEnter : waitPc .cEnter = false := rfl
@[simp] theorem waitPc_cRemoveClient : waitPc .cRemoveClient = false := rfl
@[simp] theorem waitPc_cDpf : waitPc .cDpf = false := rfl
@[simp] theorem waitPc_cWriter : waitPc .cWriter = false := rfl
@[simp] theorem waitPc_cTClose : waitPc .cTClose = false := rfl
@[simp] theorem waitPc_cLoop : waitPc .cLoop = false := rfl
@[simp] theorem waitPc_cOnDisc : waitPc .cOnDisc = false := rfl
@[simp] theorem waitPc_cExit : waitPc .cExit = false := rfl
@[simp] theorem waitPc_done : waitPc .done = false := rfl
@[simp] theorem waitPc_ite (c : Prop) [Decidable c] (a b : Pc) :
    waitPc (if c then a else b) = if c then waitPc a else waitPc b := apply_ite waitPc c a b
@[simp] theorem waitPc_unsubRetPc (k : Kind) : waitPc (unsubRetPc k) = false := by
  cases k <;> rfl
@[simp] theorem waitPc_afterRemove (c : Entry) : waitPc (afterRemove c) = false :=
  pc_afterRemove c rfl rfl rfl
@[simp] theorem waitPc_afterCmdFail (t : Thread) : waitPc (afterCmdFail t) = false :=
  pc_afterCmdFail t rfl rfl
@[simp] theorem waitPc_afterChecks (t : Thread) : waitPc (afterChecks t) = false :=
  pc_afterChecks t rfl rfl rfl
@[simp] theorem waitPc_afterPres (t : Thread) : waitPc (afterPres t) = false :=
  pc_afterPres t rfl rfl

/-- `unsubscribe` about to enter its generation-matched delete under `c.mu` -/
def removePc : Pc → Bool
  | .uRemove => true
  | _ => false
@[simp] theorem removePc_sReserve : removePc .sReserve = false := rfl
@[simp] theorem removePc_sOnSub : removePc .sOnSub = false := rfl
@[simp] theorem removePc_sReadGen : removePc .sReadGen = false := rfl
@[simp] theorem removePc_sCheck1 : removePc .sCheck1 = false := rfl
@[simp] theorem removePc_sHubAdd : removePc .sHubAdd = false := rfl
@[simp] theorem removePc_sCheck2 : removePc .sCheck2 = false := rfl
@[simp] theorem removePc_sPresAdd : removePc .sPresAdd = false := rfl
@[simp] theorem removePc_sReply : removePc .sReply = false := rfl
@[simp] theorem removePc_sCommit : removePc .sCommit = false := rfl
@[simp] theorem removePc_sRbHub : removePc .sRbHub = false := rfl
@[simp] theorem removePc_sRbPres : removePc .sRbPres = false := rfl
@[simp] theorem removePc_sRbClose : removePc .sRbClose = false := rfl
@[simp] theorem removePc_sCloseGate : removePc .sCloseGate = false := rfl
@[simp] theorem removePc_sDpf : removePc .sDpf = false := rfl
@[simp] theorem removePc_sPush : removePc .sPush = false := rfl
@[simp] theorem removePc_sJoin : removePc .sJoin = false := rfl
@[simp] theorem removePc_sDeferPres : removePc .sDeferPres = false := rfl
@[simp] theorem removePc_sErrDel : removePc .sErrDel = false := rfl
@[simp] theorem removePc_sErrHub : removePc .sErrHub = false := rfl
@[simp] theorem removePc_sErrClose : removePc .sErrClose = false := rfl
@[simp] theorem removePc_sErrOut : removePc .sErrOut = false := rfl
@[simp] theorem removePc_uStatus : removePc .uStatus = false := rfl
@[simp] theorem removePc_uSnap : removePc .uSnap = false := rfl
@[simp] theorem removePc_uWait : removePc .uWait = false := rfl
@[simp] theorem removePc_uTmoLog : removePc .uTmoLog = false := rfl
@[simp] theorem removePc_uRemove : removePc .uRemove = true := rfl
@[simp] theorem removePc_uPresRm : removePc .uPresRm = false := rfl
@[simp] theorem removePc_uLeave : removePc .uLeave = false := rfl
@[simp] theorem removePc_uHubRm : removePc .uHubRm = false := rfl
@[simp] theorem removePc_uOnUnsub : removePc .uOnUnsub = false := rfl
@[simp] theorem removePc_uOut : removePc .uOut = false := rfl
@[simp] theorem removePc_cEnter : removePc .cEnter = false := rfl
@[simp] theorem removePc_cRemoveClient : removePc .cRemoveClient = false := rfl
@[simp] theorem removePc_cDpf : removePc .cDpf = false := rfl
@[simp] theorem removePc_cWriter : removePc .cWriter = false := rfl
@[simp] theorem removePc_cTClose : removePc .cTClose = false := rfl
@[simp] theorem removePc_cLoop : removePc .cLoop = false := rfl
@[simp] theorem removePc_cOnDisc : removePc .cOnDisc = false := rfl
@[simp] theorem removePc_cExit : removePc .cExit = false := rfl
@[simp] theorem removePc_done : removePc .done = false := rfl
@[simp] theorem removePc_ite (c : Prop) [Decidable c] (a b : Pc) :
    removePc (if c then a else b) = if c then removePc a else removePc b := apply_ite removePc c a b
@[simp] theorem removePc_unsubRetPc (k : Kind) : removePc (unsubRetPc k) = false := by
  cases k <;> rfl
@[simp] theorem removePc_afterRemove (c : Entry) : removePc (afterRemove c) = false :=
  pc_afterRemove c rfl rfl rfl
@[simp] theorem removePc_afterCmdFail (t : Thread) : removePc (afterCmdFail t) = false :=
  pc_afterCmdFail t rfl rfl
@[simp] theorem removePc_afterChecks (t : Thread) : removePc (afterChecks t) = false :=
  pc_afterChecks t rfl rfl rfl
@[simp] theorem removePc_afterPres (t : Thread) : removePc (afterPres t) = false :=
  pc_afterPres t rfl rfl

/-- `close(subscribingCh)` after a successful commit -/
def closeGatePc : Pc → Bool
  | .sCloseGate => true
  | _ => false
@[simp] theorem closeGatePc_sReserve : closeGatePc .sReserve = false := rfl
@[simp] theorem closeGatePc_sOnSub : closeGatePc .sOnSub = false := rfl
@[simp] theorem closeGatePc_sReadGen : closeGatePc .sReadGen = false := rfl
@[simp] theorem closeGatePc_sCheck1 : closeGatePc .sCheck1 = false := rfl
@[simp] theorem closeGatePc_sHubAdd : closeGatePc .sHubAdd = false := rfl
@[simp] theorem closeGatePc_sCheck2 : closeGatePc .sCheck2 = false := rfl
@[simp] theorem closeGatePc_sPresAdd : closeGatePc .sPresAdd = false := rfl
@[simp] theorem closeGatePc_sReply : closeGatePc .sReply = false := rfl
@[simp] theorem closeGatePc_sCommit : closeGatePc .sCommit = false := rfl
@[simp] theorem closeGatePc_sRbHub : closeGatePc .sRbHub = false := rfl
@[simp] theorem closeGatePc_sRbPres : closeGatePc .sRbPres = false := rfl
@[simp] theorem closeGatePc_sRbClose : closeGatePc .sRbClose = false := rfl
@[simp] theorem closeGatePc_sCloseGate : closeGatePc .sCloseGate = true := rfl
@[simp] theorem closeGatePc_sDpf : closeGatePc .sDpf = false := rfl
@[simp] theorem closeGatePc_sPush : closeGatePc .sPush = false := rfl
@[simp] theorem closeGatePc_sJoin : closeGatePc .sJoin = false := rfl
@[simp] theorem closeGatePc_sDeferPres : closeGatePc .sDeferPres = false := rfl
@[simp] theorem closeGatePc_sErrDel : closeGatePc .sErrDel = false := rfl
@[simp] theorem closeGatePc_sErrHub : closeGatePc .sErrHub = false := rfl
@[simp] theorem closeGatePc_sErrClose : closeGatePc .sErrClose = false := rfl
@[simp] theorem closeGatePc_sErrOut : closeGatePc .sErrOut = false := rfl
@[simp] theorem closeGatePc_uStatus : closeGatePc .uStatus = false := rfl
@[simp] theorem closeGatePc_uSnap : closeGatePc .uSnap = false := rfl
@[simp] theorem closeGatePc_uWait : closeGatePc .uWait = false := rfl
@[simp] theorem closeGatePc_uTmoLog : closeGatePc .uTmoLog = false := rfl
@[simp] theorem closeGatePc_uRemove : closeGatePc .uRemove = false := rfl
@[simp] theorem closeGatePc_uPresRm : closeGatePc .uPresRm = false := rfl
@[simp] theorem closeGatePc_uLeave : closeGatePc .uLeave = false := rfl
@[simp] theorem closeGatePc_uHubRm : closeGatePc .uHubRm = false := rfl
@[simp] theorem closeGatePc_uOnUnsub : closeGatePc .uOnUnsub = false := rfl
@[simp] theorem closeGatePc_uOut : closeGatePc .uOut = false := rfl
@[simp] theorem closeGatePc_cEnter : closeGatePc .cEnter = false := rfl
@[simp] theorem closeGatePc_cRemoveClient : closeGatePc .cRemoveClient = false := rfl
@[simp] theorem closeGatePc_cDpf : closeGatePc .cDpf = false := rfl
@[simp] theorem closeGatePc_cWriter : closeGatePc .cWriter = false := rfl
@[simp] theorem closeGatePc_cTClose : closeGatePc .cTClose = false := rfl
@[simp] theorem closeGatePc_cLoop : closeGatePc .cLoop = false := rfl
@[simp] theorem closeGatePc_cOnDisc : closeGatePc .cOnDisc = false := rfl
@[simp] theorem closeGatePc_cExit : closeGatePc .cExit = false := rfl
@[simp] theorem closeGatePc_done : closeGatePc .done = false := rfl
@[simp] theorem closeGatePc_ite (c : Prop) [Decidable c] (a b : Pc) :
    closeGatePc (if c then a else b) = if c then closeGatePc a else closeGatePc b := apply_ite closeGatePc c a b
@[simp] theorem closeGatePc_unsubRetPc (k : Kind) : closeGatePc (unsubRetPc k) = false := by
  cases k <;> rfl
@[simp] theorem closeGatePc_afterRemove (c : Entry) : closeGatePc (afterRemove c) = false :=
  pc_afterRemove c rfl rfl rfl
@[simp] theorem closeGatePc_afterCmdFail (t : Thread) : closeGatePc (afterCmdFail t) = false :=
  pc_afterCmdFail t rfl rfl
@[simp] theorem closeGatePc_afterChecks (t : Thread) : closeGatePc (afterChecks t) = false :=
  pc_afterChecks t rfl rfl rfl
@[simp] theorem closeGatePc_afterPres (t : Thread) : closeGatePc (afterPres t) = false :=
  pc_afterPres t rfl rfl

/-- `unsubscribe` after it deleted the `c.channels` entry: presence removal, leave, hub removal, `OnUnsubscribe` -/
def postDelPc : Pc → Bool
  | .uPresRm | .uLeave | .uHubRm | .uOnUnsub => true
  | _ => false
@[simp] theorem postDelPc_sReserve : postDelPc .sReserve = false := rfl
@[simp] theorem postDelPc_sOnSub : postDelPc .sOnSub = false := rfl
@[simp] theorem postDelPc_sReadGen : postDelPc .sReadGen = false := rfl
@[simp] theorem postDelPc_sCheck1 : postDelPc .sCheck1 = false := rfl
@[simp] theorem postDelPc_sHubAdd : postDelPc .sHubAdd = false := rfl
@[simp] theorem postDelPc_sCheck2 : postDelPc .sCheck2 = false := rfl
@[simp] theorem postDelPc_sPresAdd : postDelPc .sPresAdd = false := rfl
@[simp] theorem postDelPc_sReply : postDelPc .sReply = false := rfl
@[simp] theorem postDelPc_sCommit : postDelPc .sCommit = false := rfl
@[simp] theorem postDelPc_sRbHub : postDelPc .sRbHub = false := rfl
@[simp] theorem postDelPc_sRbPres : postDelPc .sRbPres = false := rfl
@[simp] theorem postDelPc_sRbClose : postDelPc .sRbClose = false := rfl
@[simp] theorem postDelPc_sCloseGate : postDelPc .sCloseGate = false := rfl
@[simp] theorem postDelPc_sDpf : postDelPc .sDpf = false := rfl
@[simp] theorem postDelPc_sPush : postDelPc .sPush = false := rfl
@[simp] theorem postDelPc_sJoin : postDelPc .sJoin = false := rfl
@[simp] theorem postDelPc_sDeferPres : postDelPc .sDeferPres = false := rfl
@[simp] theorem postDelPc_sErrDel : postDelPc .sErrDel = false := rfl
@[simp] theorem postDelPc_sErrHub : postDelPc .sErrHub = false := rfl
@[simp] theorem postDelPc_sErrClose : postDelPc .sErrClose = false := rfl
@[simp] theorem postDelPc_sErrOut : postDelPc .sErrOut = false := rfl
@[simp] theorem postDelPc_uStatus : postDelPc .uStatus = false := rfl
@[simp] theorem postDelPc_uSnap : postDelPc .uSnap = false := rfl
@[simp] theorem postDelPc_uWait : postDelPc .uWait = false := rfl
@[simp] theorem postDelPc_uTmoLog : postDelPc .uTmoLog = false := rfl
@[simp] theorem postDelPc_uRemove : postDelPc .uRemove = false := rfl
@[simp] theorem postDelPc_uPresRm : postDelPc .uPresRm = true := rfl
@[simp] theorem postDelPc_uLeave : postDelPc .uLeave = true := rfl
@[simp] theorem postDelPc_uHubRm : postDelPc .uHubRm = true := rfl
@[simp] theorem postDelPc_uOnUnsub : postDelPc .uOnUnsub = true := rfl
@[simp] theorem postDelPc_uOut : postDelPc .uOut = false := rfl
@[simp] theorem postDelPc_cEnter : postDelPc .cEnter = false := rfl
@[simp] theorem postDelPc_cRemoveClient : postDelPc .cRemoveClient = false := rfl
@[simp] theorem postDelPc_cDpf : postDelPc .cDpf = false := rfl
@[simp] theorem postDelPc_cWriter : postDelPc .cWriter = false := rfl
@[simp] theorem postDelPc_cTClose : postDelPc .cTClose = false := rfl
@[simp] theorem postDelPc_cLoop : postDelPc .cLoop = false := rfl
@[simp] theorem postDelPc_cOnDisc : postDelPc .cOnDisc = false := rfl
@[simp] theorem postDelPc_cExit : postDelPc .cExit = false := rfl
@[simp] theorem postDelPc_done : postDelPc .done = false := rfl
@[simp] theorem postDelPc_ite (c : Prop) [Decidable c] (a b : Pc) :
    postDelPc (if c then a else b) = if c then postDelPc a else postDelPc b := apply_ite postDelPc c a b
@[simp] theorem postDelPc_unsubRetPc (k : Kind) : postDelPc (unsubRetPc k) = false := by
  cases k <;> rfl
@[simp] theorem postDelPc_afterRemove (c : Entry) : postDelPc (afterRemove c) = true :=
  pc_afterRemove c rfl rfl rfl
@[simp] theorem postDelPc_afterCmdFail (t : Thread) : postDelPc (afterCmdFail t) = false :=
  pc_afterCmdFail t rfl rfl
@[simp] theorem postDelPc_afterChecks (t : Thread) : postDelPc (afterChecks t) = false :=
  pc_afterChecks t rfl rfl rfl
@[simp] theorem postDelPc_afterPres (t : Thread) : postDelPc (afterPres t) = false :=
  pc_afterPres t rfl rfl

/-- `unsubscribe` after its delete and not past `removeSubscription` -/
def owesHubPc : Pc → Bool
  | .uPresRm | .uLeave | .uHubRm => true
  | _ => false
@[simp] theorem owesHubPc_sReserve : owesHubPc .sReserve = false := rfl
@[simp] theorem owesHubPc_sOnSub : owesHubPc .sOnSub = false := rfl
@[simp] theorem owesHubPc_sReadGen : owesHubPc .sReadGen = false := rfl
@[simp] theorem owesHubPc_sCheck1 : owesHubPc .sCheck1 = false := rfl
@[simp] theorem owesHubPc_sHubAdd : owesHubPc .sHubAdd = false := rfl
@[simp] theorem owesHubPc_sCheck2 : owesHubPc .sCheck2 = false := rfl
@[simp] theorem owesHubPc_sPresAdd : owesHubPc .sPresAdd = false := rfl
@[simp] theorem owesHubPc_sReply : owesHubPc .sReply = false := rfl
@[simp] theorem owesHubPc_sCommit : owesHubPc .sCommit = false := rfl
@[simp] theorem owesHubPc_sRbHub : owesHubPc .sRbHub = false := rfl
@[simp] theorem owesHubPc_sRbPres : owesHubPc .sRbPres = false := rfl
@[simp] theorem owesHubPc_sRbClose : owesHubPc .sRbClose = false := rfl
@[simp] theorem owesHubPc_sCloseGate : owesHubPc .sCloseGate = false := rfl
@[simp] theorem owesHubPc_sDpf : owesHubPc .sDpf = false := rfl
@[simp] theorem owesHubPc_sPush : owesHubPc .sPush = false := rfl
@[simp] theorem owesHubPc_sJoin : owesHubPc .sJoin = false := rfl
@[simp] theorem owesHubPc_sDeferPres : owesHubPc .sDeferPres = false := rfl
@[simp] theorem owesHubPc_sErrDel : owesHubPc .sErrDel = false := rfl
@[simp] theorem owesHubPc_sErrHub : owesHubPc .sErrHub = false := rfl
@[simp] theorem owesHubPc_sErrClose : owesHubPc .sErrClose = false := rfl
@[simp] theorem owesHubPc_sErrOut : owesHubPc .sErrOut = false := rfl
@[simp] theorem owesHubPc_uStatus : owesHubPc .uStatus = false := rfl
@[simp] theorem owesHubPc_uSnap : owesHubPc .uSnap = false := rfl
@[simp] theorem owesHubPc_uWait : owesHubPc .uWait = false := rfl
@[simp] theorem owesHubPc_uTmoLog : owesHubPc .uTmoLog = false := rfl
@[simp] theorem owesHubPc_uRemove : owesHubPc .uRemove = false := rfl
@[simp] theorem owesHubPc_uPresRm : owesHubPc .uPresRm = true := rfl
@[simp] theorem owesHubPc_uLeave : owesHubPc .uLeave = true := rfl
@[simp] theorem owesHubPc_uHubRm : owesHubPc .uHubRm = true := rfl
@[simp] theorem owesHubPc_uOnUnsub : owesHubPc .uOnUnsub = false := rfl
@[simp] theorem owesHubPc_uOut : owesHubPc .uOut = false := rfl
@[simp] theorem owesHubPc_cEnter : owesHubPc .cEnter = false := rfl
@[simp] theorem owesHubPc_cRemoveClient : owesHubPc .cRemoveClient = false := rfl
@[simp] theorem owesHubPc_cDpf : owesHubPc .cDpf = false := rfl
@[simp] theorem owesHubPc_cWriter : owesHubPc .cWriter = false := rfl
@[simp] theorem owesHubPc_cTClose : owesHubPc .cTClose = false := rfl
@[simp] theorem owesHubPc_cLoop : owesHubPc .cLoop = false := rfl
@[simp] theorem owesHubPc_cOnDisc : owesHubPc .cOnDisc = false := rfl
@[simp] theorem owesHubPc_cExit : owesHubPc .cExit = false := rfl
@[simp] theorem owesHubPc_done : owesHubPc .done = false := rfl
@[simp] theorem owesHubPc_ite (c : Prop) [Decidable c] (a b : Pc) :
    owesHubPc (if c then a else b) = if c then owesHubPc a else owesHubPc b := apply_ite owesHubPc c a b
@[simp] theorem owesHubPc_unsubRetPc (k : Kind) : owesHubPc (unsubRetPc k) = false := by
  cases k <;> rfl
@[simp] theorem owesHubPc_afterRemove (c : Entry) : owesHubPc (afterRemove c) = true :=
  pc_afterRemove c rfl rfl rfl
@[simp] theorem owesHubPc_afterCmdFail (t : Thread) : owesHubPc (afterCmdFail t) = false :=
  pc_afterCmdFail t rfl rfl
@[simp] theorem owesHubPc_afterChecks (t : Thread) : owesHubPc (afterChecks t) = false :=
  pc_afterChecks t rfl rfl rfl
@[simp] theorem owesHubPc_afterPres (t : Thread) : owesHubPc (afterPres t) = false :=
  pc_afterPres t rfl rfl

/-- `onSubscribeErrorGen` right before `removeSubscription` -/
def errHubPc : Pc → Bool
  | .sErrHub => true
  | _ => false
@[simp] theorem errHubPc_sReserve : errHubPc .sReserve = false := rfl
@[simp] theorem errHubPc_sOnSub : errHubPc .sOnSub = false := rfl
@[simp] theorem errHubPc_sReadGen : errHubPc .sReadGen = false := rfl
@[simp] theorem errHubPc_sCheck1 : errHubPc .sCheck1 = false := rfl
@[simp] theorem errHubPc_sHubAdd : errHubPc .sHubAdd = false := rfl
@[simp] theorem errHubPc_sCheck2 : errHubPc .sCheck2 = false := rfl
@[simp] theorem errHubPc_sPresAdd : errHubPc .sPresAdd = false := rfl
@[simp] theorem errHubPc_sReply : errHubPc .sReply = false := rfl
@[simp] theorem errHubPc_sCommit : errHubPc .sCommit = false := rfl
@[simp] theorem errHubPc_sRbHub : errHubPc .sRbHub = false := rfl
@[simp] theorem errHubPc_sRbPres : errHubPc .sRbPres = false := rfl
@[simp] theorem errHubPc_sRbClose : errHubPc .sRbClose = false := rfl
@[simp] theorem errHubPc_sCloseGate : errHubPc .sCloseGate = false := rfl
@[simp] theorem errHubPc_sDpf : errHubPc .sDpf = false := rfl
@[simp] theorem errHubPc_sPush : errHubPc .sPush = false := rfl
@[simp] theorem errHubPc_sJoin : errHubPc .sJoin = false := rfl
@[simp] theorem errHubPc_sDeferPres : errHubPc .sDeferPres = false := rfl
@[simp] theorem errHubPc_sErrDel : errHubPc .sErrDel = false := rfl
@[simp] theorem errHubPc_sErrHub : errHubPc .sErrHub = true := rfl
@[simp] theorem errHubPc_sErrClose : errHubPc .sErrClose = false := rfl
@[simp] theorem errHubPc_sErrOut : errHubPc .sErrOut = false := rfl
@[simp] theorem errHubPc_uStatus : errHubPc .uStatus = false := rfl
@[simp] theorem errHubPc_uSnap : errHubPc .uSnap = false := rfl
@[simp] theorem errHubPc_uWait : errHubPc .uWait = false := rfl
@[simp] theorem errHubPc_uTmoLog : errHubPc .uTmoLog = false := rfl
@[simp] theorem errHubPc_uRemove : errHubPc .uRemove = false := rfl
@[simp] theorem errHubPc_uPresRm : errHubPc .uPresRm = false := rfl
@[simp] theorem errHubPc_uLeave : errHubPc .uLeave = false := rfl
@[simp] theorem errHubPc_uHubRm : errHubPc .uHubRm = false := rfl
@[simp] theorem errHubPc_uOnUnsub : errHubPc .uOnUnsub = false := rfl
@[simp] theorem errHubPc_uOut : errHubPc .uOut = false := rfl
@[simp] theorem errHubPc_cEnter : errHubPc .cEnter = false := rfl
@[simp] theorem errHubPc_cRemoveClient : errHubPc .cRemoveClient = false := rfl
@[simp] theorem errHubPc_cDpf : errHubPc .cDpf = false := rfl
@[simp] theorem errHubPc_cWriter : errHubPc .cWriter = false := rfl
@[simp] theorem errHubPc_cTClose : errHubPc .cTClose = false := rfl
@[simp] theorem errHubPc_cLoop : errHubPc .cLoop = false := rfl
@[simp] theorem errHubPc_cOnDisc : errHubPc .cOnDisc = false := rfl
@[simp] theorem errHubPc_cExit : errHubPc .cExit = false := rfl
@[simp] theorem errHubPc_done : errHubPc .done = false := rfl
@[simp] theorem errHubPc_ite (c : Prop) [Decidable c] (a b : Pc) :
    errHubPc (if c then a else b) = if c then errHubPc a else errHubPc b := apply_ite errHubPc c a b
@[simp] theorem errHubPc_unsubRetPc (k : Kind) : errHubPc (unsubRetPc k) = false := by
  cases k <;> rfl
@[simp] theorem errHubPc_afterRemove (c : Entry) : errHubPc (afterRemove c) = false :=
  pc_afterRemove c rfl rfl rfl
@[simp] theorem errHubPc_afterCmdFail (t : Thread) : errHubPc (afterCmdFail t) = false :=
  pc_afterCmdFail t rfl rfl
@[simp] theorem errHubPc_afterChecks (t : Thread) : errHubPc (afterChecks t) = false :=
  pc_afterChecks t rfl rfl rfl
@[simp] theorem errHubPc_afterPres (t : Thread) : errHubPc (afterPres t) = false :=
  pc_afterPres t rfl rfl

/-- the commit rollback right before `removeSubscription` -/
def rbHubPc : Pc → Bool
  | .sRbHub => true
  | _ => false
@[simp] theorem rbHubPc_sReserve : rbHubPc .sReserve = false := rfl
@[simp] theorem rbHubPc_sOnSub : rbHubPc .sOnSub = false := rfl
@[simp] theorem rbHubPc_sReadGen : rbHubPc .sReadGen = false := rfl
@[simp] theorem rbHubPc_sCheck1 : rbHubPc .sCheck1 = false := rfl
@[simp] theorem rbHubPc_sHubAdd : rbHubPc .sHubAdd = false := rfl
@[simp] theorem rbHubPc_sCheck2 : rbHubPc .sCheck2 = false := rfl
@[simp] theorem rbHubPc_sPresAdd : rbHubPc .sPresAdd = false := rfl
@[simp] theorem rbHubPc_sReply : rbHubPc .sReply = false := rfl
@[simp] theorem rbHubPc_sCommit : rbHubPc .sCommit = false := rfl
@[simp] theorem rbHubPc_sRbHub : rbHubPc .sRbHub = true := rfl
@[simp] theorem rbHubPc_sRbPres : rbHubPc .sRbPres = false := rfl
@[simp] theorem rbHubPc_sRbClose : rbHubPc .sRbClose = false := rfl
@[simp] theorem rbHubPc_sCloseGate : rbHubPc .sCloseGate = false := rfl
@[simp] theorem rbHubPc_sDpf : rbHubPc .sDpf = false := rfl
@[simp] theorem rbHubPc_sPush : rbHubPc .sPush = false := rfl
@[simp] theorem rbHubPc_sJoin : rbHubPc .sJoin = false := rfl
@[simp] theorem rbHubPc_sDeferPres : rbHubPc .sDeferPres = false := rfl
@[simp] theorem rbHubPc_sErrDel : rbHubPc .sErrDel = false := rfl
@[simp] theorem rbHubPc_sErrHub : rbHubPc .sErrHub = false := rfl
@[simp] theorem rbHubPc_sErrClose : rbHubPc .sErrClose = false := rfl
@[simp] theorem rbHubPc_sErrOut : rbHubPc .sErrOut = false := rfl
@[simp] theorem rbHubPc_uStatus : rbHubPc .uStatus = false := rfl
@[simp] theorem rbHubPc_uSnap : rbHubPc .uSnap = false := rfl
@[simp] theorem rbHubPc_uWait : rbHubPc .uWait = false := rfl
@[simp] theorem rbHubPc_uTmoLog : rbHubPc .uTmoLog = false := rfl
@[simp] theorem rbHubPc_uRemove : rbHubPc .uRemove = false := rfl
@[simp] theorem rbHubPc_uPresRm : rbHubPc .uPresRm = false := rfl
@[simp] theorem rbHubPc_uLeave : rbHubPc .uLeave = false := rfl
@[simp] theorem rbHubPc_uHubRm : rbHubPc .uHubRm = false := rfl
@[simp] theorem rbHubPc_uOnUnsub : rbHubPc .uOnUnsub = false := rfl
@[simp] theorem rbHubPc_uOut : rbHubPc .uOut = false := rfl
@[simp] theorem rbHubPc_cEnter : rbHubPc .cEnter = false := rfl
@[simp] theorem rbHubPc_cRemoveClient : rbHubPc .cRemoveClient = false := rfl
@[simp] theorem rbHubPc_cDpf : rbHubPc .cDpf = false := rfl
@[simp] theorem rbHubPc_cWriter : rbHubPc .cWriter = false := rfl
@[simp] theorem rbHubPc_cTClose : rbHubPc .cTClose = false := rfl
@[simp] theorem rbHubPc_cLoop : rbHubPc .cLoop = false := rfl
@[simp] theorem rbHubPc_cOnDisc : rbHubPc .cOnDisc = false := rfl
@[simp] theorem rbHubPc_cExit : rbHubPc .cExit = false := rfl
@[simp] theorem rbHubPc_done : rbHubPc .done = false := rfl
@[simp] theorem rbHubPc_ite (c : Prop) [Decidable c] (a b : Pc) :
    rbHubPc (if c then a else b) = if c then rbHubPc a else rbHubPc b := apply_ite rbHubPc c a b
@[simp] theorem rbHubPc_unsubRetPc (k : Kind) : rbHubPc (unsubRetPc k) = false := by
  cases k <;> rfl
@[simp] theorem rbHubPc_afterRemove (c : Entry) : rbHubPc (afterRemove c) = false :=
  pc_afterRemove c rfl rfl rfl
@[simp] theorem rbHubPc_afterCmdFail (t : Thread) : rbHubPc (afterCmdFail t) = false :=
  pc_afterCmdFail t rfl rfl
@[simp] theorem rbHubPc_afterChecks (t : Thread) : rbHubPc (afterChecks t) = false :=
  pc_afterChecks t rfl rfl rfl
@[simp] theorem rbHubPc_afterPres (t : Thread) : rbHubPc (afterPres t) = false :=
  pc_afterPres t rfl rfl

/-- the failure path of `subscribeCmd` before `onSubscribeErrorGen` has taken `c.mu` -/
def failPc : Pc → Bool
  | .sDeferPres | .sErrDel => true
  | _ => false
@[simp] theorem failPc_sReserve : failPc .sReserve = false := rfl
@[simp] theorem failPc_sOnSub : failPc .sOnSub = false := rfl
@[simp] theorem failPc_sReadGen : failPc .sReadGen = false := rfl
@[simp] theorem failPc_sCheck1 : failPc .sCheck1 = false := rfl
@[simp] theorem failPc_sHubAdd : failPc .sHubAdd = false := rfl
@[simp] theorem failPc_sCheck2 : failPc .sCheck2 = false := rfl
@[simp] theorem failPc_sPresAdd : failPc .sPresAdd = false := rfl
@[simp] theorem failPc_sReply : failPc .sReply = false := rfl
@[simp] theorem failPc_sCommit : failPc .sCommit = false := rfl
@[simp] theorem failPc_sRbHub : failPc .sRbHub = false := rfl
@[simp] theorem failPc_sRbPres : failPc .sRbPres = false := rfl
@[simp] theorem failPc_sRbClose : failPc .sRbClose = false := rfl
@[simp] theorem failPc_sCloseGate : failPc .sCloseGate = false := rfl
@[simp] theorem failPc_sDpf : failPc .sDpf = false := rfl
@[simp] theorem failPc_sPush : failPc .sPush = false := rfl
@[simp] theorem failPc_sJoin : failPc .sJoin = false := rfl
@[simp] theorem failPc_sDeferPres : failPc .sDeferPres = true := rfl
@[simp] theorem failPc_sErrDel : failPc .sErrDel = true := rfl
@[simp] theorem failPc_sErrHub : failPc .sErrHub = false := rfl
@[simp] theorem failPc_sErrClose : failPc .sErrClose = false := rfl
@[simp] theorem failPc_sErrOut : failPc .sErrOut = false := rfl
@[simp] theorem failPc_uStatus : failPc .uStatus = false := rfl
@[simp] theorem failPc_uSnap : failPc .uSnap = false := rfl
@[simp] theorem failPc_uWait : failPc .uWait = false := rfl
@[simp] theorem failPc_uTmoLog : failPc .uTmoLog = false := rfl
@[simp] theorem failPc_uRemove : failPc .uRemove = false := rfl
@[simp] theorem failPc_uPresRm : failPc .uPresRm = false := rfl
@[simp] theorem failPc_uLeave : failPc .uLeave = false := rfl
@[simp] theorem failPc_uHubRm : failPc .uHubRm = false := rfl
@[simp] theorem failPc_uOnUnsub : failPc .uOnUnsub = false := rfl
@[simp] theorem failPc_uOut : failPc .uOut = false := rfl
@[simp] theorem failPc_cEnter : failPc .cEnter = false := rfl
@[simp] theorem failPc_cRemoveClient : failPc .cRemoveClient = false := rfl
@[simp] theorem failPc_cDpf : failPc .cDpf = false := rfl
@[simp] theorem failPc_cWriter : failPc .cWriter = false := rfl
@[simp] theorem failPc_cTClose : failPc .cTClose = false := rfl
@[simp] theorem failPc_cLoop : failPc .cLoop = false := rfl
@[simp] theorem failPc_cOnDisc : failPc .cOnDisc = false := rfl
@[simp] theorem failPc_cExit : failPc .cExit = false := rfl
@[simp] theorem failPc_done : failPc .done = false := rfl
@[simp] theorem failPc_ite (c : Prop) [Decidable c] (a b : Pc) :
    failPc (if c then a else b) = if c then failPc a else failPc b := apply_ite failPc c a b
@[simp] theorem failPc_unsubRetPc (k : Kind) : failPc (unsubRetPc k) = false := by
  cases k <;> rfl
@[simp] theorem failPc_afterRemove (c : Entry) : failPc (afterRemove c) = false :=
  pc_afterRemove c rfl rfl rfl
@[simp] theorem failPc_afterCmdFail (t : Thread) : failPc (afterCmdFail t) = true :=
  pc_afterCmdFail t rfl rfl
@[simp] theorem failPc_afterChecks (t : Thread) : failPc (afterChecks t) = false :=
  pc_afterChecks t rfl rfl rfl
@[simp] theorem failPc_afterPres (t : Thread) : failPc (afterPres t) = false :=
  pc_afterPres t rfl rfl

/-- `subscribeCmd` after `addSubscription` and up to the commit: the hub entry is in place -/
def hubHeldPc : Pc → Bool
  | .sCheck2 | .sPresAdd | .sReply | .sCommit => true
  | _ => false
@[simp] theorem hubHeldPc_sReserve : hubHeldPc .sReserve = false := rfl
@[simp] theorem hubHeldPc_sOnSub : hubHeldPc .sOnSub = false := rfl
@[simp] theorem hubHeldPc_sReadGen : hubHeldPc .sReadGen = false := rfl
@[simp] theorem hubHeldPc_sCheck1 : hubHeldPc .sCheck1 = false := rfl
@[simp] theorem hubHeldPc_sHubAdd : hubHeldPc .sHubAdd = false := rfl
@[simp] theorem hubHeldPc_sCheck2 : hubHeldPc .sCheck2 = true := rfl
@[simp] theorem hubHeldPc_sPresAdd : hubHeldPc .sPresAdd = true := rfl
@[simp] theorem hubHeldPc_sReply : hubHeldPc .sReply = true := rfl
@[simp] theorem hubHeldPc_sCommit : hubHeldPc .sCommit = true := rfl
@[simp] theorem hubHeldPc_sRbHub : hubHeldPc .sRbHub = false := rfl
@[simp] theorem hubHeldPc_sRbPres : hubHeldPc .sRbPres = false := rfl
@[simp] theorem hubHeldPc_sRbClose : hubHeldPc .sRbClose = false := rfl
@[simp] theorem hubHeldPc_sCloseGate : hubHeldPc .sCloseGate = false := rfl
@[simp] theorem hubHeldPc_sDpf : hubHeldPc .sDpf = false := rfl
@[simp] theorem hubHeldPc_sPush : hubHeldPc .sPush = false := rfl
@[simp] theorem hubHeldPc_sJoin : hubHeldPc .sJoin = false := rfl
@[simp] theorem hubHeldPc_sDeferPres : hubHeldPc .sDeferPres = false := rfl
@[simp] theorem hubHeldPc_sErrDel : hubHeldPc .sErrDel = false := rfl
@[simp] theorem hubHeldPc_sErrHub : hubHeldPc .sErrHub = false := rfl
@[simp] theorem hubHeldPc_sErrClose : hubHeldPc .sErrClose = false := rfl
@[simp] theorem hubHeldPc_sErrOut : hubHeldPc .sErrOut = false := rfl
@[simp] theorem hubHeldPc_uStatus : hubHeldPc .uStatus = false := rfl
@[simp] theorem hubHeldPc_uSnap : hubHeldPc .uSnap = false := rfl
@[simp] theorem hubHeldPc_uWait : hubHeldPc .uWait = false := rfl
@[simp] theorem hubHeldPc_uTmoLog : hubHeldPc .uTmoLog = false := rfl
@[simp] theorem hubHeldPc_uRemove : hubHeldPc .uRemove = false := rfl
@[simp] theorem hubHeldPc_uPresRm : hubHeldPc .uPresRm = false := rfl
@[simp] theorem hubHeldPc_uLeave : hubHeldPc .uLeave = false := rfl
@[simp] theorem hubHeldPc_uHubRm : hubHeldPc .uHubRm = false := rfl
@[simp] theorem hubHeldPc_uOnUnsub : hubHeldPc .uOnUnsub = false := rfl
@[simp] theorem hubHeldPc_uOut : hubHeldPc .uOut = false := rfl
@[simp] theorem hubHeldPc_cEnter : hubHeldPc .cEnter = false := rfl
@[simp] theorem hubHeldPc_cRemoveClient : hubHeldPc .cRemoveClient = false := rfl
@[simp] theorem hubHeldPc_cDpf : hubHeldPc .cDpf = false := rfl
@[simp] theorem hubHeldPc_cWriter : hubHeldPc .cWriter = false := rfl
@[simp] theorem hubHeldPc_cTClose : hubHeldPc .cTClose = false := rfl
@[simp] theorem hubHeldPc_cLoop : hubHeldPc .cLoop = false := rfl
@[simp] theorem hubHeldPc_cOnDisc : hubHeldPc .cOnDisc = false := rfl
@[simp] theorem hubHeldPc_cExit : hubHeldPc .cExit = false := rfl
@[simp] theorem hubHeldPc_done : hubHeldPc .done = false := rfl
@[simp] theorem hubHeldPc_ite (c : Prop) [Decidable c] (a b : Pc) :
    hubHeldPc (if c then a else b) = if c then hubHeldPc a else hubHeldPc b := apply_ite hubHeldPc c a b
@[simp] theorem hubHeldPc_unsubRetPc (k : Kind) : hubHeldPc (unsubRetPc k) = false := by
  cases k <;> rfl
@[simp] theorem hubHeldPc_afterRemove (c : Entry) : hubHeldPc (afterRemove c) = false :=
  pc_afterRemove c rfl rfl rfl
@[simp] theorem hubHeldPc_afterCmdFail (t : Thread) : hubHeldPc (afterCmdFail t) = false :=
  pc_afterCmdFail t rfl rfl
@[simp] theorem hubHeldPc_afterChecks (t : Thread) : hubHeldPc (afterChecks t) = true :=
  pc_afterChecks t rfl rfl rfl
@[simp] theorem hubHeldPc_afterPres (t : Thread) : hubHeldPc (afterPres t) = true :=
  pc_afterPres t rfl rfl

/-- a subscribe attempt that added presence still answers for the entry -/
def presOwnPc : Pc → Bool
  | .sReply | .sCommit | .sRbHub | .sRbPres | .sDeferPres => true
  | _ => false
@[simp] theorem presOwnPc_sReserve : presOwnPc .sReserve = false := rfl
@[simp] theorem presOwnPc_sOnSub : presOwnPc .sOnSub = false := rfl
@[simp] theorem presOwnPc_sReadGen : presOwnPc .sReadGen = false := rfl
@[simp] theorem presOwnPc_sCheck1 : presOwnPc .sCheck1 = false := rfl
@[simp] theorem presOwnPc_sHubAdd : presOwnPc .sHubAdd = false := rfl
@[simp] theorem presOwnPc_sCheck2 : presOwnPc .sCheck2 = false := rfl
@[simp] theorem presOwnPc_sPresAdd : presOwnPc .sPresAdd = false := rfl
@[simp] theorem presOwnPc_sReply : presOwnPc .sReply = true := rfl
@[simp] theorem presOwnPc_sCommit : presOwnPc .sCommit = true := rfl
@[simp] theorem presOwnPc_sRbHub : presOwnPc .sRbHub = true := rfl
@[simp] theorem presOwnPc_sRbPres : presOwnPc .sRbPres = true := rfl
@[simp] theorem presOwnPc_sRbClose : presOwnPc .sRbClose = false := rfl
@[simp] theorem presOwnPc_sCloseGate : presOwnPc .sCloseGate = false := rfl
@[simp] theorem presOwnPc_sDpf : presOwnPc .sDpf = false := rfl
@[simp] theorem presOwnPc_sPush : presOwnPc .sPush = false := rfl
@[simp] theorem presOwnPc_sJoin : presOwnPc .sJoin = false := rfl
@[simp] theorem presOwnPc_sDeferPres : presOwnPc .sDeferPres = true := rfl
@[simp] theorem presOwnPc_sErrDel : presOwnPc .sErrDel = false := rfl
@[simp] theorem presOwnPc_sErrHub : presOwnPc .sErrHub = false := rfl
@[simp] theorem presOwnPc_sErrClose : presOwnPc .sErrClose = false := rfl
@[simp] theorem presOwnPc_sErrOut : presOwnPc .sErrOut = false := rfl
@[simp] theorem presOwnPc_uStatus : presOwnPc .uStatus = false := rfl
@[simp] theorem presOwnPc_uSnap : presOwnPc .uSnap = false := rfl
@[simp] theorem presOwnPc_uWait : presOwnPc .uWait = false := rfl
@[simp] theorem presOwnPc_uTmoLog : presOwnPc .uTmoLog = false := rfl
@[simp] theorem presOwnPc_uRemove : presOwnPc .uRemove = false := rfl
@[simp] theorem presOwnPc_uPresRm : presOwnPc .uPresRm = false := rfl
@[simp] theorem presOwnPc_uLeave : presOwnPc .uLeave = false := rfl
@[simp] theorem presOwnPc_uHubRm : presOwnPc .uHubRm = false := rfl
@[simp] theorem presOwnPc_uOnUnsub : presOwnPc .uOnUnsub = false := rfl
@[simp] theorem presOwnPc_uOut : presOwnPc .uOut = false := rfl
@[simp] theorem presOwnPc_cEnter : presOwnPc .cEnter = false := rfl
@[simp] theorem presOwnPc_cRemoveClient : presOwnPc .cRemoveClient = false := rfl
@[simp] theorem presOwnPc_cDpf : presOwnPc .cDpf = false := rfl
@[simp] theorem presOwnPc_cWriter : presOwnPc .cWriter = false := rfl
@[simp] theorem presOwnPc_cTClose : presOwnPc .cTClose = false := rfl
@[simp] theorem presOwnPc_cLoop : presOwnPc .cLoop = false := rfl
@[simp] theorem presOwnPc_cOnDisc : presOwnPc .cOnDisc = false := rfl
@[simp] theorem presOwnPc_cExit : presOwnPc .cExit = false := rfl
@[simp] theorem presOwnPc_done : presOwnPc .done = false := rfl
@[simp] theorem presOwnPc_ite (c : Prop) [Decidable c] (a b : Pc) :
    presOwnPc (if c then a else b) = if c then presOwnPc a else presOwnPc b := apply_ite presOwnPc c a b
@[simp] theorem presOwnPc_unsubRetPc (k : Kind) : presOwnPc (unsubRetPc k) = false := by
  cases k <;> rfl
@[simp] theorem presOwnPc_afterRemove (c : Entry) : presOwnPc (afterRemove c) = false :=
  pc_afterRemove c rfl rfl rfl
@[simp] theorem presOwnPc_afterPres (t : Thread) : presOwnPc (afterPres t) = true :=
  pc_afterPres t rfl rfl

/-- `unsubscribe` right before `RemovePresence` -/
def uPresRmPc : Pc → Bool
  | .uPresRm => true
  | _ => false
@[simp] theorem uPresRmPc_sReserve : uPresRmPc .sReserve = false := rfl
@[simp] theorem uPresRmPc_sOnSub : uPresRmPc .sOnSub = false := rfl
@[simp] theorem uPresRmPc_sReadGen : uPresRmPc .sReadGen = false := rfl
@[simp] theorem uPresRmPc_sCheck1 : uPresRmPc .sCheck1 = false := rfl
@[simp] theorem uPresRmPc_sHubAdd : uPresRmPc .sHubAdd = false := rfl
@[simp] theorem uPresRmPc_sCheck2 : uPresRmPc .sCheck2 = false := rfl
@[simp] theorem uPresRmPc_sPresAdd : uPresRmPc .sPresAdd = false := rfl
@[simp] theorem uPresRmPc_sReply : uPresRmPc .sReply = false := rfl
@[simp] theorem uPresRmPc_sCommit : uPresRmPc .sCommit = false := rfl
@[simp] theorem uPresRmPc_sRbHub : uPresRmPc .sRbHub = false := rfl
@[simp] theorem uPresRmPc_sRbPres : uPresRmPc .sRbPres = false := rfl
@[simp] theorem uPresRmPc_sRbClose : uPresRmPc .sRbClose = false := rfl
@[simp] theorem uPresRmPc_sCloseGate : uPresRmPc .sCloseGate = false := rfl
@[simp] theorem uPresRmPc_sDpf : uPresRmPc .sDpf = false := rfl
@[simp] theorem uPresRmPc_sPush : uPresRmPc .sPush = false := rfl
@[simp] theorem uPresRmPc_sJoin : uPresRmPc .sJoin = false := rfl
@[simp] theorem uPresRmPc_sDeferPres : uPresRmPc .sDeferPres = false := rfl
@[simp] theorem uPresRmPc_sErrDel : uPresRmPc .sErrDel = false := rfl
@[simp] theorem uPresRmPc_sErrHub : uPresRmPc .sErrHub = false := rfl
@[simp] theorem uPresRmPc_sErrClose : uPresRmPc .sErrClose = false := rfl
@[simp] theorem uPresRmPc_sErrOut : uPresRmPc .sErrOut = false := rfl
@[simp] theorem uPresRmPc_uStatus : uPresRmPc .uStatus = false := rfl
@[simp] theorem uPresRmPc_uSnap : uPresRmPc .uSnap = false := rfl
@[simp] theorem uPresRmPc_uWait : uPresRmPc .uWait = false := rfl
@[simp] theorem uPresRmPc_uTmoLog : uPresRmPc .uTmoLog = false := rfl
@[simp] theorem uPresRmPc_uRemove : uPresRmPc .uRemove = false := rfl
@[simp] theorem uPresRmPc_uPresRm : uPresRmPc .uPresRm = true := rfl
@[simp] theorem uPresRmPc_uLeave : uPresRmPc .uLeave = false := rfl
@[simp] theorem uPresRmPc_uHubRm : uPresRmPc .uHubRm = false := rfl
@[simp] theorem uPresRmPc_uOnUnsub : uPresRmPc .uOnUnsub = false := rfl
@[simp] theorem uPresRmPc_uOut : uPresRmPc .uOut = false := rfl
@[simp] theorem uPresRmPc_cEnter : uPresRmPc .cEnter = false := rfl
@[simp] theorem uPresRmPc_cRemoveClient : uPresRmPc .cRemoveClient = false := rfl
@[simp] theorem uPresRmPc_cDpf : uPresRmPc .cDpf = false := rfl
@[simp] theorem uPresRmPc_cWriter : uPresRmPc .cWriter = false := rfl
@[simp] theorem uPresRmPc_cTClose : uPresRmPc .cTClose = false := rfl
@[simp] theorem uPresRmPc_cLoop : uPresRmPc .cLoop = false := rfl
@[simp] theorem uPresRmPc_cOnDisc : uPresRmPc .cOnDisc = false := rfl
@[simp] theorem uPresRmPc_cExit : uPresRmPc .cExit = false := rfl
@[simp] theorem uPresRmPc_done : uPresRmPc .done = false := rfl
@[simp] theorem uPresRmPc_ite (c : Prop) [Decidable c] (a b : Pc) :
    uPresRmPc (if c then a else b) = if c then uPresRmPc a else uPresRmPc b := apply_ite uPresRmPc c a b
@[simp] theorem uPresRmPc_unsubRetPc (k : Kind) : uPresRmPc (unsubRetPc k) = false := by
  cases k <;> rfl
@[simp] theorem uPresRmPc_afterCmdFail (t : Thread) : uPresRmPc (afterCmdFail t) = false :=
  pc_afterCmdFail t rfl rfl
@[simp] theorem uPresRmPc_afterChecks (t : Thread) : uPresRmPc (afterChecks t) = false :=
  pc_afterChecks t rfl rfl rfl
@[simp] theorem uPresRmPc_afterPres (t : Thread) : uPresRmPc (afterPres t) = false :=
  pc_afterPres t rfl rfl

/-- start of one `unsubscribe` call (used for the per-channel calls of `close`) -/
def closeWorkPc : Pc → Bool
  | .uSnap => true
  | _ => false
@[simp] theorem closeWorkPc_sReserve : closeWorkPc .sReserve = false := rfl
@[simp] theorem closeWorkPc_sOnSub : closeWorkPc .sOnSub = false := rfl
@[simp] theorem closeWorkPc_sReadGen : closeWorkPc .sReadGen = false := rfl
@[simp] theorem closeWorkPc_sCheck1 : closeWorkPc .sCheck1 = false := rfl
@[simp] theorem closeWorkPc_sHubAdd : closeWorkPc .sHubAdd = false := rfl
@[simp] theorem closeWorkPc_sCheck2 : closeWorkPc .sCheck2 = false := rfl
@[simp] theorem closeWorkPc_sPresAdd : closeWorkPc .sPresAdd = false := rfl
@[simp] theorem closeWorkPc_sReply : closeWorkPc .sReply = false := rfl
@[simp] theorem closeWorkPc_sCommit : closeWorkPc .sCommit = false := rfl
@[simp] theorem closeWorkPc_sRbHub : closeWorkPc .sRbHub = false := rfl
@[simp] theorem closeWorkPc_sRbPres : closeWorkPc .sRbPres = false := rfl
@[simp] theorem closeWorkPc_sRbClose : closeWorkPc .sRbClose = false := rfl
@[simp] theorem closeWorkPc_sCloseGate : closeWorkPc .sCloseGate = false := rfl
@[simp] theorem closeWorkPc_sDpf : closeWorkPc .sDpf = false := rfl
@[simp] theorem closeWorkPc_sPush : closeWorkPc .sPush = false := rfl
@[simp] theorem closeWorkPc_sJoin : closeWorkPc .sJoin = false := rfl
@[simp] theorem closeWorkPc_sDeferPres : closeWorkPc .sDeferPres = false := rfl
@[simp] theorem closeWorkPc_sErrDel : closeWorkPc .sErrDel = false := rfl
@[simp] theorem closeWorkPc_sErrHub : closeWorkPc .sErrHub = false := rfl
@[simp] theorem closeWorkPc_sErrClose : closeWorkPc .sErrClose = false := rfl
@[simp] theorem closeWorkPc_sErrOut : closeWorkPc .sErrOut = false := rfl
@[simp] theorem closeWorkPc_uStatus : closeWorkPc .uStatus = false := rfl
@[simp] theorem closeWorkPc_uSnap : closeWorkPc .uSnap = true := rfl
@[simp] theorem closeWorkPc_uWait : closeWorkPc .uWait = false := rfl
@[simp] theorem closeWorkPc_uTmoLog : closeWorkPc .uTmoLog = false := rfl
@[simp] theorem closeWorkPc_uRemove : closeWorkPc .uRemove = false := rfl
@[simp] theorem closeWorkPc_uPresRm : closeWorkPc .uPresRm = false := rfl
@[simp] theorem closeWorkPc_uLeave : closeWorkPc .uLeave = false := rfl
@[simp] theorem closeWorkPc_uHubRm : closeWorkPc .uHubRm = false := rfl
@[simp] theorem closeWorkPc_uOnUnsub : closeWorkPc .uOnUnsub = false := rfl
@[simp] theorem closeWorkPc_uOut : closeWorkPc .uOut = false := rfl
@[simp] theorem closeWorkPc_cEnter : closeWorkPc .cEnter = false := rfl
@[simp] theorem closeWorkPc_cRemoveClient : closeWorkPc .cRemoveClient = false := rfl
@[simp] theorem closeWorkPc_cDpf : closeWorkPc .cDpf = false := rfl
@[simp] theorem closeWorkPc_cWriter : closeWorkPc .cWriter = false := rfl
@[simp] theorem closeWorkPc_cTClose : closeWorkPc .cTClose = false := rfl
@[simp] theorem closeWorkPc_cLoop : closeWorkPc .cLoop = false := rfl
@[simp] theorem closeWorkPc_cOnDisc : closeWorkPc .cOnDisc = false := rfl
@[simp] theorem closeWorkPc_cExit : closeWorkPc .cExit = false := rfl
@[simp] theorem closeWorkPc_done : closeWorkPc .done = false := rfl
@[simp] theorem closeWorkPc_ite (c : Prop) [Decidable c] (a b : Pc) :
    closeWorkPc (if c then a else b) = if c then closeWorkPc a else closeWorkPc b := apply_ite closeWorkPc c a b
@[simp] theorem closeWorkPc_unsubRetPc (k : Kind) : closeWorkPc (unsubRetPc k) = false := by
  cases k <;> rfl
@[simp] theorem closeWorkPc_afterRemove (c : Entry) : closeWorkPc (afterRemove c) = false :=
  pc_afterRemove c rfl rfl rfl
@[simp] theorem closeWorkPc_afterCmdFail (t : Thread) : closeWorkPc (afterCmdFail t) = false :=
  pc_afterCmdFail t rfl rfl
@[simp] theorem closeWorkPc_afterChecks (t : Thread) : closeWorkPc (afterChecks t) = false :=
  pc_afterChecks t rfl rfl rfl
@[simp] theorem closeWorkPc_afterPres (t : Thread) : closeWorkPc (afterPres t) = false :=
  pc_afterPres t rfl rfl

/-- `close()` right before `node.removeClient` -/
def cRemoveClientPc : Pc → Bool
  | .cRemoveClient => true
  | _ => false
@[simp] theorem cRemoveClientPc_sReserve : cRemoveClientPc .sReserve = false := rfl
@[simp] theorem cRemoveClientPc_sOnSub : cRemoveClientPc .sOnSub = false := rfl
@[simp] theorem cRemoveClientPc_sReadGen : cRemoveClientPc .sReadGen = false := rfl
@[simp] theorem cRemoveClientPc_sCheck1 : cRemoveClientPc .sCheck1 = false := rfl
@[simp] theorem cRemoveClientPc_sHubAdd : cRemoveClientPc .sHubAdd = false := rfl
@[simp] theorem cRemoveClientPc_sCheck2 : cRemoveClientPc .sCheck2 = false := rfl
@[simp] theorem cRemoveClientPc_sPresAdd : cRemoveClientPc .sPresAdd = false := rfl
@[simp] theorem cRemoveClientPc_sReply : cRemoveClientPc .sReply = false := rfl
@[simp] theorem cRemoveClientPc_sCommit : cRemoveClientPc .sCommit = false := rfl
@[simp] theorem cRemoveClientPc_sRbHub : cRemoveClientPc .sRbHub = false := rfl
@[simp] theorem cRemoveClientPc_sRbPres : cRemoveClientPc .sRbPres = false := rfl
@[simp] theorem cRemoveClientPc_sRbClose : cRemoveClientPc .sRbClose = false := rfl
@[simp] theorem cRemoveClientPc_sCloseGate : cRemoveClientPc .sCloseGate = false := rfl
@[simp] theorem cRemoveClientPc_sDpf : cRemoveClientPc .sDpf = false := rfl
@[simp] theorem cRemoveClientPc_sPush : cRemoveClientPc .sPush = false := rfl
@[simp] theorem cRemoveClientPc_sJoin : cRemoveClientPc .sJoin = false := rfl
@[simp] theorem cRemoveClientPc_sDeferPres : cRemoveClientPc .sDeferPres = false := rfl
@[simp] theorem cRemoveClientPc_sErrDel : cRemoveClientPc .sErrDel = false := rfl
@[simp] theorem cRemoveClientPc_sErrHub : cRemoveClientPc .sErrHub = false := rfl
@[simp] theorem cRemoveClientPc_sErrClose : cRemoveClientPc .sErrClose = false := rfl
@[simp] theorem cRemoveClientPc_sErrOut : cRemoveClientPc .sErrOut = false := rfl
@[simp] theorem cRemoveClientPc_uStatus : cRemoveClientPc .uStatus = false := rfl
@[simp] theorem cRemoveClientPc_uSnap : cRemoveClientPc .uSnap = false := rfl
@[simp] theorem cRemoveClientPc_uWait : cRemoveClientPc .uWait = false := rfl
@[simp] theorem cRemoveClientPc_uTmoLog : cRemoveClientPc .uTmoLog = false := rfl
@[simp] theorem cRemoveClientPc_uRemove : cRemoveClientPc .uRemove = false := rfl
@[simp] theorem cRemoveClientPc_uPresRm : cRemoveClientPc .uPresRm = false := rfl
@[simp] theorem cRemoveClientPc_uLeave : cRemoveClientPc .uLeave = false := rfl
@[simp] theorem cRemoveClientPc_uHubRm : cRemoveClientPc .uHubRm = false := rfl
@[simp] theorem cRemoveClientPc_uOnUnsub : cRemoveClientPc .uOnUnsub = false := rfl
@[simp] theorem cRemoveClientPc_uOut : cRemoveClientPc .uOut = false := rfl
@[simp] theorem cRemoveClientPc_cEnter : cRemoveClientPc .cEnter = false := rfl
@[simp] theorem cRemoveClientPc_cRemoveClient : cRemoveClientPc .cRemoveClient = true := rfl
@[simp] theorem cRemoveClientPc_cDpf : cRemoveClientPc .cDpf = false := rfl
@[simp] theorem cRemoveClientPc_cWriter : cRemoveClientPc .cWriter = false := rfl
@[simp] theorem cRemoveClientPc_cTClose : cRemoveClientPc .cTClose = false := rfl
@[simp] theorem cRemoveClientPc_cLoop : cRemoveClientPc .cLoop = false := rfl
@[simp] theorem cRemoveClientPc_cOnDisc : cRemoveClientPc .cOnDisc = false := rfl
@[simp] theorem cRemoveClientPc_cExit : cRemoveClientPc .cExit = false := rfl
@[simp] theorem cRemoveClientPc_done : cRemoveClientPc .done = false := rfl
@[simp] theorem cRemoveClientPc_ite (c : Prop) [Decidable c] (a b : Pc) :
    cRemoveClientPc (if c then a else b) = if c then cRemoveClientPc a else cRemoveClientPc b := apply_ite cRemoveClientPc c a b
@[simp] theorem cRemoveClientPc_unsubRetPc (k : Kind) : cRemoveClientPc (unsubRetPc k) = false := by
  cases k <;> rfl
@[simp] theorem cRemoveClientPc_afterRemove (c : Entry) : cRemoveClientPc (afterRemove c) = false :=
  pc_afterRemove c rfl rfl rfl
@[simp] theorem cRemoveClientPc_afterCmdFail (t : Thread) : cRemoveClientPc (afterCmdFail t) = false :=
  pc_afterCmdFail t rfl rfl
@[simp] theorem cRemoveClientPc_afterChecks (t : Thread) : cRemoveClientPc (afterChecks t) = false :=
  pc_afterChecks t rfl rfl rfl
@[simp] theorem cRemoveClientPc_afterPres (t : Thread) : cRemoveClientPc (afterPres t) = false :=
  pc_afterPres t rfl rfl

/-- `close()`, the `unsubscribe` it calls per channel, or done -/
def closeKindPc : Pc → Bool
  | .cEnter | .cRemoveClient | .cDpf | .cWriter | .cTClose | .cLoop | .cOnDisc | .cExit | .uSnap | .uWait | .uTmoLog | .uRemove | .uPresRm | .uLeave | .uHubRm | .uOnUnsub | .done => true
  | _ => false
@[simp] theorem closeKindPc_sReserve : closeKindPc .sReserve = false := rfl
@[simp] theorem closeKindPc_sOnSub : closeKindPc .sOnSub = false := rfl
@[simp] theorem closeKindPc_sReadGen : closeKindPc .sReadGen = false := rfl
@[simp] theorem closeKindPc_sCheck1 : closeKindPc .sCheck1 = false := rfl
@[simp] theorem closeKindPc_sHubAdd : closeKindPc .sHubAdd = false := rfl
@[simp] theorem closeKindPc_sCheck2 : closeKindPc .sCheck2 = false := rfl
@[simp] theorem closeKindPc_sPresAdd : closeKindPc .sPresAdd = false := rfl
@[simp] theorem closeKindPc_sReply : closeKindPc .sReply = false := rfl
@[simp] theorem closeKindPc_sCommit : closeKindPc .sCommit = false := rfl
@[simp] theorem closeKindPc_sRbHub : closeKindPc .sRbHub = false := rfl
@[simp] theorem closeKindPc_sRbPres : closeKindPc .sRbPres = false := rfl
@[simp] theorem closeKindPc_sRbClose : closeKindPc .sRbClose = false := rfl
@[simp] theorem closeKindPc_sCloseGate : closeKindPc .sCloseGate = false := rfl
@[simp] theorem closeKindPc_sDpf : closeKindPc .sDpf = false := rfl
@[simp] theorem closeKindPc_sPush : closeKindPc .sPush = false := rfl
@[simp] theorem closeKindPc_sJoin : closeKindPc .sJoin = false := rfl
@[simp] theorem closeKindPc_sDeferPres : closeKindPc .sDeferPres = false := rfl
@[simp] theorem closeKindPc_sErrDel : closeKindPc .sErrDel = false := rfl
@[simp] theorem closeKindPc_sErrHub : closeKindPc .sErrHub = false := rfl
@[simp] theorem closeKindPc_sErrClose : closeKindPc .sErrClose = false := rfl
@[simp] theorem closeKindPc_sErrOut : closeKindPc .sErrOut = false := rfl
@[simp] theorem closeKindPc_uStatus : closeKindPc .uStatus = false := rfl
@[simp] theorem closeKindPc_uSnap : closeKindPc .uSnap = true := rfl
@[simp] theorem closeKindPc_uWait : closeKindPc .uWait = true := rfl
@[simp] theorem closeKindPc_uTmoLog : closeKindPc .uTmoLog = true := rfl
@[simp] theorem closeKindPc_uRemove : closeKindPc .uRemove = true := rfl
@[simp] theorem closeKindPc_uPresRm : closeKindPc .uPresRm = true := rfl
@[simp] theorem closeKindPc_uLeave : closeKindPc .uLeave = true := rfl
@[simp] theorem closeKindPc_uHubRm : closeKindPc .uHubRm = true := rfl
@[simp] theorem closeKindPc_uOnUnsub : closeKindPc .uOnUnsub = true := rfl
@[simp] theorem closeKindPc_uOut : closeKindPc .uOut = false := rfl
@[simp] theorem closeKindPc_cEnter : closeKindPc .cEnter = true := rfl
@[simp] theorem closeKindPc_cRemoveClient : closeKindPc .cRemoveClient = true := rfl
@[simp] theorem closeKindPc_cDpf : closeKindPc .cDpf = true := rfl
@[simp] theorem closeKindPc_cWriter : closeKindPc .cWriter = true := rfl
@[simp] theorem closeKindPc_cTClose : closeKindPc .cTClose = true := rfl
@[simp] theorem closeKindPc_cLoop : closeKindPc .cLoop = true := rfl
@[simp] theorem closeKindPc_cOnDisc : closeKindPc .cOnDisc = true := rfl
@[simp] theorem closeKindPc_cExit : closeKindPc .cExit = true := rfl
@[simp] theorem closeKindPc_done : closeKindPc .done = true := rfl
@[simp] theorem closeKindPc_ite (c : Prop) [Decidable c] (a b : Pc) :
    closeKindPc (if c then a else b) = if c then closeKindPc a else closeKindPc b := apply_ite closeKindPc c a b
@[simp] theorem closeKindPc_afterRemove (c : Entry) : closeKindPc (afterRemove c) = true :=
  pc_afterRemove c rfl rfl rfl
@[simp] theorem closeKindPc_afterCmdFail (t : Thread) : closeKindPc (afterCmdFail t) = false :=
  pc_afterCmdFail t rfl rfl
@[simp] theorem closeKindPc_afterChecks (t : Thread) : closeKindPc (afterChecks t) = false :=
  pc_afterChecks t rfl rfl rfl
@[simp] theorem closeKindPc_afterPres (t : Thread) : closeKindPc (afterPres t) = false :=
  pc_afterPres t rfl rfl
@[simp] theorem closeKindPc_unsubRetPc_close : closeKindPc (unsubRetPc .close) = true := rfl

/-- inside `close()` with `connectMu` held, including the per-channel `unsubscribe` calls -/
def inClosePc : Pc → Bool
  | .cRemoveClient | .cDpf | .cWriter | .cTClose | .cLoop | .cOnDisc | .cExit | .uSnap | .uWait | .uTmoLog | .uRemove | .uPresRm | .uLeave | .uHubRm | .uOnUnsub => true
  | _ => false
@[simp] theorem inClosePc_sReserve : inClosePc .sReserve = false := rfl
@[simp] theorem inClosePc_sOnSub : inClosePc .sOnSub = false := rfl
@[simp] theorem inClosePc_sReadGen : inClosePc .sReadGen = false := rfl
@[simp] theorem inClosePc_sCheck1 : inClosePc .sCheck1 = false := rfl
@[simp] theorem inClosePc_sHubAdd : inClosePc .sHubAdd = false := rfl
@[simp] theorem inClosePc_sCheck2 : inClosePc .sCheck2 = false := rfl
@[simp] theorem inClosePc_sPresAdd : inClosePc .sPresAdd = false := rfl
@[simp] theorem inClosePc_sReply : inClosePc .sReply = false := rfl
@[simp] theorem inClosePc_sCommit : inClosePc .sCommit = false := rfl
@[simp] theorem inClosePc_sRbHub : inClosePc .sRbHub = false := rfl
@[simp] theorem inClosePc_sRbPres : inClosePc .sRbPres = false := rfl
@[simp] theorem inClosePc_sRbClose : inClosePc .sRbClose = false := rfl
@[simp] theorem inClosePc_sCloseGate : inClosePc .sCloseGate = false := rfl
@[simp] theorem inClosePc_sDpf : inClosePc .sDpf = false := rfl
@[simp] theorem inClosePc_sPush : inClosePc .sPush = false := rfl
@[simp] theorem inClosePc_sJoin : inClosePc .sJoin = false := rfl
@[simp] theorem inClosePc_sDeferPres : inClosePc .sDeferPres = false := rfl
@[simp] theorem inClosePc_sErrDel : inClosePc .sErrDel = false := rfl
@[simp] theorem inClosePc_sErrHub : inClosePc .sErrHub = false := rfl
@[simp] theorem inClosePc_sErrClose : inClosePc .sErrClose = false := rfl
@[simp] theorem inClosePc_sErrOut : inClosePc .sErrOut = false := rfl
@[simp] theorem inClosePc_uStatus : inClosePc .uStatus = false := rfl
@[simp] theorem inClosePc_uSnap : inClosePc .uSnap = true := rfl
@[simp] theorem inClosePc_uWait : inClosePc .uWait = true := rfl
@[simp] theorem inClosePc_uTmoLog : inClosePc .uTmoLog = true := rfl
@[simp] theorem inClosePc_uRemove : inClosePc .uRemove = true := rfl
@[simp] theorem inClosePc_uPresRm : inClosePc .uPresRm = true := rfl
@[simp] theorem inClosePc_uLeave : inClosePc .uLeave = true := rfl
@[simp] theorem inClosePc_uHubRm : inClosePc .uHubRm = true := rfl
@[simp] theorem inClosePc_uOnUnsub : inClosePc .uOnUnsub = true := rfl
@[simp] theorem inClosePc_uOut : inClosePc .uOut = false := rfl
@[simp] theorem inClosePc_cEnter : inClosePc .cEnter = false := rfl
@[simp] theorem inClosePc_cRemoveClient : inClosePc .cRemoveClient = true := rfl
@[simp] theorem inClosePc_cDpf : inClosePc .cDpf = true := rfl
@[simp] theorem inClosePc_cWriter : inClosePc .cWriter = true := rfl
@[simp] theorem inClosePc_cTClose : inClosePc .cTClose = true := rfl
@[simp] theorem inClosePc_cLoop : inClosePc .cLoop = true := rfl
@[simp] theorem inClosePc_cOnDisc : inClosePc .cOnDisc = true := rfl
@[simp] theorem inClosePc_cExit : inClosePc .cExit = true := rfl
@[simp] theorem inClosePc_done : inClosePc .done = false := rfl
@[simp] theorem inClosePc_ite (c : Prop) [Decidable c] (a b : Pc) :
    inClosePc (if c then a else b) = if c then inClosePc a else inClosePc b := apply_ite inClosePc c a b
@[simp] theorem inClosePc_afterRemove (c : Entry) : inClosePc (afterRemove c) = true :=
  pc_afterRemove c rfl rfl rfl
@[simp] theorem inClosePc_afterCmdFail (t : Thread) : inClosePc (afterCmdFail t) = false :=
  pc_afterCmdFail t rfl rfl
@[simp] theorem inClosePc_afterChecks (t : Thread) : inClosePc (afterChecks t) = false :=
  pc_afterChecks t rfl rfl rfl
@[simp] theorem inClosePc_afterPres (t : Thread) : inClosePc (afterPres t) = false :=
  pc_afterPres t rfl rfl
@[simp] theorem inClosePc_unsubRetPc_close : inClosePc (unsubRetPc .close) = true := rfl

/-- `unsubscribe` at its snapshot under `RLock` -/
def snapPc : Pc → Bool
  | .uSnap => true
  | _ => false
@[simp] theorem snapPc_sReserve : snapPc .sReserve = false := rfl
@[simp] theorem snapPc_sOnSub : snapPc .sOnSub = false := rfl
@[simp] theorem snapPc_sReadGen : snapPc .sReadGen = false := rfl
@[simp] theorem snapPc_sCheck1 : snapPc .sCheck1 = false := rfl
@[simp] theorem snapPc_sHubAdd : snapPc .sHubAdd = false := rfl
@[simp] theorem snapPc_sCheck2 : snapPc .sCheck2 = false := rfl
@[simp] theorem snapPc_sPresAdd : snapPc .sPresAdd = false := rfl
@[simp] theorem snapPc_sReply : snapPc .sReply = false := rfl
@[simp] theorem snapPc_sCommit : snapPc .sCommit = false := rfl
@[simp] theorem snapPc_sRbHub : snapPc .sRbHub = false := rfl
@[simp] theorem snapPc_sRbPres : snapPc .sRbPres = false := rfl
@[simp] theorem snapPc_sRbClose : snapPc .sRbClose = false := rfl
@[simp] theorem snapPc_sCloseGate : snapPc .sCloseGate = false := rfl
@[simp] theorem snapPc_sDpf : snapPc .sDpf = false := rfl
@[simp] theorem snapPc_sPush : snapPc .sPush = false := rfl
@[simp] theorem snapPc_sJoin : snapPc .sJoin = false := rfl
@[simp] theorem snapPc_sDeferPres : snapPc .sDeferPres = false := rfl
@[simp] theorem snapPc_sErrDel : snapPc .sErrDel = false := rfl
@[simp] theorem snapPc_sErrHub : snapPc .sErrHub = false := rfl
@[simp] theorem snapPc_sErrClose : snapPc .sErrClose = false := rfl
@[simp] theorem snapPc_sErrOut : snapPc .sErrOut = false := rfl
@[simp] theorem snapPc_uStatus : snapPc .uStatus = false := rfl
@[simp] theorem snapPc_uSnap : snapPc .uSnap = true := rfl
@[simp] theorem snapPc_uWait : snapPc .uWait = false := rfl
@[simp] theorem snapPc_uTmoLog : snapPc .uTmoLog = false := rfl
@[simp] theorem snapPc_uRemove : snapPc .uRemove = false := rfl
@[simp] theorem snapPc_uPresRm : snapPc .uPresRm = false := rfl
@[simp] theorem snapPc_uLeave : snapPc .uLeave = false := rfl
@[simp] theorem snapPc_uHubRm : snapPc .uHubRm = false := rfl
@[simp] theorem snapPc_uOnUnsub : snapPc .uOnUnsub = false := rfl
@[simp] theorem snapPc_uOut : snapPc .uOut = false := rfl
@[simp] theorem snapPc_cEnter : snapPc .cEnter = false := rfl
@[simp] theorem snapPc_cRemoveClient : snapPc .cRemoveClient = false := rfl
@[simp] theorem snapPc_cDpf : snapPc .cDpf = false := rfl
@[simp] theorem snapPc_cWriter : snapPc .cWriter = false := rfl
@[simp] theorem snapPc_cTClose : snapPc .cTClose = false := rfl
@[simp] theorem snapPc_cLoop : snapPc .cLoop = false := rfl
@[simp] theorem snapPc_cOnDisc : snapPc .cOnDisc = false := rfl
@[simp] theorem snapPc_cExit : snapPc .cExit = false := rfl
@[simp] theorem snapPc_done : snapPc .done = false := rfl
@[simp] theorem snapPc_ite (c : Prop) [Decidable c] (a b : Pc) :
    snapPc (if c then a else b) = if c then snapPc a else snapPc b := apply_ite snapPc c a b
@[simp] theorem snapPc_unsubRetPc (k : Kind) : snapPc (unsubRetPc k) = false := by
  cases k <;> rfl
@[simp] theorem snapPc_afterRemove (c : Entry) : snapPc (afterRemove c) = false :=
  pc_afterRemove c rfl rfl rfl
@[simp] theorem snapPc_afterCmdFail (t : Thread) : snapPc (afterCmdFail t) = false :=
  pc_afterCmdFail t rfl rfl
@[simp] theorem snapPc_afterChecks (t : Thread) : snapPc (afterChecks t) = false :=
  pc_afterChecks t rfl rfl rfl
@[simp] theorem snapPc_afterPres (t : Thread) : snapPc (afterPres t) = false :=
  pc_afterPres t rfl rfl
@[simp] theorem snapPc_unsubRetPc_close : snapPc (unsubRetPc .close) = false := rfl

/-- anywhere inside one `unsubscribe` call -/
def unsubWorkPc : Pc → Bool
  | .uSnap | .uWait | .uTmoLog | .uRemove | .uPresRm | .uLeave | .uHubRm | .uOnUnsub => true
  | _ => false
@[simp] theorem unsubWorkPc_sReserve : unsubWorkPc .sReserve = false := rfl
@[simp] theorem unsubWorkPc_sOnSub : unsubWorkPc .sOnSub = false := rfl
@[simp] theorem unsubWorkPc_sReadGen : unsubWorkPc .sReadGen = false := rfl
@[simp] theorem unsubWorkPc_sCheck1 : unsubWorkPc .sCheck1 = false := rfl
@[simp] theorem unsubWorkPc_sHubAdd : unsubWorkPc .sHubAdd = false := rfl
@[simp] theorem unsubWorkPc_sCheck2 : unsubWorkPc .sCheck2 = false := rfl
@[simp] theorem unsubWorkPc_sPresAdd : unsubWorkPc .sPresAdd = false := rfl
@[simp] theorem unsubWorkPc_sReply : unsubWorkPc .sReply = false := rfl
@[simp] theorem unsubWorkPc_sCommit : unsubWorkPc .sCommit = false := rfl
@[simp] theorem unsubWorkPc_sRbHub : unsubWorkPc .sRbHub = false := rfl
@[simp] theorem unsubWorkPc_sRbPres : unsubWorkPc .sRbPres = false := rfl
@[simp] theorem unsubWorkPc_sRbClose : unsubWorkPc .sRbClose = false := rfl
@[simp] theorem unsubWorkPc_sCloseGate : unsubWorkPc .sCloseGate = false := rfl
@[simp] theorem unsubWorkPc_sDpf : unsubWorkPc .sDpf = false := rfl
@[simp] theorem unsubWorkPc_sPush : unsubWorkPc .sPush = false := rfl
@[simp] theorem unsubWorkPc_sJoin : unsubWorkPc .sJoin = false := rfl
@[simp] theorem unsubWorkPc_sDeferPres : unsubWorkPc .sDeferPres = false := rfl
@[simp] theorem unsubWorkPc_sErrDel : unsubWorkPc .sErrDel = false := rfl
@[simp] theorem unsubWorkPc_sErrHub : unsubWorkPc .sErrHub = false := rfl
@[simp] theorem unsubWorkPc_sErrClose : unsubWorkPc .sErrClose = false := rfl
@[simp] theorem unsubWorkPc_sErrOut : unsubWorkPc .sErrOut = false := rfl
@[simp] theorem unsubWorkPc_uStatus : unsubWorkPc .uStatus = false := rfl
@[simp] theorem unsubWorkPc_uSnap : unsubWorkPc .uSnap = true := rfl
@[simp] theorem unsubWorkPc_uWait : unsubWorkPc .uWait = true := rfl
@[simp] theorem unsubWorkPc_uTmoLog : unsubWorkPc .uTmoLog = true := rfl
@[simp] theorem unsubWorkPc_uRemove : unsubWorkPc .uRemove = true := rfl
@[simp] theorem unsubWorkPc_uPresRm : unsubWorkPc .uPresRm = true := rfl
@[simp] theorem unsubWorkPc_uLeave : unsubWorkPc .uLeave = true := rfl
@[simp] theorem unsubWorkPc_uHubRm : unsubWorkPc .uHubRm = true := rfl
@[simp] theorem unsubWorkPc_uOnUnsub : unsubWorkPc .uOnUnsub = true := rfl
@[simp] theorem unsubWorkPc_uOut : unsubWorkPc .uOut = false := rfl
@[simp] theorem unsubWorkPc_cEnter : unsubWorkPc .cEnter = false := rfl
@[simp] theorem unsubWorkPc_cRemoveClient : unsubWorkPc .cRemoveClient = false := rfl
@[simp] theorem unsubWorkPc_cDpf : unsubWorkPc .cDpf = false := rfl
@[simp] theorem unsubWorkPc_cWriter : unsubWorkPc .cWriter = false := rfl
@[simp] theorem unsubWorkPc_cTClose : unsubWorkPc .cTClose = false := rfl
@[simp] theorem unsubWorkPc_cLoop : unsubWorkPc .cLoop = false := rfl
@[simp] theorem unsubWorkPc_cOnDisc : unsubWorkPc .cOnDisc = false := rfl
@[simp] theorem unsubWorkPc_cExit : unsubWorkPc .cExit = false := rfl
@[simp] theorem unsubWorkPc_done : unsubWorkPc .done = false := rfl
@[simp] theorem unsubWorkPc_ite (c : Prop) [Decidable c] (a b : Pc) :
    unsubWorkPc (if c then a else b) = if c then unsubWorkPc a else unsubWorkPc b := apply_ite unsubWorkPc c a b
@[simp] theorem unsubWorkPc_unsubRetPc (k : Kind) : unsubWorkPc (unsubRetPc k) = false := by
  cases k <;> rfl
@[simp] theorem unsubWorkPc_afterRemove (c : Entry) : unsubWorkPc (afterRemove c) = true :=
  pc_afterRemove c rfl rfl rfl
@[simp] theorem unsubWorkPc_afterCmdFail (t : Thread) : unsubWorkPc (afterCmdFail t) = false :=
  pc_afterCmdFail t rfl rfl
@[simp] theorem unsubWorkPc_afterChecks (t : Thread) : unsubWorkPc (afterChecks t) = false :=
  pc_afterChecks t rfl rfl rfl
@[simp] theorem unsubWorkPc_afterPres (t : Thread) : unsubWorkPc (afterPres t) = false :=
  pc_afterPres t rfl rfl
@[simp] theorem unsubWorkPc_unsubRetPc_close : unsubWorkPc (unsubRetPc .close) = false := rfl

/-- `close()` after its loop over the snapshot -/
def donePendPc : Pc → Bool
  | .cOnDisc | .cExit => true
  | _ => false
@[simp] theorem donePendPc_sReserve : donePendPc .sReserve = false := rfl
@[simp] theorem donePendPc_sOnSub : donePendPc .sOnSub = false := rfl
@[simp] theorem donePendPc_sReadGen : donePendPc .sReadGen = false := rfl
@[simp] theorem donePendPc_sCheck1 : donePendPc .sCheck1 = false := rfl
@[simp] theorem donePendPc_sHubAdd : donePendPc .sHubAdd = false := rfl
@[simp] theorem donePendPc_sCheck2 : donePendPc .sCheck2 = false := rfl
@[simp] theorem donePendPc_sPresAdd : donePendPc .sPresAdd = false := rfl
@[simp] theorem donePendPc_sReply : donePendPc .sReply = false := rfl
@[simp] theorem donePendPc_sCommit : donePendPc .sCommit = false := rfl
@[simp] theorem donePendPc_sRbHub : donePendPc .sRbHub = false := rfl
@[simp] theorem donePendPc_sRbPres : donePendPc .sRbPres = false := rfl
@[simp] theorem donePendPc_sRbClose : donePendPc .sRbClose = false := rfl
@[simp] theorem donePendPc_sCloseGate : donePendPc .sCloseGate = false := rfl
@[simp] theorem donePendPc_sDpf : donePendPc .sDpf = false := rfl
@[simp] theorem donePendPc_sPush : donePendPc .sPush = false := rfl
@[simp] theorem donePendPc_sJoin : donePendPc .sJoin = false := rfl
@[simp] theorem donePendPc_sDeferPres : donePendPc .sDeferPres = false := rfl
@[simp] theorem donePendPc_sErrDel : donePendPc .sErrDel = false := rfl
@[simp] theorem donePendPc_sErrHub : donePendPc .sErrHub = false := rfl
@[simp] theorem donePendPc_sErrClose : donePendPc .sErrClose = false := rfl
@[simp] theorem donePendPc_sErrOut : donePendPc .sErrOut = false := rfl
@[simp] theorem donePendPc_uStatus : donePendPc .uStatus = false := rfl
@[simp] theorem donePendPc_uSnap : donePendPc .uSnap = false := rfl
@[simp] theorem donePendPc_uWait : donePendPc .uWait = false := rfl
@[simp] theorem donePendPc_uTmoLog : donePendPc .uTmoLog = false := rfl
@[simp] theorem donePendPc_uRemove : donePendPc .uRemove = false := rfl
@[simp] theorem donePendPc_uPresRm : donePendPc .uPresRm = false := rfl
@[simp] theorem donePendPc_uLeave : donePendPc .uLeave = false := rfl
@[simp] theorem donePendPc_uHubRm : donePendPc .uHubRm = false := rfl
@[simp] theorem donePendPc_uOnUnsub : donePendPc .uOnUnsub = false := rfl
@[simp] theorem donePendPc_uOut : donePendPc .uOut = false := rfl
@[simp] theorem donePendPc_cEnter : donePendPc .cEnter = false := rfl
@[simp] theorem donePendPc_cRemoveClient : donePendPc .cRemoveClient = false := rfl
@[simp] theorem donePendPc_cDpf : donePendPc .cDpf = false := rfl
@[simp] theorem donePendPc_cWriter : donePendPc .cWriter = false := rfl
@[simp] theorem donePendPc_cTClose : donePendPc .cTClose = false := rfl
@[simp] theorem donePendPc_cLoop : donePendPc .cLoop = false := rfl
@[simp] theorem donePendPc_cOnDisc : donePendPc .cOnDisc = true := rfl
@[simp] theorem donePendPc_cExit : donePendPc .cExit = true := rfl
@[simp] theorem donePendPc_done : donePendPc .done = false := rfl
@[simp] theorem donePendPc_ite (c : Prop) [Decidable c] (a b : Pc) :
    donePendPc (if c then a else b) = if c then donePendPc a else donePendPc b := apply_ite donePendPc c a b
@[simp] theorem donePendPc_unsubRetPc (k : Kind) : donePendPc (unsubRetPc k) = false := by
  cases k <;> rfl
@[simp] theorem donePendPc_afterRemove (c : Entry) : donePendPc (afterRemove c) = false :=
  pc_afterRemove c rfl rfl rfl
@[simp] theorem donePendPc_afterCmdFail (t : Thread) : donePendPc (afterCmdFail t) = false :=
  pc_afterCmdFail t rfl rfl
@[simp] theorem donePendPc_afterChecks (t : Thread) : donePendPc (afterChecks t) = false :=
  pc_afterChecks t rfl rfl rfl
@[simp] theorem donePendPc_afterPres (t : Thread) : donePendPc (afterPres t) = false :=
  pc_afterPres t rfl rfl
@[simp] theorem donePendPc_unsubRetPc_close : donePendPc (unsubRetPc .close) = false := rfl

/-- the program counters of `close()` proper -/
def cPc : Pc → Bool
  | .cEnter | .cRemoveClient | .cDpf | .cWriter | .cTClose | .cLoop | .cOnDisc | .cExit => true
  | _ => false
@[simp] theorem cPc_sReserve : cPc .sReserve = false := rfl
@[simp] theorem cPc_sOnSub : cPc .sOnSub = false := rfl
@[simp] theorem cPc_sReadGen : cPc .sReadGen = false := rfl
@[simp] theorem cPc_sCheck1 : cPc .sCheck1 = false := rfl
@[simp] theorem cPc_sHubAdd : cPc .sHubAdd = false := rfl
@[simp] theorem cPc_sCheck2 : cPc .sCheck2 = false := rfl
@[simp] theorem cPc_sPresAdd : cPc .sPresAdd = false := rfl
@[simp] theorem cPc_sReply : cPc .sReply = false := rfl
@[simp] theorem cPc_sCommit : cPc .sCommit = false := rfl
@[simp] theorem cPc_sRbHub : cPc .sRbHub = false := rfl
@[simp] theorem cPc_sRbPres : cPc .sRbPres = false := rfl
@[simp] theorem cPc_sRbClose : cPc .sRbClose = false := rfl
@[simp] theorem cPc_sCloseGate : cPc .sCloseGate = false := rfl
@[simp] theorem cPc_sDpf : cPc .sDpf = false := rfl
@[simp] theorem cPc_sPush : cPc .sPush = false := rfl
@[simp] theorem cPc_sJoin : cPc .sJoin = false := rfl
@[simp] theorem cPc_sDeferPres : cPc .sDeferPres = false := rfl
@[simp] theorem cPc_sErrDel : cPc .sErrDel = false := rfl
@[simp] theorem cPc_sErrHub : cPc .sErrHub = false := rfl
@[simp] theorem cPc_sErrClose : cPc .sErrClose = false := rfl
@[simp] theorem cPc_sErrOut : cPc .sErrOut = false := rfl
@[simp] theorem cPc_uStatus : cPc .uStatus = false := rfl
@[simp] theorem cPc_uSnap : cPc .uSnap = false := rfl
@[simp] theorem cPc_uWait : cPc .uWait = false := rfl
@[simp] theorem cPc_uTmoLog : cPc .uTmoLog = false := rfl
@[simp] theorem cPc_uRemove : cPc .uRemove = false := rfl
@[simp] theorem cPc_uPresRm : cPc .uPresRm = false := rfl
@[simp] theorem cPc_uLeave : cPc .uLeave = false := rfl
@[simp] theorem cPc_uHubRm : cPc .uHubRm = false := rfl
@[simp] theorem cPc_uOnUnsub : cPc .uOnUnsub = false := rfl
@[simp] theorem cPc_uOut : cPc .uOut = false := rfl
@[simp] theorem cPc_cEnter : cPc .cEnter = true := rfl
@[simp] theorem cPc_cRemoveClient : cPc .cRemoveClient = true := rfl
@[simp] theorem cPc_cDpf : cPc .cDpf = true := rfl
@[simp] theorem cPc_cWriter : cPc .cWriter = true := rfl
@[simp] theorem cPc_cTClose : cPc .cTClose = true := rfl
@[simp] theorem cPc_cLoop : cPc .cLoop = true := rfl
@[simp] theorem cPc_cOnDisc : cPc .cOnDisc = true := rfl
@[simp] theorem cPc_cExit : cPc .cExit = true := rfl
@[simp] theorem cPc_done : cPc .done = false := rfl
@[simp] theorem cPc_ite (c : Prop) [Decidable c] (a b : Pc) :
    cPc (if c then a else b) = if c then cPc a else cPc b := apply_ite cPc c a b
@[simp] theorem cPc_afterRemove (c : Entry) : cPc (afterRemove c) = false :=
  pc_afterRemove c rfl rfl rfl
@[simp] theorem cPc_afterCmdFail (t : Thread) : cPc (afterCmdFail t) = false :=
  pc_afterCmdFail t rfl rfl
@[simp] theorem cPc_afterChecks (t : Thread) : cPc (afterChecks t) = false :=
  pc_afterChecks t rfl rfl rfl
@[simp] theorem cPc_afterPres (t : Thread) : cPc (afterPres t) = false :=
  pc_afterPres t rfl rfl
@[simp] theorem cPc_unsubRetPc (k : Kind) : cPc (unsubRetPc k) = (k == .close) := by cases k <;> rfl

/-- `subscribeCmd` right before `AddPresence` -/
def presAddPc : Pc → Bool
  | .sPresAdd => true
  | _ => false
@[simp] theorem presAddPc_sReserve : presAddPc .sReserve = false := rfl
@[simp] theorem presAddPc_sOnSub : presAddPc .sOnSub = false := rfl
@[simp] theorem presAddPc_sReadGen : presAddPc .sReadGen = false := rfl
@[simp] theorem presAddPc_sCheck1 : presAddPc .sCheck1 = false := rfl
@[simp] theorem presAddPc_sHubAdd : presAddPc .sHubAdd = false := rfl
@[simp] theorem presAddPc_sCheck2 : presAddPc .sCheck2 = false := rfl
@[simp] theorem presAddPc_sPresAdd : presAddPc .sPresAdd = true := rfl
@[simp] theorem presAddPc_sReply : presAddPc .sReply = false := rfl
@[simp] theorem presAddPc_sCommit : presAddPc .sCommit = false := rfl
@[simp] theorem presAddPc_sRbHub : presAddPc .sRbHub = false := rfl
@[simp] theorem presAddPc_sRbPres : presAddPc .sRbPres = false := rfl
@[simp] theorem presAddPc_sRbClose : presAddPc .sRbClose = false := rfl
@[simp] theorem presAddPc_sCloseGate : presAddPc .sCloseGate = false := rfl
@[simp] theorem presAddPc_sDpf : presAddPc .sDpf = false := rfl
@[simp] theorem presAddPc_sPush : presAddPc .sPush = false := rfl
@[simp] theorem presAddPc_sJoin : presAddPc .sJoin = false := rfl
@[simp] theorem presAddPc_sDeferPres : presAddPc .sDeferPres = false := rfl
@[simp] theorem presAddPc_sErrDel : presAddPc .sErrDel = false := rfl
@[simp] theorem presAddPc_sErrHub : presAddPc .sErrHub = false := rfl
@[simp] theorem presAddPc_sErrClose : presAddPc .sErrClose = false := rfl
@[simp] theorem presAddPc_sErrOut : presAddPc .sErrOut = false := rfl
@[simp] theorem presAddPc_uStatus : presAddPc .uStatus = false := rfl
@[simp] theorem presAddPc_uSnap : presAddPc .uSnap = false := rfl
@[simp] theorem presAddPc_uWait : presAddPc .uWait = false := rfl
@[simp] theorem presAddPc_uTmoLog : presAddPc .uTmoLog = false := rfl
@[simp] theorem presAddPc_uRemove : presAddPc .uRemove = false := rfl
@[simp] theorem presAddPc_uPresRm : presAddPc .uPresRm = false := rfl
@[simp] theorem presAddPc_uLeave : presAddPc .uLeave = false := rfl
@[simp] theorem presAddPc_uHubRm : presAddPc .uHubRm = false := rfl
@[simp] theorem presAddPc_uOnUnsub : presAddPc .uOnUnsub = false := rfl
@[simp] theorem presAddPc_uOut : presAddPc .uOut = false := rfl
@[simp] theorem presAddPc_cEnter : presAddPc .cEnter = false := rfl
@[simp] theorem presAddPc_cRemoveClient : presAddPc .cRemoveClient = false := rfl
@[simp] theorem presAddPc_cDpf : presAddPc .cDpf = false := rfl
@[simp] theorem presAddPc_cWriter : presAddPc .cWriter = false := rfl
@[simp] theorem presAddPc_cTClose : presAddPc .cTClose = false := rfl
@[simp] theorem presAddPc_cLoop : presAddPc .cLoop = false := rfl
@[simp] theorem presAddPc_cOnDisc : presAddPc .cOnDisc = false := rfl
@[simp] theorem presAddPc_cExit : presAddPc .cExit = false := rfl
@[simp] theorem presAddPc_done : presAddPc .done = false := rfl
@[simp] theorem presAddPc_ite (c : Prop) [Decidable c] (a b : Pc) :
    presAddPc (if c then a else b) = if c then presAddPc a else presAddPc b := apply_ite presAddPc c a b
@[simp] theorem presAddPc_unsubRetPc (k : Kind) : presAddPc (unsubRetPc k) = false := by
  cases k <;> rfl
@[simp] theorem presAddPc_afterRemove (c : Entry) : presAddPc (afterRemove c) = false :=
  pc_afterRemove c rfl rfl rfl
@[simp] theorem presAddPc_afterCmdFail (t : Thread) : presAddPc (afterCmdFail t) = false :=
  pc_afterCmdFail t rfl rfl
@[simp] theorem presAddPc_afterPres (t : Thread) : presAddPc (afterPres t) = false :=
  pc_afterPres t rfl rfl
@[simp] theorem presAddPc_afterChecks (t : Thread) : presAddPc (afterChecks t) = t.opts.presence := by
  unfold afterChecks; cases t.opts.presence <;> simp <;> split <;> rfl

/-- a subscribe attempt between its reservation and its join -/
def preJoinPc : Pc → Bool
  | .sOnSub | .sReadGen | .sCheck1 | .sHubAdd | .sCheck2 | .sPresAdd | .sReply | .sCommit | .sCloseGate | .sDpf | .sPush | .sJoin => true
  | _ => false
@[simp] theorem preJoinPc_sReserve : preJoinPc .sReserve = false := rfl
@[simp] theorem preJoinPc_sOnSub : preJoinPc .sOnSub = true := rfl
@[simp] theorem preJoinPc_sReadGen : preJoinPc .sReadGen = true := rfl
@[simp] theorem preJoinPc_sCheck1 : preJoinPc .sCheck1 = true := rfl
@[simp] theorem preJoinPc_sHubAdd : preJoinPc .sHubAdd = true := rfl
@[simp] theorem preJoinPc_sCheck2 : preJoinPc .sCheck2 = true := rfl
@[simp] theorem preJoinPc_sPresAdd : preJoinPc .sPresAdd = true := rfl
@[simp] theorem preJoinPc_sReply : preJoinPc .sReply = true := rfl
@[simp] theorem preJoinPc_sCommit : preJoinPc .sCommit = true := rfl
@[simp] theorem preJoinPc_sRbHub : preJoinPc .sRbHub = false := rfl
@[simp] theorem preJoinPc_sRbPres : preJoinPc .sRbPres = false := rfl
@[simp] theorem preJoinPc_sRbClose : preJoinPc .sRbClose = false := rfl
@[simp] theorem preJoinPc_sCloseGate : preJoinPc .sCloseGate = true := rfl
@[simp] theorem preJoinPc_sDpf : preJoinPc .sDpf = true := rfl
@[simp] theorem preJoinPc_sPush : preJoinPc .sPush = true := rfl
@[simp] theorem preJoinPc_sJoin : preJoinPc .sJoin = true := rfl
@[simp] theorem preJoinPc_sDeferPres : preJoinPc .sDeferPres = false := rfl
@[simp] theorem preJoinPc_sErrDel : preJoinPc .sErrDel = false := rfl
@[simp] theorem preJoinPc_sErrHub : preJoinPc .sErrHub = false := rfl
@[simp] theorem preJoinPc_sErrClose : preJoinPc .sErrClose = false := rfl
@[simp] theorem preJoinPc_sErrOut : preJoinPc .sErrOut = false := rfl
@[simp] theorem preJoinPc_uStatus : preJoinPc .uStatus = false := rfl
@[simp] theorem preJoinPc_uSnap : preJoinPc .uSnap = false := rfl
@[simp] theorem preJoinPc_uWait : preJoinPc .uWait = false := rfl
@[simp] theorem preJoinPc_uTmoLog : preJoinPc .uTmoLog = false := rfl
@[simp] theorem preJoinPc_uRemove : preJoinPc .uRemove = false := rfl
@[simp] theorem preJoinPc_uPresRm : preJoinPc .uPresRm = false := rfl
@[simp] theorem preJoinPc_uLeave : preJoinPc .uLeave = false := rfl
@[simp] theorem preJoinPc_uHubRm : preJoinPc .uHubRm = false := rfl
@[simp] theorem preJoinPc_uOnUnsub : preJoinPc .uOnUnsub = false := rfl
@[simp] theorem preJoinPc_uOut : preJoinPc .uOut = false := rfl
@[simp] theorem preJoinPc_cEnter : preJoinPc .cEnter = false := rfl
@[simp] theorem preJoinPc_cRemoveClient : preJoinPc .cRemoveClient = false := rfl
@[simp] theorem preJoinPc_cDpf : preJoinPc .cDpf = false := rfl
@[simp] theorem preJoinPc_cWriter : preJoinPc .cWriter = false := rfl
@[simp] theorem preJoinPc_cTClose : preJoinPc .cTClose = false := rfl
@[simp] theorem preJoinPc_cLoop : preJoinPc .cLoop = false := rfl
@[simp] theorem preJoinPc_cOnDisc : preJoinPc .cOnDisc = false := rfl
@[simp] theorem preJoinPc_cExit : preJoinPc .cExit = false := rfl
@[simp] theorem preJoinPc_done : preJoinPc .done = false := rfl
@[simp] theorem preJoinPc_ite (c : Prop) [Decidable c] (a b : Pc) :
    preJoinPc (if c then a else b) = if c then preJoinPc a else preJoinPc b := apply_ite preJoinPc c a b
@[simp] theorem preJoinPc_unsubRetPc (k : Kind) : preJoinPc (unsubRetPc k) = false := by
  cases k <;> rfl
@[simp] theorem preJoinPc_afterRemove (c : Entry) : preJoinPc (afterRemove c) = false :=
  pc_afterRemove c rfl rfl rfl
@[simp] theorem preJoinPc_afterCmdFail (t : Thread) : preJoinPc (afterCmdFail t) = false :=
  pc_afterCmdFail t rfl rfl
@[simp] theorem preJoinPc_afterChecks (t : Thread) : preJoinPc (afterChecks t) = true :=
  pc_afterChecks t rfl rfl rfl
@[simp] theorem preJoinPc_afterPres (t : Thread) : preJoinPc (afterPres t) = true :=
  pc_afterPres t rfl rfl

/-- `unsubscribe` after its delete and not past `PublishLeave` -/
def preLeavePc : Pc → Bool
  | .uPresRm | .uLeave => true
  | _ => false
@[simp] theorem preLeavePc_sReserve : preLeavePc .sReserve = false := rfl
@[simp] theorem preLeavePc_sOnSub : preLeavePc .sOnSub = false := rfl
@[simp] theorem preLeavePc_sReadGen : preLeavePc .sReadGen = false := rfl
@[simp] theorem preLeavePc_sCheck1 : preLeavePc .sCheck1 = false := rfl
@[simp] theorem preLeavePc_sHubAdd : preLeavePc .sHubAdd = false := rfl
@[simp] theorem preLeavePc_sCheck2 : preLeavePc .sCheck2 = false := rfl
@[simp] theorem preLeavePc_sPresAdd : preLeavePc .sPresAdd = false := rfl
@[simp] theorem preLeavePc_sReply : preLeavePc .sReply = false := rfl
@[simp] theorem preLeavePc_sCommit : preLeavePc .sCommit = false := rfl
@[simp] theorem preLeavePc_sRbHub : preLeavePc .sRbHub = false := rfl
@[simp] theorem preLeavePc_sRbPres : preLeavePc .sRbPres = false := rfl
@[simp] theorem preLeavePc_sRbClose : preLeavePc .sRbClose = false := rfl
@[simp] theorem preLeavePc_sCloseGate : preLeavePc .sCloseGate = false := rfl
@[simp] theorem preLeavePc_sDpf : preLeavePc .sDpf = false := rfl
@[simp] theorem preLeavePc_sPush : preLeavePc .sPush = false := rfl
@[simp] theorem preLeavePc_sJoin : preLeavePc .sJoin = false := rfl
@[simp] theorem preLeavePc_sDeferPres : preLeavePc .sDeferPres = false := rfl
@[simp] theorem preLeavePc_sErrDel : preLeavePc .sErrDel = false := rfl
@[simp] theorem preLeavePc_sErrHub : preLeavePc .sErrHub = false := rfl
@[simp] theorem preLeavePc_sErrClose : preLeavePc .sErrClose = false := rfl
@[simp] theorem preLeavePc_sErrOut : preLeavePc .sErrOut = false := rfl
@[simp] theorem preLeavePc_uStatus : preLeavePc .uStatus = false := rfl
@[simp] theorem preLeavePc_uSnap : preLeavePc .uSnap = false := rfl
@[simp] theorem preLeavePc_uWait : preLeavePc .uWait = false := rfl
@[simp] theorem preLeavePc_uTmoLog : preLeavePc .uTmoLog = false := rfl
@[simp] theorem preLeavePc_uRemove : preLeavePc .uRemove = false := rfl
@[simp] theorem preLeavePc_uPresRm : preLeavePc .uPresRm = true := rfl
@[simp] theorem preLeavePc_uLeave : preLeavePc .uLeave = true := rfl
@[simp] theorem preLeavePc_uHubRm : preLeavePc .uHubRm = false := rfl
@[simp] theorem preLeavePc_uOnUnsub : preLeavePc .uOnUnsub = false := rfl
@[simp] theorem preLeavePc_uOut : preLeavePc .uOut = false := rfl
@[simp] theorem preLeavePc_cEnter : preLeavePc .cEnter = false := rfl
@[simp] theorem preLeavePc_cRemoveClient : preLeavePc .cRemoveClient = false := rfl
@[simp] theorem preLeavePc_cDpf : preLeavePc .cDpf = false := rfl
@[simp] theorem preLeavePc_cWriter : preLeavePc .cWriter = false := rfl
@[simp] theorem preLeavePc_cTClose : preLeavePc .cTClose = false := rfl
@[simp] theorem preLeavePc_cLoop : preLeavePc .cLoop = false := rfl
@[simp] theorem preLeavePc_cOnDisc : preLeavePc .cOnDisc = false := rfl
@[simp] theorem preLeavePc_cExit : preLeavePc .cExit = false := rfl
@[simp] theorem preLeavePc_done : preLeavePc .done = false := rfl
@[simp] theorem preLeavePc_ite (c : Prop) [Decidable c] (a b : Pc) :
    preLeavePc (if c then a else b) = if c then preLeavePc a else preLeavePc b := apply_ite preLeavePc c a b
@[simp] theorem preLeavePc_unsubRetPc (k : Kind) : preLeavePc (unsubRetPc k) = false := by
  cases k <;> rfl
@[simp] theorem preLeavePc_afterCmdFail (t : Thread) : preLeavePc (afterCmdFail t) = false :=
  pc_afterCmdFail t rfl rfl
@[simp] theorem preLeavePc_afterChecks (t : Thread) : preLeavePc (afterChecks t) = false :=
  pc_afterChecks t rfl rfl rfl
@[simp] theorem preLeavePc_afterPres (t : Thread) : preLeavePc (afterPres t) = false :=
  pc_afterPres t rfl rfl

/-- a subscribe attempt after `commitSubscription` installed its context -/
def postCommitPc : Pc → Bool
  | .sCloseGate | .sDpf | .sPush | .sJoin => true
  | _ => false
@[simp] theorem postCommitPc_sReserve : postCommitPc .sReserve = false := rfl
@[simp] theorem postCommitPc_sOnSub : postCommitPc .sOnSub = false := rfl
@[simp] theorem postCommitPc_sReadGen : postCommitPc .sReadGen = false := rfl
@[simp] theorem postCommitPc_sCheck1 : postCommitPc .sCheck1 = false := rfl
@[simp] theorem postCommitPc_sHubAdd : postCommitPc .sHubAdd = false := rfl
@[simp] theorem postCommitPc_sCheck2 : postCommitPc .sCheck2 = false := rfl
@[simp] theorem postCommitPc_sPresAdd : postCommitPc .sPresAdd = false := rfl
@[simp] theorem postCommitPc_sReply : postCommitPc .sReply = false := rfl
@[simp] theorem postCommitPc_sCommit : postCommitPc .sCommit = false := rfl
@[simp] theorem postCommitPc_sRbHub : postCommitPc .sRbHub = false := rfl
@[simp] theorem postCommitPc_sRbPres : postCommitPc .sRbPres = false := rfl
@[simp] theorem postCommitPc_sRbClose : postCommitPc .sRbClose = false := rfl
@[simp] theorem postCommitPc_sCloseGate : postCommitPc .sCloseGate = true := rfl
@[simp] theorem postCommitPc_sDpf : postCommitPc .sDpf = true := rfl
@[simp] theorem postCommitPc_sPush : postCommitPc .sPush = true := rfl
@[simp] theorem postCommitPc_sJoin : postCommitPc .sJoin = true := rfl
@[simp] theorem postCommitPc_sDeferPres : postCommitPc .sDeferPres = false := rfl
@[simp] theorem postCommitPc_sErrDel : postCommitPc .sErrDel = false := rfl
@[simp] theorem postCommitPc_sErrHub : postCommitPc .sErrHub = false := rfl
@[simp] theorem postCommitPc_sErrClose : postCommitPc .sErrClose = false := rfl
@[simp] theorem postCommitPc_sErrOut : postCommitPc .sErrOut = false := rfl
@[simp] theorem postCommitPc_uStatus : postCommitPc .uStatus = false := rfl
@[simp] theorem postCommitPc_uSnap : postCommitPc .uSnap = false := rfl
@[simp] theorem postCommitPc_uWait : postCommitPc .uWait = false := rfl
@[simp] theorem postCommitPc_uTmoLog : postCommitPc .uTmoLog = false := rfl
@[simp] theorem postCommitPc_uRemove : postCommitPc .uRemove = false := rfl
@[simp] theorem postCommitPc_uPresRm : postCommitPc .uPresRm = false := rfl
@[simp] theorem postCommitPc_uLeave : postCommitPc .uLeave = false := rfl
@[simp] theorem postCommitPc_uHubRm : postCommitPc .uHubRm = false := rfl
@[simp] theorem postCommitPc_uOnUnsub : postCommitPc .uOnUnsub = false := rfl
@[simp] theorem postCommitPc_uOut : postCommitPc .uOut = false := rfl
@[simp] theorem postCommitPc_cEnter : postCommitPc .cEnter = false := rfl
@[simp] theorem postCommitPc_cRemoveClient : postCommitPc .cRemoveClient = false := rfl
@[simp] theorem postCommitPc_cDpf : postCommitPc .cDpf = false := rfl
@[simp] theorem postCommitPc_cWriter : postCommitPc .cWriter = false := rfl
@[simp] theorem postCommitPc_cTClose : postCommitPc .cTClose = false := rfl
@[simp] theorem postCommitPc_cLoop : postCommitPc .cLoop = false := rfl
@[simp] theorem postCommitPc_cOnDisc : postCommitPc .cOnDisc = false := rfl
@[simp] theorem postCommitPc_cExit : postCommitPc .cExit = false := rfl
@[simp] theorem postCommitPc_done : postCommitPc .done = false := rfl
@[simp] theorem postCommitPc_ite (c : Prop) [Decidable c] (a b : Pc) :
    postCommitPc (if c then a else b) = if c then postCommitPc a else postCommitPc b := apply_ite postCommitPc c a b
@[simp] theorem postCommitPc_unsubRetPc (k : Kind) : postCommitPc (unsubRetPc k) = false := by
  cases k <;> rfl
@[simp] theorem postCommitPc_afterRemove (c : Entry) : postCommitPc (afterRemove c) = false :=
  pc_afterRemove c rfl rfl rfl
@[simp] theorem postCommitPc_afterCmdFail (t : Thread) : postCommitPc (afterCmdFail t) = false :=
  pc_afterCmdFail t rfl rfl
@[simp] theorem postCommitPc_afterChecks (t : Thread) : postCommitPc (afterChecks t) = false :=
  pc_afterChecks t rfl rfl rfl
@[simp] theorem postCommitPc_afterPres (t : Thread) : postCommitPc (afterPres t) = false :=
  pc_afterPres t rfl rfl

end CentrifugeVerif.SubProto
