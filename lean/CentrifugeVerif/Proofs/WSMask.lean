import CentrifugeVerif.Model.WS.Writer
/-! Lemmas about masking (`xorMask`, the word-at-a-time `maskWordsGo`). -/
namespace CentrifugeVerif.WS

theorem Key.get_add_four (k : Key) (i : Nat) : k.get (i + 4) = k.get i := by
  unfold Key.get; rw [Nat.add_mod_right]

theorem Key.get_mod (k : Key) (i : Nat) : k.get (i % 4) = k.get i := by
  unfold Key.get; rw [Nat.mod_mod]

theorem Key.get_congr (k : Key) {i j : Nat} (h : i % 4 = j % 4) : k.get i = k.get j := by
  unfold Key.get; rw [h]

theorem xorMask_length (k : Key) (pos : Nat) (bs : Bytes) : (xorMask k pos bs).length = bs.length := by
  induction bs generalizing pos with
  | nil => rfl
  | cons b bs ih => simp [xorMask, ih]

theorem xorMask_congr (k : Key) {p q : Nat} (h : p % 4 = q % 4) (bs : Bytes) :
    xorMask k p bs = xorMask k q bs := by
  induction bs generalizing p q with
  | nil => rfl
  | cons b bs ih =>
    simp only [xorMask]
    rw [Key.get_congr k h, ih (p := p + 1) (q := q + 1) (by omega)]

theorem xorMask_append (k : Key) (pos : Nat) (a b : Bytes) :
    xorMask k pos (a ++ b) = xorMask k pos a ++ xorMask k (pos + a.length) b := by
  induction a generalizing pos with
  | nil => simp [xorMask]
  | cons x xs ih =>
    simp only [List.cons_append, xorMask, List.length_cons]
    rw [ih]
    have : pos + 1 + xs.length = pos + (xs.length + 1) := by omega
    rw [this]

theorem xorMask_involutive (k : Key) (pos : Nat) (bs : Bytes) :
    xorMask k pos (xorMask k pos bs) = bs := by
  induction bs generalizing pos with
  | nil => rfl
  | cons b bs ih =>
    simp only [xorMask, ih]
    congr 1
    rw [UInt8.xor_assoc, UInt8.xor_self, UInt8.xor_zero]

theorem xorMask_zero (pos : Nat) (bs : Bytes) : xorMask Key.zero pos bs = bs := by
  induction bs generalizing pos with
  | nil => rfl
  | cons b bs ih =>
    have : Key.zero.get pos = 0 := by
      unfold Key.get Key.zero
      split <;> rfl
    rw [xorMask, ih, this, UInt8.xor_zero]

theorem xorMask_take (k : Key) (pos n : Nat) (bs : Bytes) :
    (xorMask k pos bs).take n = xorMask k pos (bs.take n) := by
  induction bs generalizing pos n with
  | nil => simp [xorMask]
  | cons b bs ih =>
    cases n with
    | zero => simp [xorMask]
    | succ n => simp [xorMask, ih]

theorem xorMask_drop (k : Key) (pos n : Nat) (bs : Bytes) :
    (xorMask k pos bs).drop n = xorMask k (pos + n) (bs.drop n) := by
  induction bs generalizing pos n with
  | nil => simp [xorMask]
  | cons b bs ih =>
    cases n with
    | zero => simp
    | succ n =>
      simp only [xorMask, List.drop_succ_cons, ih]
      congr 1
      omega

/-- masking with the rotated key `⟨k[p], k[p+1], k[p+2], k[p+3]⟩` from position 0 is masking with
`k` from position `p` (the "aligned word size key" of mask.go) -/
theorem xorMask_rotated (k : Key) (p q : Nat) (bs : Bytes) :
    xorMask ⟨k.get p, k.get (p + 1), k.get (p + 2), k.get (p + 3)⟩ q bs = xorMask k (p + q) bs := by
  induction bs generalizing q with
  | nil => rfl
  | cons b bs ih =>
    simp only [xorMask]
    rw [ih (q + 1)]
    have hk : (⟨k.get p, k.get (p + 1), k.get (p + 2), k.get (p + 3)⟩ : Key).get q = k.get (p + q) := by
      have hq : q % 4 < 4 := Nat.mod_lt _ (by omega)
      have h4 : k.get (p + q) = k.get (p + q % 4) := Key.get_congr k (by omega)
      rw [h4]
      generalize hr : q % 4 = r at hq
      have : r = 0 ∨ r = 1 ∨ r = 2 ∨ r = 3 := by omega
      rcases this with h | h | h | h <;> subst h <;> simp [Key.get, hr]
    rw [hk]
    congr 2

end CentrifugeVerif.WS
