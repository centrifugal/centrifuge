import CentrifugeVerif.Model.SubProto
/-!
Projection lemmas: which state fields each primitive effect leaves untouched, and the
value of the fields it changes.  All are `simp` lemmas so that `applyEffs` over a concrete effect list
can be evaluated field by field.
-/
namespace CentrifugeVerif.SubProto

@[simp] theorem applyEffs_nil (s : State) : applyEffs s [] = s := rfl
@[simp] theorem applyEffs_cons (s : State) (e : Eff) (es : List Eff) : applyEffs s (e :: es) = applyEffs (applyEff s e) es := rfl
@[simp] theorem applyEffs_append (s : State) (a b : List Eff) : applyEffs s (a ++ b) = applyEffs (applyEffs s a) b := by
  simp [applyEffs, List.foldl_append]


/-! The effects with a case distinction inside, as one record update each. -/

theorem applyEff_hubSet (s : State) (ch : Chan) (g : Gen) : applyEff s (.hubSet ch g) =
    { s with hub := aset s.hub ch g, subGauge := if (aget s.hub ch).isSome then s.subGauge else s.subGauge + 1 } := by
  simp only [applyEff]; split <;> simp [*]

theorem applyEff_hubDelIf (s : State) (ch : Chan) (g : Gen) : applyEff s (.hubDelIf ch g) =
    { s with hub := if aget s.hub ch = some g then adel s.hub ch else s.hub,
             subGauge := if aget s.hub ch = some g then s.subGauge - 1 else s.subGauge } := by
  cases s; simp only [applyEff]; split <;> simp_all
  split <;> simp_all

theorem applyEff_closeGate (s : State) (g : Gen) : applyEff s (.closeGate g) =
    { s with panicked := s.panicked || decide (g ∈ s.closedGates),
             closedGates := if g ∈ s.closedGates then s.closedGates else g :: s.closedGates } := by
  simp only [applyEff]; split <;> simp [*]

theorem applyEff_unregister (s : State) : applyEff s .unregister =
    { s with registered := false, connGauge := if s.registered then s.connGauge - 1 else s.connGauge } := by
  cases s; simp only [applyEff]; split <;> simp_all

@[simp] theorem applyEff_mint_status (s : State) : (applyEff s (Eff.mint)).status = s.status := by rfl
@[simp] theorem applyEff_mint_registered (s : State) : (applyEff s (Eff.mint)).registered = s.registered := by rfl
@[simp] theorem applyEff_mint_connGauge (s : State) : (applyEff s (Eff.mint)).connGauge = s.connGauge := by rfl
@[simp] theorem applyEff_mint_subGauge (s : State) : (applyEff s (Eff.mint)).subGauge = s.subGauge := by rfl
@[simp] theorem applyEff_mint_writerClosed (s : State) : (applyEff s (Eff.mint)).writerClosed = s.writerClosed := by rfl
@[simp] theorem applyEff_mint_connectMu (s : State) : (applyEff s (Eff.mint)).connectMu = s.connectMu := by rfl
@[simp] theorem applyEff_mint_channels (s : State) : (applyEff s (Eff.mint)).channels = s.channels := by rfl
@[simp] theorem applyEff_mint_hub (s : State) : (applyEff s (Eff.mint)).hub = s.hub := by rfl
@[simp] theorem applyEff_mint_presence (s : State) : (applyEff s (Eff.mint)).presence = s.presence := by rfl
@[simp] theorem applyEff_mint_closedGates (s : State) : (applyEff s (Eff.mint)).closedGates = s.closedGates := by rfl
@[simp] theorem applyEff_mint_threads (s : State) : (applyEff s (Eff.mint)).threads = s.threads := by rfl
@[simp] theorem applyEff_mint_nextTid (s : State) : (applyEff s (Eff.mint)).nextTid = s.nextTid := by rfl
@[simp] theorem applyEff_mint_log (s : State) : (applyEff s (Eff.mint)).log = s.log := by rfl
@[simp] theorem applyEff_mint_panicked (s : State) : (applyEff s (Eff.mint)).panicked = s.panicked := by rfl
@[simp] theorem applyEff_chanSet_status (s : State) (ch : Chan) (e : Entry) : (applyEff s (Eff.chanSet ch e)).status = s.status := by rfl
@[simp] theorem applyEff_chanSet_registered (s : State) (ch : Chan) (e : Entry) : (applyEff s (Eff.chanSet ch e)).registered = s.registered := by rfl
@[simp] theorem applyEff_chanSet_connGauge (s : State) (ch : Chan) (e : Entry) : (applyEff s (Eff.chanSet ch e)).connGauge = s.connGauge := by rfl
@[simp] theorem applyEff_chanSet_subGauge (s : State) (ch : Chan) (e : Entry) : (applyEff s (Eff.chanSet ch e)).subGauge = s.subGauge := by rfl
@[simp] theorem applyEff_chanSet_writerClosed (s : State) (ch : Chan) (e : Entry) : (applyEff s (Eff.chanSet ch e)).writerClosed = s.writerClosed := by rfl
@[simp] theorem applyEff_chanSet_connectMu (s : State) (ch : Chan) (e : Entry) : (applyEff s (Eff.chanSet ch e)).connectMu = s.connectMu := by rfl
@[simp] theorem applyEff_chanSet_genCounter (s : State) (ch : Chan) (e : Entry) : (applyEff s (Eff.chanSet ch e)).genCounter = s.genCounter := by rfl
@[simp] theorem applyEff_chanSet_hub (s : State) (ch : Chan) (e : Entry) : (applyEff s (Eff.chanSet ch e)).hub = s.hub := by rfl
@[simp] theorem applyEff_chanSet_presence (s : State) (ch : Chan) (e : Entry) : (applyEff s (Eff.chanSet ch e)).presence = s.presence := by rfl
@[simp] theorem applyEff_chanSet_closedGates (s : State) (ch : Chan) (e : Entry) : (applyEff s (Eff.chanSet ch e)).closedGates = s.closedGates := by rfl
@[simp] theorem applyEff_chanSet_threads (s : State) (ch : Chan) (e : Entry) : (applyEff s (Eff.chanSet ch e)).threads = s.threads := by rfl
@[simp] theorem applyEff_chanSet_nextTid (s : State) (ch : Chan) (e : Entry) : (applyEff s (Eff.chanSet ch e)).nextTid = s.nextTid := by rfl
@[simp] theorem applyEff_chanSet_log (s : State) (ch : Chan) (e : Entry) : (applyEff s (Eff.chanSet ch e)).log = s.log := by rfl
@[simp] theorem applyEff_chanSet_panicked (s : State) (ch : Chan) (e : Entry) : (applyEff s (Eff.chanSet ch e)).panicked = s.panicked := by rfl
@[simp] theorem applyEff_chanDel_status (s : State) (ch : Chan) : (applyEff s (Eff.chanDel ch)).status = s.status := by rfl
@[simp] theorem applyEff_chanDel_registered (s : State) (ch : Chan) : (applyEff s (Eff.chanDel ch)).registered = s.registered := by rfl
@[simp] theorem applyEff_chanDel_connGauge (s : State) (ch : Chan) : (applyEff s (Eff.chanDel ch)).connGauge = s.connGauge := by rfl
@[simp] theorem applyEff_chanDel_subGauge (s : State) (ch : Chan) : (applyEff s (Eff.chanDel ch)).subGauge = s.subGauge := by rfl
@[simp] theorem applyEff_chanDel_writerClosed (s : State) (ch : Chan) : (applyEff s (Eff.chanDel ch)).writerClosed = s.writerClosed := by rfl
@[simp] theorem applyEff_chanDel_connectMu (s : State) (ch : Chan) : (applyEff s (Eff.chanDel ch)).connectMu = s.connectMu := by rfl
@[simp] theorem applyEff_chanDel_genCounter (s : State) (ch : Chan) : (applyEff s (Eff.chanDel ch)).genCounter = s.genCounter := by rfl
@[simp] theorem applyEff_chanDel_hub (s : State) (ch : Chan) : (applyEff s (Eff.chanDel ch)).hub = s.hub := by rfl
@[simp] theorem applyEff_chanDel_presence (s : State) (ch : Chan) : (applyEff s (Eff.chanDel ch)).presence = s.presence := by rfl
@[simp] theorem applyEff_chanDel_closedGates (s : State) (ch : Chan) : (applyEff s (Eff.chanDel ch)).closedGates = s.closedGates := by rfl
@[simp] theorem applyEff_chanDel_threads (s : State) (ch : Chan) : (applyEff s (Eff.chanDel ch)).threads = s.threads := by rfl
@[simp] theorem applyEff_chanDel_nextTid (s : State) (ch : Chan) : (applyEff s (Eff.chanDel ch)).nextTid = s.nextTid := by rfl
@[simp] theorem applyEff_chanDel_log (s : State) (ch : Chan) : (applyEff s (Eff.chanDel ch)).log = s.log := by rfl
@[simp] theorem applyEff_chanDel_panicked (s : State) (ch : Chan) : (applyEff s (Eff.chanDel ch)).panicked = s.panicked := by rfl
@[simp] theorem applyEff_hubSet_status (s : State) (ch : Chan) (g : Gen) : (applyEff s (Eff.hubSet ch g)).status = s.status := by
  rw [applyEff_hubSet]
@[simp] theorem applyEff_hubSet_registered (s : State) (ch : Chan) (g : Gen) : (applyEff s (Eff.hubSet ch g)).registered = s.registered := by
  rw [applyEff_hubSet]
@[simp] theorem applyEff_hubSet_connGauge (s : State) (ch : Chan) (g : Gen) : (applyEff s (Eff.hubSet ch g)).connGauge = s.connGauge := by
  rw [applyEff_hubSet]
@[simp] theorem applyEff_hubSet_writerClosed (s : State) (ch : Chan) (g : Gen) : (applyEff s (Eff.hubSet ch g)).writerClosed = s.writerClosed := by
  rw [applyEff_hubSet]
@[simp] theorem applyEff_hubSet_connectMu (s : State) (ch : Chan) (g : Gen) : (applyEff s (Eff.hubSet ch g)).connectMu = s.connectMu := by
  rw [applyEff_hubSet]
@[simp] theorem applyEff_hubSet_genCounter (s : State) (ch : Chan) (g : Gen) : (applyEff s (Eff.hubSet ch g)).genCounter = s.genCounter := by
  rw [applyEff_hubSet]
@[simp] theorem applyEff_hubSet_channels (s : State) (ch : Chan) (g : Gen) : (applyEff s (Eff.hubSet ch g)).channels = s.channels := by
  rw [applyEff_hubSet]
@[simp] theorem applyEff_hubSet_presence (s : State) (ch : Chan) (g : Gen) : (applyEff s (Eff.hubSet ch g)).presence = s.presence := by
  rw [applyEff_hubSet]
@[simp] theorem applyEff_hubSet_closedGates (s : State) (ch : Chan) (g : Gen) : (applyEff s (Eff.hubSet ch g)).closedGates = s.closedGates := by
  rw [applyEff_hubSet]
@[simp] theorem applyEff_hubSet_threads (s : State) (ch : Chan) (g : Gen) : (applyEff s (Eff.hubSet ch g)).threads = s.threads := by
  rw [applyEff_hubSet]
@[simp] theorem applyEff_hubSet_nextTid (s : State) (ch : Chan) (g : Gen) : (applyEff s (Eff.hubSet ch g)).nextTid = s.nextTid := by
  rw [applyEff_hubSet]
@[simp] theorem applyEff_hubSet_log (s : State) (ch : Chan) (g : Gen) : (applyEff s (Eff.hubSet ch g)).log = s.log := by
  rw [applyEff_hubSet]
@[simp] theorem applyEff_hubSet_panicked (s : State) (ch : Chan) (g : Gen) : (applyEff s (Eff.hubSet ch g)).panicked = s.panicked := by
  rw [applyEff_hubSet]
@[simp] theorem applyEff_hubDelIf_status (s : State) (ch : Chan) (g : Gen) : (applyEff s (Eff.hubDelIf ch g)).status = s.status := by
  rw [applyEff_hubDelIf]
@[simp] theorem applyEff_hubDelIf_registered (s : State) (ch : Chan) (g : Gen) : (applyEff s (Eff.hubDelIf ch g)).registered = s.registered := by
  rw [applyEff_hubDelIf]
@[simp] theorem applyEff_hubDelIf_connGauge (s : State) (ch : Chan) (g : Gen) : (applyEff s (Eff.hubDelIf ch g)).connGauge = s.connGauge := by
  rw [applyEff_hubDelIf]
@[simp] theorem applyEff_hubDelIf_writerClosed (s : State) (ch : Chan) (g : Gen) : (applyEff s (Eff.hubDelIf ch g)).writerClosed = s.writerClosed := by
  rw [applyEff_hubDelIf]
@[simp] theorem applyEff_hubDelIf_connectMu (s : State) (ch : Chan) (g : Gen) : (applyEff s (Eff.hubDelIf ch g)).connectMu = s.connectMu := by
  rw [applyEff_hubDelIf]
@[simp] theorem applyEff_hubDelIf_genCounter (s : State) (ch : Chan) (g : Gen) : (applyEff s (Eff.hubDelIf ch g)).genCounter = s.genCounter := by
  rw [applyEff_hubDelIf]
@[simp] theorem applyEff_hubDelIf_channels (s : State) (ch : Chan) (g : Gen) : (applyEff s (Eff.hubDelIf ch g)).channels = s.channels := by
  rw [applyEff_hubDelIf]
@[simp] theorem applyEff_hubDelIf_presence (s : State) (ch : Chan) (g : Gen) : (applyEff s (Eff.hubDelIf ch g)).presence = s.presence := by
  rw [applyEff_hubDelIf]
@[simp] theorem applyEff_hubDelIf_closedGates (s : State) (ch : Chan) (g : Gen) : (applyEff s (Eff.hubDelIf ch g)).closedGates = s.closedGates := by
  rw [applyEff_hubDelIf]
@[simp] theorem applyEff_hubDelIf_threads (s : State) (ch : Chan) (g : Gen) : (applyEff s (Eff.hubDelIf ch g)).threads = s.threads := by
  rw [applyEff_hubDelIf]
@[simp] theorem applyEff_hubDelIf_nextTid (s : State) (ch : Chan) (g : Gen) : (applyEff s (Eff.hubDelIf ch g)).nextTid = s.nextTid := by
  rw [applyEff_hubDelIf]
@[simp] theorem applyEff_hubDelIf_log (s : State) (ch : Chan) (g : Gen) : (applyEff s (Eff.hubDelIf ch g)).log = s.log := by
  rw [applyEff_hubDelIf]
@[simp] theorem applyEff_hubDelIf_panicked (s : State) (ch : Chan) (g : Gen) : (applyEff s (Eff.hubDelIf ch g)).panicked = s.panicked := by
  rw [applyEff_hubDelIf]
@[simp] theorem applyEff_presAdd_status (s : State) (ch : Chan) : (applyEff s (Eff.presAdd ch)).status = s.status := by rfl
@[simp] theorem applyEff_presAdd_registered (s : State) (ch : Chan) : (applyEff s (Eff.presAdd ch)).registered = s.registered := by rfl
@[simp] theorem applyEff_presAdd_connGauge (s : State) (ch : Chan) : (applyEff s (Eff.presAdd ch)).connGauge = s.connGauge := by rfl
@[simp] theorem applyEff_presAdd_subGauge (s : State) (ch : Chan) : (applyEff s (Eff.presAdd ch)).subGauge = s.subGauge := by rfl
@[simp] theorem applyEff_presAdd_writerClosed (s : State) (ch : Chan) : (applyEff s (Eff.presAdd ch)).writerClosed = s.writerClosed := by rfl
@[simp] theorem applyEff_presAdd_connectMu (s : State) (ch : Chan) : (applyEff s (Eff.presAdd ch)).connectMu = s.connectMu := by rfl
@[simp] theorem applyEff_presAdd_genCounter (s : State) (ch : Chan) : (applyEff s (Eff.presAdd ch)).genCounter = s.genCounter := by rfl
@[simp] theorem applyEff_presAdd_channels (s : State) (ch : Chan) : (applyEff s (Eff.presAdd ch)).channels = s.channels := by rfl
@[simp] theorem applyEff_presAdd_hub (s : State) (ch : Chan) : (applyEff s (Eff.presAdd ch)).hub = s.hub := by rfl
@[simp] theorem applyEff_presAdd_closedGates (s : State) (ch : Chan) : (applyEff s (Eff.presAdd ch)).closedGates = s.closedGates := by rfl
@[simp] theorem applyEff_presAdd_threads (s : State) (ch : Chan) : (applyEff s (Eff.presAdd ch)).threads = s.threads := by rfl
@[simp] theorem applyEff_presAdd_nextTid (s : State) (ch : Chan) : (applyEff s (Eff.presAdd ch)).nextTid = s.nextTid := by rfl
@[simp] theorem applyEff_presAdd_log (s : State) (ch : Chan) : (applyEff s (Eff.presAdd ch)).log = s.log := by rfl
@[simp] theorem applyEff_presAdd_panicked (s : State) (ch : Chan) : (applyEff s (Eff.presAdd ch)).panicked = s.panicked := by rfl
@[simp] theorem applyEff_presDel_status (s : State) (ch : Chan) : (applyEff s (Eff.presDel ch)).status = s.status := by rfl
@[simp] theorem applyEff_presDel_registered (s : State) (ch : Chan) : (applyEff s (Eff.presDel ch)).registered = s.registered := by rfl
@[simp] theorem applyEff_presDel_connGauge (s : State) (ch : Chan) : (applyEff s (Eff.presDel ch)).connGauge = s.connGauge := by rfl
@[simp] theorem applyEff_presDel_subGauge (s : State) (ch : Chan) : (applyEff s (Eff.presDel ch)).subGauge = s.subGauge := by rfl
@[simp] theorem applyEff_presDel_writerClosed (s : State) (ch : Chan) : (applyEff s (Eff.presDel ch)).writerClosed = s.writerClosed := by rfl
@[simp] theorem applyEff_presDel_connectMu (s : State) (ch : Chan) : (applyEff s (Eff.presDel ch)).connectMu = s.connectMu := by rfl
@[simp] theorem applyEff_presDel_genCounter (s : State) (ch : Chan) : (applyEff s (Eff.presDel ch)).genCounter = s.genCounter := by rfl
@[simp] theorem applyEff_presDel_channels (s : State) (ch : Chan) : (applyEff s (Eff.presDel ch)).channels = s.channels := by rfl
@[simp] theorem applyEff_presDel_hub (s : State) (ch : Chan) : (applyEff s (Eff.presDel ch)).hub = s.hub := by rfl
@[simp] theorem applyEff_presDel_closedGates (s : State) (ch : Chan) : (applyEff s (Eff.presDel ch)).closedGates = s.closedGates := by rfl
@[simp] theorem applyEff_presDel_threads (s : State) (ch : Chan) : (applyEff s (Eff.presDel ch)).threads = s.threads := by rfl
@[simp] theorem applyEff_presDel_nextTid (s : State) (ch : Chan) : (applyEff s (Eff.presDel ch)).nextTid = s.nextTid := by rfl
@[simp] theorem applyEff_presDel_log (s : State) (ch : Chan) : (applyEff s (Eff.presDel ch)).log = s.log := by rfl
@[simp] theorem applyEff_presDel_panicked (s : State) (ch : Chan) : (applyEff s (Eff.presDel ch)).panicked = s.panicked := by rfl
@[simp] theorem applyEff_closeGate_status (s : State) (g : Gen) : (applyEff s (Eff.closeGate g)).status = s.status := by
  rw [applyEff_closeGate]
@[simp] theorem applyEff_closeGate_registered (s : State) (g : Gen) : (applyEff s (Eff.closeGate g)).registered = s.registered := by
  rw [applyEff_closeGate]
@[simp] theorem applyEff_closeGate_connGauge (s : State) (g : Gen) : (applyEff s (Eff.closeGate g)).connGauge = s.connGauge := by
  rw [applyEff_closeGate]
@[simp] theorem applyEff_closeGate_subGauge (s : State) (g : Gen) : (applyEff s (Eff.closeGate g)).subGauge = s.subGauge := by
  rw [applyEff_closeGate]
@[simp] theorem applyEff_closeGate_writerClosed (s : State) (g : Gen) : (applyEff s (Eff.closeGate g)).writerClosed = s.writerClosed := by
  rw [applyEff_closeGate]
@[simp] theorem applyEff_closeGate_connectMu (s : State) (g : Gen) : (applyEff s (Eff.closeGate g)).connectMu = s.connectMu := by
  rw [applyEff_closeGate]
@[simp] theorem applyEff_closeGate_genCounter (s : State) (g : Gen) : (applyEff s (Eff.closeGate g)).genCounter = s.genCounter := by
  rw [applyEff_closeGate]
@[simp] theorem applyEff_closeGate_channels (s : State) (g : Gen) : (applyEff s (Eff.closeGate g)).channels = s.channels := by
  rw [applyEff_closeGate]
@[simp] theorem applyEff_closeGate_hub (s : State) (g : Gen) : (applyEff s (Eff.closeGate g)).hub = s.hub := by
  rw [applyEff_closeGate]
@[simp] theorem applyEff_closeGate_presence (s : State) (g : Gen) : (applyEff s (Eff.closeGate g)).presence = s.presence := by
  rw [applyEff_closeGate]
@[simp] theorem applyEff_closeGate_threads (s : State) (g : Gen) : (applyEff s (Eff.closeGate g)).threads = s.threads := by
  rw [applyEff_closeGate]
@[simp] theorem applyEff_closeGate_nextTid (s : State) (g : Gen) : (applyEff s (Eff.closeGate g)).nextTid = s.nextTid := by
  rw [applyEff_closeGate]
@[simp] theorem applyEff_closeGate_log (s : State) (g : Gen) : (applyEff s (Eff.closeGate g)).log = s.log := by
  rw [applyEff_closeGate]
@[simp] theorem applyEff_log_status (s : State) (ev : Ev) : (applyEff s (Eff.log ev)).status = s.status := by rfl
@[simp] theorem applyEff_log_registered (s : State) (ev : Ev) : (applyEff s (Eff.log ev)).registered = s.registered := by rfl
@[simp] theorem applyEff_log_connGauge (s : State) (ev : Ev) : (applyEff s (Eff.log ev)).connGauge = s.connGauge := by rfl
@[simp] theorem applyEff_log_subGauge (s : State) (ev : Ev) : (applyEff s (Eff.log ev)).subGauge = s.subGauge := by rfl
@[simp] theorem applyEff_log_writerClosed (s : State) (ev : Ev) : (applyEff s (Eff.log ev)).writerClosed = s.writerClosed := by rfl
@[simp] theorem applyEff_log_connectMu (s : State) (ev : Ev) : (applyEff s (Eff.log ev)).connectMu = s.connectMu := by rfl
@[simp] theorem applyEff_log_genCounter (s : State) (ev : Ev) : (applyEff s (Eff.log ev)).genCounter = s.genCounter := by rfl
@[simp] theorem applyEff_log_channels (s : State) (ev : Ev) : (applyEff s (Eff.log ev)).channels = s.channels := by rfl
@[simp] theorem applyEff_log_hub (s : State) (ev : Ev) : (applyEff s (Eff.log ev)).hub = s.hub := by rfl
@[simp] theorem applyEff_log_presence (s : State) (ev : Ev) : (applyEff s (Eff.log ev)).presence = s.presence := by rfl
@[simp] theorem applyEff_log_closedGates (s : State) (ev : Ev) : (applyEff s (Eff.log ev)).closedGates = s.closedGates := by rfl
@[simp] theorem applyEff_log_threads (s : State) (ev : Ev) : (applyEff s (Eff.log ev)).threads = s.threads := by rfl
@[simp] theorem applyEff_log_nextTid (s : State) (ev : Ev) : (applyEff s (Eff.log ev)).nextTid = s.nextTid := by rfl
@[simp] theorem applyEff_log_panicked (s : State) (ev : Ev) : (applyEff s (Eff.log ev)).panicked = s.panicked := by rfl
@[simp] theorem applyEff_markClosed_registered (s : State) (tid : Tid) : (applyEff s (Eff.markClosed tid)).registered = s.registered := by rfl
@[simp] theorem applyEff_markClosed_connGauge (s : State) (tid : Tid) : (applyEff s (Eff.markClosed tid)).connGauge = s.connGauge := by rfl
@[simp] theorem applyEff_markClosed_subGauge (s : State) (tid : Tid) : (applyEff s (Eff.markClosed tid)).subGauge = s.subGauge := by rfl
@[simp] theorem applyEff_markClosed_writerClosed (s : State) (tid : Tid) : (applyEff s (Eff.markClosed tid)).writerClosed = s.writerClosed := by rfl
@[simp] theorem applyEff_markClosed_genCounter (s : State) (tid : Tid) : (applyEff s (Eff.markClosed tid)).genCounter = s.genCounter := by rfl
@[simp] theorem applyEff_markClosed_channels (s : State) (tid : Tid) : (applyEff s (Eff.markClosed tid)).channels = s.channels := by rfl
@[simp] theorem applyEff_markClosed_hub (s : State) (tid : Tid) : (applyEff s (Eff.markClosed tid)).hub = s.hub := by rfl
@[simp] theorem applyEff_markClosed_presence (s : State) (tid : Tid) : (applyEff s (Eff.markClosed tid)).presence = s.presence := by rfl
@[simp] theorem applyEff_markClosed_closedGates (s : State) (tid : Tid) : (applyEff s (Eff.markClosed tid)).closedGates = s.closedGates := by rfl
@[simp] theorem applyEff_markClosed_threads (s : State) (tid : Tid) : (applyEff s (Eff.markClosed tid)).threads = s.threads := by rfl
@[simp] theorem applyEff_markClosed_nextTid (s : State) (tid : Tid) : (applyEff s (Eff.markClosed tid)).nextTid = s.nextTid := by rfl
@[simp] theorem applyEff_markClosed_log (s : State) (tid : Tid) : (applyEff s (Eff.markClosed tid)).log = s.log := by rfl
@[simp] theorem applyEff_markClosed_panicked (s : State) (tid : Tid) : (applyEff s (Eff.markClosed tid)).panicked = s.panicked := by rfl
@[simp] theorem applyEff_unregister_status (s : State) : (applyEff s (Eff.unregister)).status = s.status := by
  rw [applyEff_unregister]
@[simp] theorem applyEff_unregister_subGauge (s : State) : (applyEff s (Eff.unregister)).subGauge = s.subGauge := by
  rw [applyEff_unregister]
@[simp] theorem applyEff_unregister_writerClosed (s : State) : (applyEff s (Eff.unregister)).writerClosed = s.writerClosed := by
  rw [applyEff_unregister]
@[simp] theorem applyEff_unregister_connectMu (s : State) : (applyEff s (Eff.unregister)).connectMu = s.connectMu := by
  rw [applyEff_unregister]
@[simp] theorem applyEff_unregister_genCounter (s : State) : (applyEff s (Eff.unregister)).genCounter = s.genCounter := by
  rw [applyEff_unregister]
@[simp] theorem applyEff_unregister_channels (s : State) : (applyEff s (Eff.unregister)).channels = s.channels := by
  rw [applyEff_unregister]
@[simp] theorem applyEff_unregister_hub (s : State) : (applyEff s (Eff.unregister)).hub = s.hub := by
  rw [applyEff_unregister]
@[simp] theorem applyEff_unregister_presence (s : State) : (applyEff s (Eff.unregister)).presence = s.presence := by
  rw [applyEff_unregister]
@[simp] theorem applyEff_unregister_closedGates (s : State) : (applyEff s (Eff.unregister)).closedGates = s.closedGates := by
  rw [applyEff_unregister]
@[simp] theorem applyEff_unregister_threads (s : State) : (applyEff s (Eff.unregister)).threads = s.threads := by
  rw [applyEff_unregister]
@[simp] theorem applyEff_unregister_nextTid (s : State) : (applyEff s (Eff.unregister)).nextTid = s.nextTid := by
  rw [applyEff_unregister]
@[simp] theorem applyEff_unregister_log (s : State) : (applyEff s (Eff.unregister)).log = s.log := by
  rw [applyEff_unregister]
@[simp] theorem applyEff_unregister_panicked (s : State) : (applyEff s (Eff.unregister)).panicked = s.panicked := by
  rw [applyEff_unregister]
@[simp] theorem applyEff_writerClose_status (s : State) : (applyEff s (Eff.writerClose)).status = s.status := by rfl
@[simp] theorem applyEff_writerClose_registered (s : State) : (applyEff s (Eff.writerClose)).registered = s.registered := by rfl
@[simp] theorem applyEff_writerClose_connGauge (s : State) : (applyEff s (Eff.writerClose)).connGauge = s.connGauge := by rfl
@[simp] theorem applyEff_writerClose_subGauge (s : State) : (applyEff s (Eff.writerClose)).subGauge = s.subGauge := by rfl
@[simp] theorem applyEff_writerClose_connectMu (s : State) : (applyEff s (Eff.writerClose)).connectMu = s.connectMu := by rfl
@[simp] theorem applyEff_writerClose_genCounter (s : State) : (applyEff s (Eff.writerClose)).genCounter = s.genCounter := by rfl
@[simp] theorem applyEff_writerClose_channels (s : State) : (applyEff s (Eff.writerClose)).channels = s.channels := by rfl
@[simp] theorem applyEff_writerClose_hub (s : State) : (applyEff s (Eff.writerClose)).hub = s.hub := by rfl
@[simp] theorem applyEff_writerClose_presence (s : State) : (applyEff s (Eff.writerClose)).presence = s.presence := by rfl
@[simp] theorem applyEff_writerClose_closedGates (s : State) : (applyEff s (Eff.writerClose)).closedGates = s.closedGates := by rfl
@[simp] theorem applyEff_writerClose_threads (s : State) : (applyEff s (Eff.writerClose)).threads = s.threads := by rfl
@[simp] theorem applyEff_writerClose_nextTid (s : State) : (applyEff s (Eff.writerClose)).nextTid = s.nextTid := by rfl
@[simp] theorem applyEff_writerClose_log (s : State) : (applyEff s (Eff.writerClose)).log = s.log := by rfl
@[simp] theorem applyEff_writerClose_panicked (s : State) : (applyEff s (Eff.writerClose)).panicked = s.panicked := by rfl
@[simp] theorem applyEff_unlock_status (s : State) : (applyEff s (Eff.unlock)).status = s.status := by rfl
@[simp] theorem applyEff_unlock_registered (s : State) : (applyEff s (Eff.unlock)).registered = s.registered := by rfl
@[simp] theorem applyEff_unlock_connGauge (s : State) : (applyEff s (Eff.unlock)).connGauge = s.connGauge := by rfl
@[simp] theorem applyEff_unlock_subGauge (s : State) : (applyEff s (Eff.unlock)).subGauge = s.subGauge := by rfl
@[simp] theorem applyEff_unlock_writerClosed (s : State) : (applyEff s (Eff.unlock)).writerClosed = s.writerClosed := by rfl
@[simp] theorem applyEff_unlock_genCounter (s : State) : (applyEff s (Eff.unlock)).genCounter = s.genCounter := by rfl
@[simp] theorem applyEff_unlock_channels (s : State) : (applyEff s (Eff.unlock)).channels = s.channels := by rfl
@[simp] theorem applyEff_unlock_hub (s : State) : (applyEff s (Eff.unlock)).hub = s.hub := by rfl
@[simp] theorem applyEff_unlock_presence (s : State) : (applyEff s (Eff.unlock)).presence = s.presence := by rfl
@[simp] theorem applyEff_unlock_closedGates (s : State) : (applyEff s (Eff.unlock)).closedGates = s.closedGates := by rfl
@[simp] theorem applyEff_unlock_threads (s : State) : (applyEff s (Eff.unlock)).threads = s.threads := by rfl
@[simp] theorem applyEff_unlock_nextTid (s : State) : (applyEff s (Eff.unlock)).nextTid = s.nextTid := by rfl
@[simp] theorem applyEff_unlock_log (s : State) : (applyEff s (Eff.unlock)).log = s.log := by rfl
@[simp] theorem applyEff_unlock_panicked (s : State) : (applyEff s (Eff.unlock)).panicked = s.panicked := by rfl
@[simp] theorem applyEff_spawnClose_status (s : State) : (applyEff s (Eff.spawnClose)).status = s.status := by rfl
@[simp] theorem applyEff_spawnClose_registered (s : State) : (applyEff s (Eff.spawnClose)).registered = s.registered := by rfl
@[simp] theorem applyEff_spawnClose_connGauge (s : State) : (applyEff s (Eff.spawnClose)).connGauge = s.connGauge := by rfl
@[simp] theorem applyEff_spawnClose_subGauge (s : State) : (applyEff s (Eff.spawnClose)).subGauge = s.subGauge := by rfl
@[simp] theorem applyEff_spawnClose_writerClosed (s : State) : (applyEff s (Eff.spawnClose)).writerClosed = s.writerClosed := by rfl
@[simp] theorem applyEff_spawnClose_connectMu (s : State) : (applyEff s (Eff.spawnClose)).connectMu = s.connectMu := by rfl
@[simp] theorem applyEff_spawnClose_genCounter (s : State) : (applyEff s (Eff.spawnClose)).genCounter = s.genCounter := by rfl
@[simp] theorem applyEff_spawnClose_channels (s : State) : (applyEff s (Eff.spawnClose)).channels = s.channels := by rfl
@[simp] theorem applyEff_spawnClose_hub (s : State) : (applyEff s (Eff.spawnClose)).hub = s.hub := by rfl
@[simp] theorem applyEff_spawnClose_presence (s : State) : (applyEff s (Eff.spawnClose)).presence = s.presence := by rfl
@[simp] theorem applyEff_spawnClose_closedGates (s : State) : (applyEff s (Eff.spawnClose)).closedGates = s.closedGates := by rfl
@[simp] theorem applyEff_spawnClose_log (s : State) : (applyEff s (Eff.spawnClose)).log = s.log := by rfl
@[simp] theorem applyEff_spawnClose_panicked (s : State) : (applyEff s (Eff.spawnClose)).panicked = s.panicked := by rfl

@[simp] theorem applyEff_mint_genCounter (s : State) : (applyEff s Eff.mint).genCounter = s.genCounter + 1 := rfl
@[simp] theorem applyEff_chanSet_channels (s : State) (ch : Chan) (e : Entry) : (applyEff s (Eff.chanSet ch e)).channels = aset s.channels ch e := rfl
@[simp] theorem applyEff_chanDel_channels (s : State) (ch : Chan) : (applyEff s (Eff.chanDel ch)).channels = adel s.channels ch := rfl
@[simp] theorem applyEff_hubSet_hub (s : State) (ch : Chan) (g : Gen) : (applyEff s (Eff.hubSet ch g)).hub = aset s.hub ch g := by
  rw [applyEff_hubSet]
theorem applyEff_hubDelIf_hub (s : State) (ch : Chan) (g : Gen) : (applyEff s (Eff.hubDelIf ch g)).hub = if aget s.hub ch = some g then adel s.hub ch else s.hub := by
  rw [applyEff_hubDelIf]
@[simp] theorem applyEff_presAdd_presence (s : State) (ch : Chan) : (applyEff s (Eff.presAdd ch)).presence = sadd s.presence ch := rfl
@[simp] theorem applyEff_presDel_presence (s : State) (ch : Chan) : (applyEff s (Eff.presDel ch)).presence = sdel s.presence ch := rfl
@[simp] theorem applyEff_log_log (s : State) (ev : Ev) : (applyEff s (Eff.log ev)).log = s.log ++ [ev] := rfl
@[simp] theorem applyEff_markClosed_status (s : State) (tid : Tid) : (applyEff s (Eff.markClosed tid)).status = Status.closed := rfl
@[simp] theorem applyEff_markClosed_connectMu (s : State) (tid : Tid) : (applyEff s (Eff.markClosed tid)).connectMu = some tid := rfl
@[simp] theorem applyEff_unregister_registered (s : State) : (applyEff s Eff.unregister).registered = false := by
  rw [applyEff_unregister]
theorem applyEff_unregister_connGauge (s : State) : (applyEff s Eff.unregister).connGauge = if s.registered then s.connGauge - 1 else s.connGauge := by
  rw [applyEff_unregister]
@[simp] theorem applyEff_writerClose_writerClosed (s : State) : (applyEff s Eff.writerClose).writerClosed = true := rfl
@[simp] theorem applyEff_unlock_connectMu (s : State) : (applyEff s Eff.unlock).connectMu = none := rfl
@[simp] theorem applyEff_spawnClose_threads (s : State) : (applyEff s Eff.spawnClose).threads = s.threads ++ [(s.nextTid, autoClose)] := rfl
@[simp] theorem applyEff_spawnClose_nextTid (s : State) : (applyEff s Eff.spawnClose).nextTid = s.nextTid + 1 := rfl
theorem applyEff_closeGate_closedGates (s : State) (g : Gen) : (applyEff s (Eff.closeGate g)).closedGates = if g ∈ s.closedGates then s.closedGates else g :: s.closedGates := by
  rw [applyEff_closeGate]

/-! `gateEff` only touches the closed-gate set and the panic flag. -/

@[simp] theorem applyEffs_gateEff_status (s : State) (g : Option Gen) : (applyEffs s (gateEff g)).status = s.status := by
  cases g <;> simp [gateEff]
@[simp] theorem applyEffs_gateEff_registered (s : State) (g : Option Gen) : (applyEffs s (gateEff g)).registered = s.registered := by
  cases g <;> simp [gateEff]
@[simp] theorem applyEffs_gateEff_connGauge (s : State) (g : Option Gen) : (applyEffs s (gateEff g)).connGauge = s.connGauge := by
  cases g <;> simp [gateEff]
@[simp] theorem applyEffs_gateEff_subGauge (s : State) (g : Option Gen) : (applyEffs s (gateEff g)).subGauge = s.subGauge := by
  cases g <;> simp [gateEff]
@[simp] theorem applyEffs_gateEff_writerClosed (s : State) (g : Option Gen) : (applyEffs s (gateEff g)).writerClosed = s.writerClosed := by
  cases g <;> simp [gateEff]
@[simp] theorem applyEffs_gateEff_connectMu (s : State) (g : Option Gen) : (applyEffs s (gateEff g)).connectMu = s.connectMu := by
  cases g <;> simp [gateEff]
@[simp] theorem applyEffs_gateEff_genCounter (s : State) (g : Option Gen) : (applyEffs s (gateEff g)).genCounter = s.genCounter := by
  cases g <;> simp [gateEff]
@[simp] theorem applyEffs_gateEff_channels (s : State) (g : Option Gen) : (applyEffs s (gateEff g)).channels = s.channels := by
  cases g <;> simp [gateEff]
@[simp] theorem applyEffs_gateEff_hub (s : State) (g : Option Gen) : (applyEffs s (gateEff g)).hub = s.hub := by
  cases g <;> simp [gateEff]
@[simp] theorem applyEffs_gateEff_presence (s : State) (g : Option Gen) : (applyEffs s (gateEff g)).presence = s.presence := by
  cases g <;> simp [gateEff]
@[simp] theorem applyEffs_gateEff_threads (s : State) (g : Option Gen) : (applyEffs s (gateEff g)).threads = s.threads := by
  cases g <;> simp [gateEff]
@[simp] theorem applyEffs_gateEff_nextTid (s : State) (g : Option Gen) : (applyEffs s (gateEff g)).nextTid = s.nextTid := by
  cases g <;> simp [gateEff]
@[simp] theorem applyEffs_gateEff_log (s : State) (g : Option Gen) : (applyEffs s (gateEff g)).log = s.log := by
  cases g <;> simp [gateEff]

end CentrifugeVerif.SubProto
