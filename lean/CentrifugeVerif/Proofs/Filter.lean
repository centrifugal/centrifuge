import CentrifugeVerif.Proofs.FilterSpec
/-!
Lemmas for C15: `Validate`/`Match` against the specification, at the leaves by operator class and
then over trees; the `strings.Contains` model; the wire-encoding size.
-/
namespace CentrifugeVerif.Filter
open CentrifugeVerif.Decimal

theorem contains_iff (h n : Str) : contains h n = true ↔ n <:+: h := by
  induction h with
  | nil => simp [contains, List.isPrefixOf_iff_prefix]
  | cons c t ih =>
    simp only [contains, Bool.or_eq_true, ih, List.isPrefixOf_iff_prefix, List.infix_cons_iff]

macro "leaf_tac" v:ident vs:ident k:ident : tactic => `(tactic|
  (simp (config := {decide := true})
   all_goals (by_cases hv : $v = [] <;> by_cases hvs : $vs = [] <;> by_cases hk : $k = [] <;> simp_all)))

theorem isValCmp_iff (cmp : Str) : isValCmp cmp = true ↔ cmp ∈ valCmps := by
  simp only [isValCmp, valCmps, Bool.or_eq_true, decide_eq_true_eq, List.mem_cons, List.not_mem_nil,
    or_false, or_assoc]

theorem cmp_classes :
    (∀ c ∈ valCmps, c ≠ [] ∧ c ≠ cIn ∧ c ≠ cNin ∧ c ≠ cEx ∧ c ≠ cNex) ∧
    (∀ c ∈ [cIn, cNin], c ≠ [] ∧ c ≠ cEx ∧ c ≠ cNex) ∧ (∀ c ∈ [cEx, cNex], c ≠ []) := by decide

theorem validateLeaf_ok_iff (key cmp val : Str) (vals : List Str) :
    validateLeaf key cmp val vals = .ok ↔ LeafWF key cmp val vals := by
  unfold validateLeaf LeafWF
  rw [← isValCmp_iff]
  -- by operator class; inside a class only the emptiness of `Val`, `Vals` and the key matters
  by_cases hv : isValCmp cmp = true
  · obtain ⟨h0, h1, h2, h3, h4⟩ := cmp_classes.1 cmp ((isValCmp_iff cmp).mp hv)
    by_cases hval : val = [] <;> by_cases hvals : vals = [] <;> simp [*]
  by_cases hs : cmp = cIn ∨ cmp = cNin
  · obtain ⟨h0, h3, h4⟩ := cmp_classes.2.1 cmp (by simpa using hs)
    by_cases hval : val = [] <;> by_cases hvals : vals = [] <;> simp [*]
  by_cases he : cmp = cEx ∨ cmp = cNex
  · have h0 := cmp_classes.2.2 cmp (by simpa using he)
    by_cases hval : val = [] <;> by_cases hvals : vals = [] <;> simp [*]
    exact fun _ => he.resolve_left
  · simp [*]
    split <;> simp

theorem numCmp_eq_semNum (cmp : Str) (a b : Dec) (ha : a.Norm) (hb : b.Norm) :
    numCmp cmp a b = semNum cmp a b := by
  have ⟨h1, h2, h3, h4⟩ := cmp_exact a b ha hb
  unfold numCmp semNum
  split
  · exact decide_eq_decide.mpr h3
  split
  · exact decide_eq_decide.mpr h4
  split
  · exact decide_eq_decide.mpr h1
  · exact decide_eq_decide.mpr h2

/-- by class: one string, two numerals, a set, existence -/
theorem leafWF_classes {key cmp val : Str} {vals : List Str} (h : LeafWF key cmp val vals) :
    (cmp = cEq ∨ cmp = cNeq ∨ cmp = cSw ∨ cmp = cEw ∨ cmp = cCt) ∨
    (cmp = cGt ∨ cmp = cGte ∨ cmp = cLt ∨ cmp = cLte) ∨ (cmp = cIn ∨ cmp = cNin) ∨ (cmp = cEx ∨ cmp = cNex) := by
  simp only [LeafWF, valCmps, List.mem_cons, List.not_mem_nil, or_false] at h
  rcases h with ⟨h, _⟩ | ⟨h, _⟩ | ⟨h, _⟩
  · rcases h with h | h | h | h | h | h | h | h | h <;> simp [h]
  · exact .inr (.inr (.inl h))
  · exact .inr (.inr (.inr h))

/-- `hsafe`: the variant that honours `ok` in `in`/`nin`, or no such set contains `""` -/
theorem matchLeaf_sem (fix : Bool) (t : Tags) (key cmp val : Str) (vals : List Str)
    (hwf : LeafWF key cmp val vals)
    (hsafe : fix = true ∨ ((cmp = cIn ∨ cmp = cNin) → [] ∉ vals)) :
    matchLeaf fix t key cmp val vals = .val (semLeaf t key cmp val vals) := by
  unfold matchLeaf semLeaf
  rcases leafWF_classes hwf with hc | hc | hc | hc
  · rcases hc with rfl | rfl | rfl | rfl | rfl <;> cases t.lookup key <;>
      simp (config := {decide := true})
    -- left: `sw`, `ew`, `ct` on a present key
    all_goals
      rw [Bool.eq_iff_iff]
      simp [List.isPrefixOf_iff_prefix, List.isSuffixOf_iff_suffix, contains_iff]
  · cases t.lookup key with
    | none => rcases hc with rfl | rfl | rfl | rfl <;> simp (config := {decide := true})
    | some v =>
      cases hp : parse v <;> cases hq : parse val <;> rcases hc with rfl | rfl | rfl | rfl <;>
        simp (config := {decide := true}) [hp]
      all_goals exact numCmp_eq_semNum _ _ _ (parse_norm hp) (parse_norm hq)
  · rcases hc with rfl | rfl <;> cases t.lookup key <;> simp (config := {decide := true})
    -- left: the missing key, where the two variants differ
    all_goals cases fix <;> simp_all
  · rcases hc with rfl | rfl <;> cases t.lookup key <;> simp (config := {decide := true})

/-- the result is a Boolean (neither an error nor a panic) -/
def MRes.isVal : MRes → Bool
  | .val _ => true
  | _ => false

theorem MRes.isVal_iff (r : MRes) : r.isVal = true ↔ ∃ b, r = .val b := by
  cases r <;> simp [MRes.isVal]

theorem matchLeaf_total (fix : Bool) (t : Tags) (key cmp val : Str) (vals : List Str)
    (hwf : LeafWF key cmp val vals) : (matchLeaf fix t key cmp val vals).isVal = true := by
  unfold matchLeaf
  rcases leafWF_classes hwf with hc | hc | hc | hc
  · rcases hc with rfl | rfl | rfl | rfl | rfl <;> simp (config := {decide := true}) [MRes.isVal]
  · cases t.lookup key with
    | none => rcases hc with rfl | rfl | rfl | rfl <;> simp (config := {decide := true}) [MRes.isVal]
    | some v =>
      cases hp : parse v <;> cases parse val <;> rcases hc with rfl | rfl | rfl | rfl <;>
        simp (config := {decide := true}) [hp, MRes.isVal]
  · rcases hc with rfl | rfl <;> simp (config := {decide := true}) [MRes.isVal]
  · rcases hc with rfl | rfl <;> simp (config := {decide := true}) [MRes.isVal]

/-! ## trees -/

theorem sAnd_ne : sAnd ≠ [] ∧ sOr ≠ [] ∧ sNot ≠ [] ∧ sAnd ≠ sOr ∧ sAnd ≠ sNot ∧ sOr ≠ sNot := by decide

theorem validateAll_single (c : Node) : validateAll (.cons c .nil) = validate c := by
  rw [validateAll]
  split
  · next h => rw [h, validateAll]
  · rfl

theorem oneChild_iff (ns : Nodes) : OneChild ns ↔ ∃ c, ns = .cons c .nil := by
  unfold OneChild
  split <;> simp_all

section
variable (fix : Bool) (t : Tags) (key cmp val : Str) (vals : List Str)

theorem matchAll_single (c : Node) : matchAll fix t (.cons c .nil) = matchN fix t c := by
  rw [matchAll]
  split
  · next h => rw [h, matchAll]
  · rfl

theorem matchN_leaf (ns : Nodes) :
    matchN fix t (.mk [] key cmp val vals ns) = matchLeaf fix t key cmp val vals := by
  rw [matchN.eq_def]; rfl

theorem matchN_and (ns : Nodes) : matchN fix t (.mk sAnd key cmp val vals ns) = matchAll fix t ns := by
  rw [matchN.eq_def]; rfl

theorem matchN_or (ns : Nodes) : matchN fix t (.mk sOr key cmp val vals ns) = matchAny fix t ns := by
  rw [matchN.eq_def]; rfl

theorem matchN_not {c : Node} {b : Bool} (h : matchN fix t c = .val b) :
    matchN fix t (.mk sNot key cmp val vals (.cons c .nil)) = .val (!b) := by
  rw [matchN.eq_def]; simp (config := {decide := true}) [h]

end

mutual
theorem matchN_total (fix : Bool) (t : Tags) :
    ∀ n, WellFormed n → (matchN fix t n).isVal = true
  | .mk op key cmp val vals nodes => by
    intro hwf
    have ihAll := matchAll_total fix t nodes
    have ihAny := matchAny_total fix t nodes
    rcases hwf with ⟨rfl, hl⟩ | ⟨rfl | rfl, _, hall⟩ | ⟨rfl, hone, hall⟩
    · rw [matchN_leaf]; exact matchLeaf_total _ _ _ _ _ _ hl
    · rw [matchN_and]; exact ihAll hall
    · rw [matchN_or]; exact ihAny hall
    · obtain ⟨c, rfl⟩ := (oneChild_iff _).mp hone
      have hc := ihAll hall
      rw [matchAll_single, MRes.isVal_iff] at hc
      obtain ⟨b, hb⟩ := hc
      rw [matchN_not _ _ _ _ _ _ hb]; rfl
theorem matchAll_total (fix : Bool) (t : Tags) :
    ∀ ns, AllWF ns → (matchAll fix t ns).isVal = true
  | .nil => fun _ => rfl
  | .null r => False.elim
  | .cons c r => by
    intro hwf
    obtain ⟨b, hb⟩ := (MRes.isVal_iff _).mp (matchN_total fix t c hwf.1)
    rw [matchAll, hb]
    cases b
    · rfl
    · exact matchAll_total fix t r hwf.2
theorem matchAny_total (fix : Bool) (t : Tags) :
    ∀ ns, AllWF ns → (matchAny fix t ns).isVal = true
  | .nil => fun _ => rfl
  | .null r => False.elim
  | .cons c r => by
    intro hwf
    obtain ⟨b, hb⟩ := (MRes.isVal_iff _).mp (matchN_total fix t c hwf.1)
    rw [matchAny, hb]
    cases b
    · exact matchAny_total fix t r hwf.2
    · rfl
end

/-! ## Match computes the denotation -/

mutual
theorem matchN_sem (fix : Bool) (t : Tags) :
    ∀ n, WellFormed n → (fix = true ∨ NoEmptyInSets n) → matchN fix t n = .val (sem t n)
  | .mk op key cmp val vals nodes => by
    intro hwf hs
    have ihAll := fun h => matchAll_sem fix t nodes h (hs.imp_right And.right)
    have ihAny := fun h => matchAny_sem fix t nodes h (hs.imp_right And.right)
    rw [sem.eq_def]
    rcases hwf with ⟨rfl, hl⟩ | ⟨rfl | rfl, _, hall⟩ | ⟨rfl, hone, hall⟩
    · rw [matchN_leaf]
      exact matchLeaf_sem _ _ _ _ _ _ hl (hs.imp_right fun h => h.1 rfl)
    · rw [matchN_and]; exact ihAll hall
    · rw [matchN_or]; exact ihAny hall
    · obtain ⟨c, rfl⟩ := (oneChild_iff _).mp hone
      have hc := ihAll hall
      rw [matchAll_single] at hc
      rw [matchN_not _ _ _ _ _ _ hc]; rfl
theorem matchAll_sem (fix : Bool) (t : Tags) :
    ∀ ns, AllWF ns → (fix = true ∨ NoEmptyInSetsAll ns) → matchAll fix t ns = .val (semAll t ns)
  | .nil => fun _ _ => rfl
  | .null r => False.elim
  | .cons c r => by
    intro hwf hs
    have ih1 := matchN_sem fix t c hwf.1 (hs.imp_right And.left)
    have ih2 := matchAll_sem fix t r hwf.2 (hs.imp_right And.right)
    rw [matchAll, semAll, ih1]
    cases sem t c
    · rfl
    · exact ih2
theorem matchAny_sem (fix : Bool) (t : Tags) :
    ∀ ns, AllWF ns → (fix = true ∨ NoEmptyInSetsAll ns) → matchAny fix t ns = .val (semAny t ns)
  | .nil => fun _ _ => rfl
  | .null r => False.elim
  | .cons c r => by
    intro hwf hs
    have ih1 := matchN_sem fix t c hwf.1 (hs.imp_right And.left)
    have ih2 := matchAny_sem fix t r hwf.2 (hs.imp_right And.right)
    rw [matchAny, semAny, ih1]
    cases sem t c
    · exact ih2
    · rfl
end

/-! ## wire encoding -/

theorem varintAux_length (f n : Nat) : (varintAux f n).length = sovAux f n := by
  induction f generalizing n with
  | zero => rfl
  | succ f ih =>
    unfold varintAux sovAux
    split
    · rfl
    · rw [List.length_cons, ih, Nat.add_comm]

theorem varint_length (n : Nat) : (varint n).length = sov n := varintAux_length 9 n

theorem fieldStr_length (tag : UInt8) (s : Str) : (fieldStr tag s).length = sizeStr s := by
  unfold fieldStr sizeStr
  split
  · simp only [List.length_cons, List.length_append, varint_length]; omega
  · rfl

theorem marshalVals_length (vs : List Str) : (marshalVals vs).length = sizeVals vs := by
  induction vs with
  | nil => rfl
  | cons v vs ih =>
    simp only [marshalVals, sizeVals, List.length_cons, List.length_append, varint_length, ih]; omega

mutual
theorem marshal_length : ∀ n, (marshal n).length = sizeVT n
  | .mk op key cmp val vals nodes => by
    rw [marshal, sizeVT]
    simp only [List.length_append, fieldStr_length, marshalVals_length, marshalNodes_length nodes]
theorem marshalNodes_length : ∀ ns, (marshalNodes ns).length = sizeNodes ns
  | .nil => rfl
  | .null r => by
    have : sov 0 = 1 := rfl
    simp only [marshalNodes, sizeNodes, List.length_cons, marshalNodes_length r]; omega
  | .cons c r => by
    simp only [marshalNodes, sizeNodes, List.length_cons, List.length_append, varint_length,
      marshal_length c, marshalNodes_length r]; omega
end

end CentrifugeVerif.Filter
