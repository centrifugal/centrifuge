import CentrifugeVerif.Model.Sync
import CentrifugeVerif.Proofs.Live
/-! Inductive invariant of the `Sync` transition system. -/
namespace CentrifugeVerif.Sync
open CentrifugeVerif.Live CentrifugeVerif.SubReply CentrifugeVerif.Merge

theorem pushes_append (a b : List Event) : pushes (a ++ b) = pushes a ++ pushes b := by
  induction a with
  | nil => rfl
  | cons e es ih => cases e <;> simp [pushes, ih]

/-- the inline `match` of `next … .bLive` -/
def events : Action → List Event
  | .deliver o => [.push o]
  | .insufficient _ => [.insufficient]
  | _ => []

theorem pushes_events (a : Action) : pushes (events a) = delivered [a] := by
  cases a <;> rfl

theorem events_live (a : Action) : ∀ ev ∈ events a, (∃ o, ev = .push o) ∨ ev = .insufficient := by
  cases a <;> simp [events]

/-- the lock and registration flags, by the subscriber's pc -/
def Flags (entry inSub muHeld inHub : Bool) : SPc → Prop
  | .s0 | .failed => entry = false ∧ inSub = false ∧ muHeld = false ∧ inHub = false
  | .s1 => entry = true ∧ inSub = true ∧ muHeld = false ∧ inHub = false
  | .s2 | .s3 => entry = true ∧ inSub = true ∧ muHeld = false ∧ inHub = true
  | .s4 | .s5 | .s6 => entry = true ∧ inSub = true ∧ muHeld = true ∧ inHub = true
  | .s7 => entry = false ∧ inSub = false ∧ muHeld = false ∧ inHub = true

namespace Flags
variable {entry inSub muHeld inHub : Bool} {pc : SPc}

theorem stopped (h : Flags entry inSub muHeld inHub pc) (hh : inHub = true) (he : entry = false) :
    pc = .s7 := by
  subst hh he
  cases pc <;> simp [Flags] at h ⊢

theorem started (h : Flags entry inSub muHeld inHub pc) (hh : inHub = true) : pc ≠ .s0 := by
  subst hh
  cases pc <;> simp [Flags] at h ⊢

theorem done (h : Flags entry inSub muHeld inHub pc) (hi : inSub = false) (h0 : pc ≠ .s0) :
    pc = .s7 ∨ pc = .failed := by
  subst hi
  cases pc <;> simp [Flags] at h h0 ⊢

end Flags

/-- `pos`: the position the reply commits; `pos + n`: the current one -/
def Committed (req : Req) (hist : Hist) (taken : List MPub) (log : List Event) (sub : Sub) : Prop :=
  ∃ r pubs off pos e rest n, subscribe req hist taken = .reply r pubs off pos e ∧
    log = .reply r pubs off :: rest ∧ (∀ ev ∈ rest, (∃ o, ev = .push o) ∨ ev = .insufficient) ∧
    sub.pos = pos + n ∧ (pushes rest).Sublist (List.range' (pos + 1) n)

def View (req : Req) (hist : Hist) (s : St) : Prop :=
  match s.spc with
  | .s5 => ∃ r pubs off pos e, subscribe req hist s.taken = .reply r pubs off pos e ∧
      s.log = [.reply r pubs off] ∧ s.sub = none ∧ s.pending = some (pos, e)
  | .s6 | .s7 => ∃ sub, s.sub = some sub ∧ Committed req hist s.taken s.log sub
  | _ => s.log = [] ∧ s.sub = none

structure Inv (req : Req) (hist : Hist) (s : St) : Prop where
  flags : Flags s.entry s.inSub s.muHeld s.inHub s.spc
  /-- a broadcaster past `bStart` has seen the hub entry -/
  begun : s.bpc ≠ .idle → s.spc ≠ .s0
  afterStop : ∀ d, s.bpc = .live d → s.spc = .s7 ∨ s.spc = .failed
  dropped : s.spc ≠ .failed → s.dropped = []
  view : View req hist s

variable {req : Req} {hist : Hist} {s s' : St}

theorem inv_init : Inv req hist {} :=
  ⟨⟨rfl, rfl, rfl, rfl⟩, nofun, nofun, fun _ => rfl, ⟨rfl, rfl⟩⟩

theorem Committed.step {taken : List MPub} {log : List Event} {sub : Sub}
    (h : Committed req hist taken log sub) (d : Inc) :
    Committed req hist taken (log ++ events (liveStep sub d).2) (liveStep sub d).1 := by
  obtain ⟨r, pubs, off, pos, e, rest, n, h1, h2, h3, hs, hsl⟩ := h
  obtain ⟨n', hp, hr⟩ := liveStep_range sub d pos n hs
  refine ⟨r, pubs, off, pos, e, rest ++ events (liveStep sub d).2, n', h1, by simp [h2], ?_, hp, ?_⟩
  · intro ev hev
    rcases List.mem_append.mp hev with hev | hev
    · exact h3 ev hev
    · exact events_live _ ev hev
  · rw [pushes_append, pushes_events, ← hr]
    exact hsl.append (delivered_sublist_consumed _)

theorem Inv.subscriber (hi : Inv req hist s) (hrun : ¬(s.spc = .s7 ∨ s.spc = .failed)) (h0 : s'.spc ≠ .s0)
    (hb : s'.bpc = s.bpc) (hd : s'.dropped = s.dropped)
    (hF : Flags s'.entry s'.inSub s'.muHeld s'.inHub s'.spc) (hV : View req hist s') : Inv req hist s' where
  flags := hF
  begun _ := h0
  afterStop d h := absurd (hi.afterStop d (hb ▸ h)) hrun
  dropped _ := hd ▸ hi.dropped fun h => hrun (.inr h)
  view := hV

theorem inv_step (l : Label) (hi : Inv req hist s) (hn : next req hist s l = some s') : Inv req hist s' := by
  have hF := hi.flags
  have hv := hi.view
  cases l <;> simp only [next, Option.ite_none_right_eq_some, Option.some.injEq] at hn
  case sStart =>
    obtain ⟨h0, rfl⟩ := hn
    rw [h0] at hF
    exact hi.subscriber (by simp [h0]) nofun rfl rfl ⟨rfl, rfl, hF.2.2⟩ (by simpa [View, h0] using hv)
  case sHubAdd =>
    obtain ⟨h0, rfl⟩ := hn
    rw [h0] at hF
    exact hi.subscriber (by simp [h0]) nofun rfl rfl ⟨hF.1, hF.2.1, hF.2.2.1, rfl⟩
      (by simpa [View, h0] using hv)
  case sHist =>
    obtain ⟨h0, rfl⟩ := hn
    rw [h0] at hF
    exact hi.subscriber (by simp [h0]) nofun rfl rfl hF (by simpa [View, h0] using hv)
  case sLock =>
    obtain ⟨⟨h0, -⟩, rfl⟩ := hn
    rw [h0] at hF
    exact hi.subscriber (by simp [h0]) nofun rfl rfl ⟨hF.1, hF.2.1, rfl, hF.2.2.2⟩
      (by simpa [View, h0] using hv)
  case sStop =>
    obtain ⟨h0, rfl⟩ := hn
    rw [h0] at hF
    exact hi.subscriber (by simp [h0]) nofun rfl rfl ⟨rfl, rfl, rfl, hF.2.2.2⟩
      (by simpa [View, h0] using hv)
  case sReply =>
    obtain ⟨h0, hn⟩ := hn
    rw [h0] at hF
    simp only [View, h0] at hv
    split at hn <;> cases hn
    · rename_i r pubs off pos e hsub
      exact hi.subscriber (by simp [h0]) nofun rfl rfl hF
        (by simp only [View]; exact ⟨r, pubs, off, pos, e, hsub, by rw [hv.1]; rfl, hv.2, rfl⟩)
    · exact hi.subscriber (by simp [h0]) nofun rfl rfl ⟨rfl, rfl, rfl, rfl⟩ (by simpa [View] using hv)
  case sCommit =>
    obtain ⟨h0, hn⟩ := hn
    rw [h0] at hF
    simp only [View, h0] at hv
    obtain ⟨r, pubs, off, pos, e, hsub, hlog, -, hp⟩ := hv
    simp only [hp, Option.some.injEq] at hn
    subst hn
    exact hi.subscriber (by simp [h0]) nofun rfl rfl hF
      (by simpa [View] using ⟨r, pubs, off, pos, e, [], 0, hsub, hlog, by simp, rfl, .slnil⟩)
  case bStart d =>
    obtain ⟨-, hn⟩ := hn
    split at hn
    · cases hn; exact hi
    rename_i hhub
    have hhub := eq_true_of_ne_false hhub
    split at hn <;> cases hn
    · exact { hi with begun := fun _ => hF.started hhub, afterStop := nofun }
    · rename_i hent
      exact { hi with begun := fun _ => hF.started hhub
                      afterStop := fun _ _ => .inl (hF.stopped hhub (eq_false_of_ne_true hent)) }
  case bCheck =>
    split at hn
    case h_2 => cases hn
    rename_i d hb
    have h0 := hi.begun (by simp [hb])
    split at hn <;> cases hn
    · exact { hi with begun := fun _ => h0, afterStop := nofun }
    · rename_i hin
      exact { hi with begun := fun _ => h0, afterStop := fun _ _ => hF.done (eq_false_of_ne_true hin) h0 }
  case bLock =>
    split at hn
    case h_2 => cases hn
    rename_i d hb
    have h0 := hi.begun (by simp [hb])
    split at hn
    · cases hn
    split at hn <;> cases hn
    · exact { hi with begun := fun h => absurd rfl h, afterStop := nofun }
    · rename_i hin
      exact { hi with begun := fun _ => h0, afterStop := fun _ _ => hF.done (eq_false_of_ne_true hin) h0 }
  case bLive =>
    split at hn
    case h_2 => cases hn
    rename_i d hb
    split at hn
    · rename_i hnone
      cases hn
      -- `s7` has a committed position, so the drop can only follow a failed subscribe
      have hf : s.spc = .failed := by
        refine (hi.afterStop d hb).resolve_left fun h7 => ?_
        simp only [View, h7, hnone] at hv
        obtain ⟨_, hs, _⟩ := hv
        cases hs
      exact { hi with begun := fun h => absurd rfl h, afterStop := nofun, dropped := fun h => absurd hf h }
    · rename_i sub hsome
      cases hn
      rcases hi.afterStop d hb with h7 | hf
      · simp only [View, h7, hsome, Option.some.injEq, exists_eq_left'] at hv
        exact { hi with begun := fun h => absurd rfl h, afterStop := nofun
                        view := by simp only [View, h7]; exact ⟨_, rfl, hv.step d⟩ }
      · simp [View, hf, hsome] at hv

/-- the view with the phases forgotten; `n = 0` until the commit -/
theorem Inv.seen (hi : Inv req hist s) :
    (s.log = [] ∧ s.sub = none) ∨
    ∃ r pubs off pos e rest n, subscribe req hist s.taken = .reply r pubs off pos e ∧
      s.log = .reply r pubs off :: rest ∧ (∀ ev ∈ rest, (∃ o, ev = .push o) ∨ ev = .insufficient) ∧
      (pushes rest).Sublist (List.range' (pos + 1) n) ∧
      ((s.sub = none ∧ n = 0) ∨ ∃ ep, s.sub = some ⟨pos + n, ep⟩) := by
  have hv := hi.view
  cases hs : s.spc <;> simp only [View, hs] at hv
  case s5 =>
    obtain ⟨r, pubs, off, pos, e, h1, h2, h3, _⟩ := hv
    exact .inr ⟨r, pubs, off, pos, e, [], 0, h1, h2, nofun, .slnil, .inl ⟨h3, rfl⟩⟩
  case s6 | s7 =>
    obtain ⟨sub, hsub, r, pubs, off, pos, e, rest, n, h1, h2, h3, hp, hsl⟩ := hv
    exact .inr ⟨r, pubs, off, pos, e, rest, n, h1, h2, h3, hsl, .inr ⟨sub.epoch, by rw [hsub, ← hp]⟩⟩
  all_goals exact .inl hv

theorem inv_run (ls : List Label) (h0 : Inv req hist s) (hr : runLabels req hist s ls = some s') :
    Inv req hist s' := by
  induction ls generalizing s with
  | nil => cases hr; exact h0
  | cons l ls ih =>
    simp only [runLabels] at hr
    split at hr
    · cases hr
    · rename_i s1 hs1
      exact ih (inv_step l h0 hs1) hr

theorem inv_reachable (h : Reachable req hist s) : Inv req hist s :=
  h.elim fun ls hl => inv_run ls inv_init hl

end CentrifugeVerif.Sync
