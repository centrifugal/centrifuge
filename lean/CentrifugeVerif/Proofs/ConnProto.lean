import CentrifugeVerif.Model.ConnProto
/-!
Lemmas about the dispatch model (`Model/ConnProto.lean`) used by `Props/C09.lean`.
-/
namespace CentrifugeVerif.ConnProto

/-- shape facts about one effect: what a handler / callback may and may not do -/
structure EffOK (e : Eff) : Prop where
  /-- a parked callback excludes everything else -/
  pend_excl : e.pend.isSome → e.reply = none ∧ e.disc = none ∧ e.spawn = none
  /-- only the pong branch of `dispatchCommand` accepts a pong -/
  no_pong : e.pong = false

theorem answer_ok (st : Core) (e : Option (Sum Nat Nat)) (k : String) : EffOK (answer st e k) := by
  unfold answer; split <;> constructor <;> simp

/-- the callback body answers (a reply or a spawned close) and does nothing else -/
structure Completes (s : Status) (e : Eff) : Prop where
  answers : e.reply.isSome ∨ e.spawn.isSome
  pend : e.pend = none
  hs : e.hs = []
  disc : e.disc = none
  unmodelled : e.unmodelled = false
  pong : e.pong = false
  status : e.st.status = s

theorem answer_completes (st : Core) (e : Option (Sum Nat Nat)) (k : String) {s : Status}
    (h : st.status = s) : Completes s (answer st e k) := by
  subst h
  unfold answer
  split
  · exact ⟨.inr rfl, rfl, rfl, rfl, rfl, rfl, rfl⟩
  · exact ⟨.inl rfl, rfl, rfl, rfl, rfl, rfl, rfl⟩
  · exact ⟨.inl rfl, rfl, rfl, rfl, rfl, rfl, rfl⟩

theorem complete_completes (st : Core) (p : Pending) : Completes st.status (complete st p) := by
  unfold complete
  repeat' split
  -- every leaf is an `answer` (once with a publication push) or spells out a close or a reply
  all_goals first
    | exact { answer_completes _ _ _ rfl with }
    | exact ⟨.inr rfl, rfl, rfl, rfl, rfl, rfl, rfl⟩
    | exact ⟨.inl rfl, rfl, rfl, rfl, rfl, rfl, rfl⟩

/-- the command got an answer of some sort: a reply, a parked callback, or a close -/
def Answered (e : Eff) : Prop :=
  e.reply.isSome ∨ e.spawn.isSome ∨ e.pend.isSome ∨ e.disc.isSome

/-- what every handler guarantees -/
structure Good (e : Eff) : Prop where
  answered : Answered e
  excl : e.pend.isSome → e.reply = none ∧ e.spawn = none ∧ e.disc = none
  nopong : e.pong = false
  modelled : e.unmodelled = false

theorem Good.ite' {c : Prop} [Decidable c] {a b : Eff} (ha : c → Good a) (hb : ¬c → Good b) :
    Good (if c then a else b) := by
  split
  · exact ha ‹_›
  · exact hb ‹_›

theorem Good.ite {c : Prop} [Decidable c] {a b : Eff} (ha : Good a) (hb : Good b) :
    Good (if c then a else b) :=
  .ite' (fun _ => ha) fun _ => hb

theorem Completes.good {s : Status} {e : Eff} (h : Completes s e) : Good e where
  answered := h.answers.elim .inl (.inr ∘ .inl)
  excl hp := by rw [h.pend] at hp; cases hp
  nopong := h.pong
  modelled := h.unmodelled

theorem invoke_good (st : Core) (h : String) (p : Pending) (a : Bool) : Good (invoke st h p a) :=
  .ite ⟨.inr (.inr (.inl rfl)), fun _ => ⟨rfl, rfl, rfl⟩, rfl, rfl⟩ { (complete_completes st p).good with }

theorem errReply_good (st : Core) (code : Nat) : Good (errReply st code) :=
  ⟨.inl rfl, nofun, rfl, rfl⟩

theorem disconnect_good (st : Core) (code : Nat) : Good (disconnect st code) :=
  ⟨.inr (.inr (.inr rfl)), nofun, rfl, rfl⟩

theorem handleConnect_good (cfg : Cfg) (st : Core) (c : Cmd) : Good (handleConnect cfg st c) := by
  refine .ite (disconnect_good _ _) ?_
  -- whatever `OnConnecting` answers: a reply or a returned disconnect
  split
  all_goals first
    | exact ⟨.inl rfl, nofun, rfl, rfl⟩
    | exact ⟨.inr (.inr (.inr rfl)), nofun, rfl, rfl⟩

theorem handleChannelCmd_good (st : Core) (c : Cmd) (has : Bool) (k : PKind) (h : String) :
    Good (handleChannelCmd st c has k h) :=
  .ite (errReply_good _ _) <| .ite (disconnect_good _ _) (invoke_good _ _ _ _)

theorem handlePublish_good (cfg : Cfg) (st : Core) (c : Cmd) : Good (handlePublish cfg st c) :=
  .ite (.ite (handleChannelCmd_good _ _ _ _ _) (handleChannelCmd_good _ _ _ _ _))
    (handleChannelCmd_good _ _ _ _ _)

theorem handleRefresh_good (cfg : Cfg) (st : Core) (c : Cmd) : Good (handleRefresh cfg st c) :=
  .ite (errReply_good _ _) <| .ite (disconnect_good _ _) <| .ite (disconnect_good _ _) (invoke_good _ _ _ _)

theorem handleSubRefresh_good (cfg : Cfg) (st : Core) (c : Cmd) : Good (handleSubRefresh cfg st c) := by
  refine .ite (disconnect_good _ _) ?_
  split
  · exact .ite (errReply_good _ _) <| .ite (disconnect_good _ _) <| .ite (errReply_good _ _) (invoke_good _ _ _ _)
  · exact errReply_good _ _

theorem handleUnsubscribe_good (cfg : Cfg) (st : Core) (c : Cmd) : Good (handleUnsubscribe cfg st c) := by
  refine .ite (disconnect_good _ _) <| .ite ⟨.inl rfl, nofun, rfl, rfl⟩ ?_
  split <;> exact ⟨.inl rfl, nofun, rfl, rfl⟩

/-- map subscriptions (`Type ∈ {1,2,3}`) are outside the model -/
def Cmd.modelled (c : Cmd) : Bool := !(c.subscribe && (c.typ = 1 || c.typ = 2 || c.typ = 3))

theorem handleSubscribe_good (cfg : Cfg) (st : Core) (c : Cmd) (hm : c.modelled = true)
    (hs : c.subscribe = true) : Good (handleSubscribe cfg st c) := by
  have hm : ¬ (decide (c.typ = 1) || decide (c.typ = 2) || decide (c.typ = 3)) = true := by
    rwa [Cmd.modelled, hs, Bool.true_and, Bool.not_eq_true', ← Bool.not_eq_true] at hm
  exact .ite (disconnect_good _ _) <| .ite (errReply_good _ _) <| .ite' (fun h => absurd h hm) fun _ =>
    .ite (errReply_good _ _) <| .ite (disconnect_good _ _) <| .ite (errReply_good _ _) <|
    .ite (errReply_good _ _) <| .ite (errReply_good _ _) (invoke_good _ _ _ _)

theorem handlerChain_good (cfg : Cfg) (st : Core) (c : Cmd) (hm : c.modelled = true)
    (hs : c.sendSelected = false) : Good (handlerChain cfg st c) :=
  .ite' (fun _ => handleConnect_good _ _ _) fun h1 => .ite' (fun _ => errReply_good _ _) fun h2 =>
  .ite' (fun h3 => handleSubscribe_good _ _ _ hm h3) fun h3 => .ite' (fun _ => handleUnsubscribe_good _ _ _) fun h4 =>
  .ite' (fun _ => handlePublish_good _ _ _) fun h5 => .ite' (fun _ => handleChannelCmd_good _ _ _ _ _) fun h6 =>
  .ite' (fun _ => handleChannelCmd_good _ _ _ _ _) fun h7 => .ite' (fun _ => handleChannelCmd_good _ _ _ _ _) fun h8 =>
  .ite' (fun _ => .ite (errReply_good _ _) (invoke_good _ _ _ _)) fun h9 =>
  -- the `send` handler is selected only when no earlier branch is
  .ite' (fun h10 => by simp [Cmd.sendSelected, h1, h2, h3, h4, h5, h6, h7, h8, h9, h10] at hs) fun _ =>
  .ite (handleRefresh_good _ _ _) <| .ite (handleSubRefresh_good _ _ _) (disconnect_good _ _)

/-- every command that is owed a reply is answered by `dispatchCommand` in exactly one of the
ways: one reply / error reply, a parked callback, or a close (the reply may be accompanied by a
spawned close) -/
theorem dispatch_good (cfg : Cfg) (st : Core) (lp : PingSt) (c : Cmd) (hm : c.modelled = true)
    (ho : owesReply c = true) : Good (dispatch cfg st lp c) := by
  simp only [owesReply, Bool.and_eq_true, decide_eq_true_eq, Bool.not_eq_true'] at ho
  refine .ite (disconnect_good _ _) <| .ite' (fun h => ?_) fun _ =>
    .ite (disconnect_good _ _) (handlerChain_good _ _ _ hm ho.2)
  simp only [isPong, Bool.and_eq_true, decide_eq_true_eq] at h
  omega

def St.enter (st : St) (id : Nat) (tag : Option Nat) : St :=
  { st with nCmds := st.nCmds + 1, owed := st.owed ++ (match tag with | some k => [(k, id)] | none => []) }

theorem handleCommand_cases (cfg : Cfg) (st : St) (c : Cmd) {P : St → List Nat → Prop}
    (hskip : P st []) (hbad : P st [bad])
    (hrun : st.core.status ≠ .closed → ∀ tag, (∀ k, tag = some k → owesReply c = true ∧ k = st.nCmds) →
      P (commit (st.enter c.id tag) (dispatch cfg st.core st.lastPing c) c.id tag)
        ((dispatch cfg st.core st.lastPing c).disc.toList ++ (dispatch cfg st.core st.lastPing c).spawn.toList)) :
    P (handleCommand cfg st c).st (handleCommand cfg st c).spawns := by
  unfold handleCommand
  split
  · exact hskip
  · split
    · exact hbad
    · refine hrun ‹_› _ fun k hk => ?_
      split at hk
      · cases hk; exact ⟨‹_›, rfl⟩
      · cases hk

theorem fireOne_cases (st : St) (i : Nat) {P : St → List Nat → Prop} (hskip : P st [])
    (hrun : ∀ p, st.pending[i]? = some p →
      P (commit { st with pending := st.pending.eraseIdx i } { complete st.core p with pend := none } p.id p.tag)
        (complete st.core p).spawn.toList) :
    P (fireOne st i).1 (fireOne st i).2 := by
  unfold fireOne
  split
  · exact hskip
  · exact hrun _ ‹_›

theorem dispatch_unauth (cfg : Cfg) {st : Core} (lp : PingSt) {c : Cmd} (hauth : st.authenticated = false)
    (hc : c.connect = false) : dispatch cfg st lp c = disconnect st bad := by
  simp [dispatch, hauth, hc]

theorem dispatch_pong (cfg : Cfg) {st : Core} (lp : PingSt) {c : Cmd} (hauth : st.authenticated = true)
    (hp : isPong c = true) :
    dispatch cfg st lp c = if lp = .pinged then { st := st, pong := true } else disconnect st bad := by
  simp [dispatch, hauth, hp]

/-- equal up to the ghost fields `nCmds`, `owed`, `excused` -/
structure Untouched (st st' : St) : Prop where
  core : st'.core = st.core
  pending : st'.pending = st.pending
  frameLog : st'.frameLog = st.frameLog
  handlerLog : st'.handlerLog = st.handlerLog
  closeLog : st'.closeLog = st.closeLog

theorem handleCommand_disconnect {cfg : Cfg} {st : St} {c : Cmd} {code : Nat}
    (hopen : st.core.status ≠ .closed) (husable : st.core.unusable = false)
    (hd : dispatch cfg st.core st.lastPing c = disconnect st.core code) :
    let r := handleCommand cfg st c
    r.spawns = [code] ∧ r.proceed = false ∧ Untouched st r.st := by
  refine ⟨?_, ?_, ?_, ?_, ?_, ?_, ?_⟩ <;>
    simp [handleCommand, hopen, husable, hd, disconnect, commit, pushFrames]

theorem step_frame_disconnect {cfg : Cfg} {st : St} {c : Cmd} {code : Nat} (cs : List Cmd) (t : Tail)
    (hopen : st.core.status ≠ .closed) (husable : st.core.unusable = false)
    (hd : dispatch cfg st.core st.lastPing c = disconnect st.core code) (hcode : code ≠ 3000) :
    let r := step cfg st (.frame (c :: cs) t)
    r.proceed = some false ∧ r.st.core.status = .closed ∧ r.st.closeLog = st.closeLog ++ [code] ∧
      r.st.frameLog = st.frameLog ++ [.discPush code] ∧ r.st.pending = st.pending ∧
      r.st.handlerLog.take st.handlerLog.length = st.handlerLog := by
  obtain ⟨h1, h2, hu⟩ := handleCommand_disconnect hopen husable hd
  simp [step, handleFrame, h1, h2, spawnClose, closeWith, hu.core, hopen, hu.closeLog, hu.frameLog, hu.pending,
    hu.handlerLog, hcode]

theorem commit_frameLog_silent (st : St) {e : Eff} (id : Nat) (tag : Option Nat) (hr : e.reply = none)
    (hp : e.pub = false) : (commit st e id tag).frameLog = st.frameLog := by
  simp [commit, pushFrames, hr, hp]

/-- `I st sp`: `sp` are the closes spawned so far in the current op -/
structure OpInv (cfg : Cfg) (ok : Cmd → Bool) (I : St → List Nat → Prop) : Prop where
  more : ∀ {st sp} x, I st sp → I st (sp ++ x)
  cmd : ∀ {st sp} c, ok c = true → I st sp →
    I (handleCommand cfg st c).st (sp ++ (handleCommand cfg st c).spawns)
  fire : ∀ {st sp} i, I st sp → I (fireOne st i).1 (sp ++ (fireOne st i).2)
  close : ∀ {st sp} code, I st sp → I (closeWith cfg st code) []
  ping : ∀ {st}, I st [] → I { st with lastPing := .pinged, frameLog := st.frameLog ++ [.ping],
                                        pingLog := st.pingLog ++ [.ping] } []

def Op.all (ok : Cmd → Bool) : Op → Bool
  | .frame cmds _ => cmds.all ok
  | _ => true

section
variable {cfg : Cfg} {ok : Cmd → Bool} {I : St → List Nat → Prop} (h : OpInv cfg ok I)
include h

theorem OpInv.handleFrame : ∀ (cmds : List Cmd) (st : St) (sp : List Nat) (t : Tail) (b : Bool),
    cmds.all ok = true → I st sp →
    I (handleFrame cfg st sp cmds t b).st (handleFrame cfg st sp cmds t b).spawns
  | [], st, sp, t, b, _, hi => by
    unfold ConnProto.handleFrame
    split
    · exact hi
    · exact h.more _ hi
    · next heq => cases heq
  | c :: cs, st, sp, t, b, hm, hi => by
    rw [List.all_cons, Bool.and_eq_true] at hm
    rw [ConnProto.handleFrame]
    split
    · exact h.cmd c hm.1 hi
    · exact OpInv.handleFrame cs _ _ t true hm.2 (h.cmd c hm.1 hi)

theorem OpInv.fireAll : ∀ (is : List Nat) (st : St) (sp : List Nat), I st sp →
    I (fireAll st sp is).1 (fireAll st sp is).2
  | [], _, _, hi => hi
  | i :: is, st, sp, hi => by
    rw [ConnProto.fireAll]
    exact OpInv.fireAll is _ _ (h.fire i hi)

theorem OpInv.spawnClose {st : St} {sp : List Nat} (hi : I st sp) : I (spawnClose cfg st sp) [] := by
  cases sp with
  | nil => exact hi
  | cons code _ => exact h.close code hi

theorem OpInv.step (st : St) (o : Op) (ho : o.all ok = true) (hi : I st []) : I (step cfg st o).st [] := by
  cases o with
  | frame cmds tail => exact h.spawnClose (h.handleFrame cmds st [] tail false ho hi)
  | fire idxs => exact h.spawnClose (h.fireAll idxs st [] hi)
  | ping =>
    simp only [ConnProto.step]
    split
    · exact h.ping hi
    · exact hi
  | eof => exact h.close 3000 hi

theorem OpInv.run : ∀ (ops : List Op) (st : St), ops.all (Op.all ok) = true → I st [] → I (run cfg st ops) []
  | [], _, _, hi => hi
  | o :: os, st, hm, hi => by
    rw [List.all_cons, Bool.and_eq_true] at hm
    exact OpInv.run os _ hm.2 (h.step st o hm.1 hi)

end

/-- all commands of an op are inside the model -/
def Op.modelled : Op → Bool
  | .frame cmds _ => cmds.all Cmd.modelled
  | _ => true

theorem Op.modelled_eq : Op.modelled = Op.all Cmd.modelled := by
  funext o; cases o <;> rfl

/-! ## Reply accounting -/

/-- number of reply frames written for the command with tag `k` -/
def rc (k : Nat) (st : St) : Nat := (st.frameLog.filter (fun f => f.tag == some k)).length
/-- number of parked callbacks of the command with tag `k` -/
def pc (k : Nat) (st : St) : Nat := (st.pending.filter (fun p => p.tag == some k)).length
/-- number of times the command with tag `k` was answered by closing the connection -/
def xc (k : Nat) (st : St) : Nat := (st.excused.filter (· == k)).length
/-- number of dispatched commands with tag `k` that are owed a reply -/
def oc (k : Nat) (st : St) : Nat := (st.owed.filter (fun p => p.1 == k)).length

structure Acc (st : St) : Prop where
  bal : ∀ k, rc k st + pc k st + xc k st = oc k st
  fresh : ∀ k, st.nCmds ≤ k → oc k st = 0
  once : ∀ k, oc k st ≤ 1

theorem acc_init : Acc {} :=
  ⟨fun _ => rfl, fun _ _ => rfl, fun _ => Nat.zero_le 1⟩

theorem filter_eraseIdx {α} (f : α → Bool) : ∀ (l : List α) (i : Nat) (p : α), l[i]? = some p →
    ((l.eraseIdx i).filter f).length + (if f p then 1 else 0) = (l.filter f).length
  | [], i, p, h => by simp at h
  | a :: l, 0, p, h => by
    simp at h; subst h
    by_cases hf : f a <;> simp [hf]
  | a :: l, i + 1, p, h => by
    simp at h
    have := filter_eraseIdx f l i p h
    by_cases hf : f a <;> simp [hf] <;> omega

theorem RBody.frame_tag (b : RBody) (id : Nat) (tag : Option Nat) : (b.frame id tag).tag = tag := by
  cases b <;> rfl

theorem pushFrames_untagged (e : Eff) (k : Nat) :
    (pushFrames e).filter (fun f => f.tag == some k) = [] := by
  unfold pushFrames; split <;> rfl

theorem rc_append_untagged (l l' : List Frame) (k : Nat) (h : ∀ f ∈ l', f.tag = none) :
    ((l ++ l').filter (fun f => f.tag == some k)).length = (l.filter (fun f => f.tag == some k)).length := by
  have : l'.filter (fun f => f.tag == some k) = [] :=
    List.filter_eq_nil_iff.mpr fun f hf => by simp [h f hf]
  rw [List.filter_append, this, List.append_nil]

theorem commit_counts (st : St) (e : Eff) (id : Nat) (tag : Option Nat)
    (hex : tag.isSome → e.pend.isSome → e.reply = none) (k : Nat) :
    rc k (commit st e id tag) + pc k (commit st e id tag) + xc k (commit st e id tag) =
      rc k st + pc k st + xc k st + if tag = some k then 1 else 0 := by
  simp only [rc, pc, xc, commit, List.filter_append, List.length_append, pushFrames_untagged,
    List.length_nil, Nat.add_zero]
  by_cases hk : tag = some k
  · -- own tag: a parked callback, else a reply on an open transport, else an excuse
    subst hk
    cases hp : e.pend with
    | some p => simp +arith [hex rfl (by simp [hp])]
    | none =>
      cases hr : e.reply with
      | none => simp +arith
      | some b => by_cases hc : e.st.status = .closed <;> simp +arith [hc, RBody.frame_tag]
  · rw [if_neg hk]
    cases tag with
    | none => cases e.reply <;> cases e.pend <;> simp [RBody.frame_tag]
    | some n =>
      have hn : ¬ n = k := fun h => hk (congrArg some h)
      by_cases hc : e.st.status = .closed <;> cases e.reply <;> cases e.pend <;> simp [RBody.frame_tag, hc, hn]

theorem oc_append (k : Nat) (st : St) (x : List (Nat × Nat)) (n : Nat) :
    oc k { st with nCmds := n, owed := st.owed ++ x } = oc k st + (x.filter (fun p => p.1 == k)).length := by
  simp [oc, List.filter_append]

theorem oc_enter (k : Nat) (st : St) (id : Nat) (tag : Option Nat) :
    oc k (st.enter id tag) = oc k st + if tag = some k then 1 else 0 := by
  rw [St.enter.eq_def, oc_append]
  cases tag with
  | none => rfl
  | some n => by_cases hn : n = k <;> simp [hn]

theorem commit_acc {st : St} {e : Eff} {id : Nat} {tag : Option Nat}
    (hex : tag.isSome → e.pend.isSome → e.reply = none)
    (hbal : ∀ k, rc k st + pc k st + xc k st + (if tag = some k then 1 else 0) = oc k st)
    (hfresh : ∀ k, st.nCmds ≤ k → oc k st = 0) (honce : ∀ k, oc k st ≤ 1) : Acc (commit st e id tag) :=
  ⟨fun k => (commit_counts st e id tag hex k).trans (hbal k), hfresh, honce⟩

theorem handleCommand_acc (cfg : Cfg) (st : St) (c : Cmd) (hm : c.modelled = true) (h : Acc st) :
    Acc (handleCommand cfg st c).st := by
  refine handleCommand_cases cfg st c (P := fun s _ => Acc s) h h fun _ tag htag => ?_
  have hoc := fun k => oc_enter k st c.id tag
  refine commit_acc (fun ht hp => ?_) (fun k => ?_) (fun k hk => ?_) (fun k => ?_)
  · obtain ⟨k, rfl⟩ := Option.isSome_iff_exists.mp ht
    exact ((dispatch_good cfg st.core st.lastPing c hm (htag k rfl).1).excl hp).1
  · rw [hoc, ← h.bal k]; rfl
  · -- the tag is the fresh `st.nCmds`
    have hk : st.nCmds + 1 ≤ k := hk
    rw [hoc, h.fresh k (Nat.le_of_succ_le hk), if_neg fun ht => by have := (htag k ht).2; omega]
  · rw [hoc]
    split
    · next ht => rw [(htag k ht).2, h.fresh _ (Nat.le_refl _)]; exact Nat.le_refl 1
    · exact h.once k

theorem fireOne_acc (st : St) (i : Nat) (h : Acc st) : Acc (fireOne st i).1 := by
  refine fireOne_cases st i (P := fun s _ => Acc s) h fun p hp => ?_
  refine commit_acc (fun _ hp => nomatch hp) (fun k => ?_) h.fresh h.once
  have := filter_eraseIdx (fun q : Pending => q.tag == some k) st.pending i p hp
  simp only [beq_iff_eq] at this
  refine .trans ?_ (h.bal k)
  simp only [rc, pc, xc] at this ⊢
  omega

theorem closeWith_acc (cfg : Cfg) (st : St) (code : Nat) (h : Acc st) : Acc (closeWith cfg st code) := by
  unfold closeWith
  split
  · exact h
  · refine { h with bal := fun k => .trans ?_ (h.bal k) }
    exact congrArg (· + pc k st + xc k st) <| rc_append_untagged _ _ k fun f hf => by
      split at hf <;> simp at hf
      rw [hf]; rfl

theorem acc_opInv (cfg : Cfg) : OpInv cfg Cmd.modelled fun st _ => Acc st where
  more _ h := h
  cmd c hm h := handleCommand_acc cfg _ c hm h
  fire i h := fireOne_acc _ i h
  close code h := closeWith_acc cfg _ code h
  ping h := by
    refine { h with bal := fun k => .trans ?_ (h.bal k) }
    exact congrArg (· + pc k _ + xc k _) <| rc_append_untagged _ _ k fun f hf => by
      cases List.mem_singleton.mp hf; rfl

theorem run_acc (cfg : Cfg) (ops : List Op) (st : St) (hm : ops.all Op.modelled = true) (h : Acc st) :
    Acc (run cfg st ops) :=
  (acc_opInv cfg).run ops st (Op.modelled_eq ▸ hm) h

/-! ## An excuse means the connection is being closed -/

/-- a close has run or, in the current op, has been spawned -/
def Exc (st : St) (sp : List Nat) : Prop := st.excused ≠ [] → st.core.status = .closed ∨ sp ≠ []

theorem Exc.more {st : St} {sp : List Nat} (x : List Nat) (h : Exc st sp) : Exc st (sp ++ x) :=
  fun hne => (h hne).imp_right fun hs hx => hs (List.append_eq_nil_iff.mp hx).1

/-- a new excuse: answered, neither by parking nor by a reply on an open transport, so by a close -/
theorem commit_exc {st : St} {sp : List Nat} {e : Eff} {id : Nat} {tag : Option Nat} (h : Exc st sp)
    (hst : st.core.status = .closed → e.st.status = .closed) (hans : tag.isSome → Answered e) :
    Exc (commit st e id tag) (sp ++ (e.disc.toList ++ e.spawn.toList)) := by
  intro hne
  by_cases hold : st.excused = []
  · rw [show (commit st e id tag).excused = st.excused ++ _ from rfl, hold, List.nil_append] at hne
    cases tag with
    | none => exact absurd rfl hne
    | some k =>
      dsimp only at hne
      by_cases hcl : e.st.status = .closed
      · exact .inl hcl
      · rw [if_neg hcl] at hne
        split at hne
        · next hc =>
          rw [Bool.and_eq_true] at hc
          rcases hans rfl with h1 | h1 | h1 | h1
          · cases hr : e.reply <;> simp [hr] at h1 hc
          · exact .inr (by cases hs : e.spawn <;> simp [hs] at h1 ⊢)
          · cases hp : e.pend <;> simp [hp] at h1 hc
          · exact .inr (by cases hs : e.disc <;> simp [hs] at h1 ⊢)
        · exact absurd rfl hne
  · rcases h hold with h1 | h1
    · exact .inl (hst h1)
    · exact .inr (by simp [h1])

theorem closeWith_closed (cfg : Cfg) (st : St) (code : Nat) : (closeWith cfg st code).core.status = .closed := by
  unfold closeWith; split
  · assumption
  · rfl

theorem closeWith_excused (cfg : Cfg) (st : St) (code : Nat) : (closeWith cfg st code).excused = st.excused := by
  unfold closeWith; split <;> rfl

theorem exc_opInv (cfg : Cfg) : OpInv cfg Cmd.modelled Exc where
  more := Exc.more
  cmd {st sp} c hm h :=
    handleCommand_cases cfg st c (P := fun s x => Exc s (sp ++ x)) (h.more _) (h.more _) fun hopen tag htag =>
      commit_exc h (fun hc => absurd hc hopen) fun ht => by
        obtain ⟨k, rfl⟩ := Option.isSome_iff_exists.mp ht
        exact (dispatch_good cfg st.core st.lastPing c hm (htag k rfl).1).answered
  fire {st sp} i h :=
    fireOne_cases st i (P := fun s x => Exc s (sp ++ x)) (h.more _) fun p _ => by
      have hc := complete_completes st.core p
      have := commit_exc (st := { st with pending := st.pending.eraseIdx i })
        (e := { complete st.core p with pend := none }) (id := p.id) (tag := p.tag) h
        hc.status.trans fun _ => hc.answers.elim .inl (.inr ∘ .inl)
      simpa [hc.disc] using this
  close code _ _ := .inl (closeWith_closed cfg _ code)
  ping h := h

theorem run_exc (cfg : Cfg) (ops : List Op) (st : St) (hm : ops.all Op.modelled = true) (h : Exc st []) :
    Exc (run cfg st ops) [] :=
  (exc_opInv cfg).run ops st (Op.modelled_eq ▸ hm) h

/-! ## The ping/pong sign trick -/

/-- `lastPing > 0` exactly when the last ping-related event is a server ping that no pong has
answered yet; `lastPing = 0` exactly when no ping was ever sent -/
structure PingInv (st : St) : Prop where
  pinged : st.lastPing = .pinged ↔ st.pingLog.getLast? = some .ping
  none : st.lastPing = .none ↔ st.pingLog = []

theorem commit_pinginv (st : St) (e : Eff) (id : Nat) (tag : Option Nat) (h : PingInv st) :
    PingInv (commit st e id tag) := by
  unfold commit
  by_cases hp : e.pong = true
  · constructor <;> simp [hp]
  · constructor <;> simp [hp, h.pinged, h.none]

theorem pinginv_opInv (cfg : Cfg) : OpInv cfg (fun _ => true) fun st _ => PingInv st where
  more _ h := h
  cmd c _ h := handleCommand_cases cfg _ c (P := fun s _ => PingInv s) h h fun _ _ _ =>
    commit_pinginv _ _ _ _ ⟨h.pinged, h.none⟩
  fire i h := fireOne_cases _ i (P := fun s _ => PingInv s) h fun _ _ =>
    commit_pinginv _ _ _ _ ⟨h.pinged, h.none⟩
  close code h := by
    unfold closeWith
    split
    · exact h
    · exact ⟨h.pinged, h.none⟩
  ping _ := ⟨by simp, by simp⟩

theorem run_pinginv (cfg : Cfg) (ops : List Op) (st : St) (h : PingInv st) : PingInv (run cfg st ops) :=
  (pinginv_opInv cfg).run ops st (List.all_eq_true.mpr fun o _ => by cases o <;> simp [Op.all]) h

end CentrifugeVerif.ConnProto
