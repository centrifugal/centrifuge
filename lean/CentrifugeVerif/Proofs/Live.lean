import CentrifugeVerif.Model.Live
/-! `liveStep` branch by branch, and runs over arbitrary deliveries. -/
namespace CentrifugeVerif.Live

theorem liveStep_spec (s : Sub) (i : Inc) :
    (i.lag = true ∧ liveStep s i = (s, .insufficient .lag)) ∨
    (i.lag = false ∧ i.epoch ≠ s.epoch ∧ s.epoch ≠ 0 ∧ liveStep s i = (s, .insufficient .epoch)) ∨
    (i.lag = false ∧ (i.epoch = s.epoch ∨ s.epoch = 0) ∧
      ((s.pos + 1 < i.offset ∧ liveStep s i = (⟨s.pos, i.epoch⟩, .insufficient .offset)) ∨
       (i.offset < s.pos + 1 ∧ liveStep s i = (⟨s.pos, i.epoch⟩, .skipOld)) ∨
       (i.offset = s.pos + 1 ∧ i.filtered = true ∧
         liveStep s i = (⟨s.pos + 1, i.epoch⟩, .advanceFiltered (s.pos + 1))) ∨
       (i.offset = s.pos + 1 ∧ i.filtered = false ∧
         liveStep s i = (⟨s.pos + 1, i.epoch⟩, .deliver (s.pos + 1))))) := by
  unfold liveStep
  cases hl : i.lag
  case true => exact .inl ⟨rfl, rfl⟩
  by_cases he : i.epoch ≠ s.epoch ∧ s.epoch ≠ 0
  · exact .inr (.inl ⟨rfl, he.1, he.2, by simp [he]⟩)
  refine .inr (.inr ⟨rfl, by omega, ?_⟩)
  simp only [Bool.false_eq_true, if_false, he]
  by_cases h3 : i.offset > s.pos + 1
  · exact .inl ⟨h3, by simp [h3]⟩
  by_cases h4 : i.offset < s.pos + 1
  · exact .inr (.inl ⟨h4, by simp [h3, h4]⟩)
  have ho : i.offset = s.pos + 1 := by omega
  cases hf : i.filtered
  · exact .inr (.inr (.inr ⟨ho, rfl, by simp [ho]⟩))
  · exact .inr (.inr (.inl ⟨ho, rfl, by simp [ho]⟩))

@[simp] theorem run_cons (s : Sub) (i : Inc) (is : List Inc) :
    run s (i :: is) = ((run (liveStep s i).1 is).1, (liveStep s i).2 :: (run (liveStep s i).1 is).2) := rfl

theorem consumed_cons (a : Action) (as : List Action) :
    consumed (a :: as) = consumed [a] ++ consumed as := by
  cases a <;> rfl

theorem delivered_cons (a : Action) (as : List Action) :
    delivered (a :: as) = delivered [a] ++ delivered as := by
  cases a <;> rfl

theorem delivered_sublist_consumed (as : List Action) : (delivered as).Sublist (consumed as) := by
  induction as with
  | nil => exact .slnil
  | cons a as ih =>
    rw [delivered_cons, consumed_cons]
    refine .append ?_ ih
    cases a <;> simp [delivered, consumed]

theorem liveStep_pos (s : Sub) (i : Inc) :
    ((liveStep s i).1.pos = s.pos ∧ consumed [(liveStep s i).2] = []) ∨
    ((liveStep s i).1.pos = s.pos + 1 ∧ i.offset = s.pos + 1 ∧
      consumed [(liveStep s i).2] = [s.pos + 1]) := by
  rcases liveStep_spec s i with ⟨_, h⟩ | ⟨_, _, _, h⟩ |
    ⟨_, _, ⟨_, h⟩ | ⟨_, h⟩ | ⟨ho, _, h⟩ | ⟨ho, _, h⟩⟩ <;> simp [consumed, *]

/-- a step from position `a + n` extends the run `a+1 … a+n` by what it consumes -/
theorem liveStep_range (s : Sub) (i : Inc) (a n : Nat) (h : s.pos = a + n) :
    ∃ n', (liveStep s i).1.pos = a + n' ∧
      List.range' (a + 1) n ++ consumed [(liveStep s i).2] = List.range' (a + 1) n' := by
  rcases liveStep_pos s i with ⟨hp, hc⟩ | ⟨hp, _, hc⟩
  · exact ⟨n, hp.trans h, by rw [hc, List.append_nil]⟩
  · refine ⟨n + 1, by omega, ?_⟩
    rw [hc, h, List.range'_concat, Nat.one_mul, Nat.add_right_comm]

theorem run_range (s : Sub) (incs : List Inc) (a n : Nat) (h : s.pos = a + n) :
    ∃ n', (run s incs).1.pos = a + n' ∧
      List.range' (a + 1) n ++ consumed (run s incs).2 = List.range' (a + 1) n' := by
  induction incs generalizing s n with
  | nil => exact ⟨n, h, List.append_nil _⟩
  | cons i is ih =>
    obtain ⟨n1, h1, hc1⟩ := liveStep_range s i a n h
    obtain ⟨n', h', hc'⟩ := ih (liveStep s i).1 n1 h1
    exact ⟨n', h', by rw [run_cons, consumed_cons, ← List.append_assoc, hc1, hc']⟩

theorem run_contiguous (s : Sub) (incs : List Inc) :
    ∃ n, (run s incs).1.pos = s.pos + n ∧ consumed (run s incs).2 = List.range' (s.pos + 1) n :=
  run_range s incs s.pos 0 rfl

theorem liveStep_delivered (s : Sub) (i : Inc) :
    delivered [(liveStep s i).2] = [] ∨ delivered [(liveStep s i).2] = [i.offset] := by
  rcases liveStep_spec s i with ⟨_, h⟩ | ⟨_, _, _, h⟩ |
    ⟨_, _, ⟨_, h⟩ | ⟨_, h⟩ | ⟨_, _, h⟩ | ⟨ho, _, h⟩⟩ <;> simp [delivered, *]

theorem run_delivered_sublist (s : Sub) (incs : List Inc) :
    (delivered (run s incs).2).Sublist (incs.map (·.offset)) := by
  induction incs generalizing s with
  | nil => exact .slnil
  | cons i is ih =>
    rw [run_cons, delivered_cons, List.map_cons]
    rcases liveStep_delivered s i with h | h
    · rw [h]; exact (ih _).cons _
    · rw [h]; exact (ih _).cons_cons _

end CentrifugeVerif.Live
