import CentrifugeVerif.Proofs.Partition
import CentrifugeVerif.Gen.PartitionTags16
import CentrifugeVerif.Gen.PartitionTags32
import CentrifugeVerif.Gen.PartitionTags64
import CentrifugeVerif.Gen.PartitionTags128
import CentrifugeVerif.Gen.PartitionTags256
import CentrifugeVerif.Gen.PartitionTags512
import CentrifugeVerif.Gen.PartitionTags1024
import CentrifugeVerif.Gen.PartitionTags2048
import CentrifugeVerif.Gen.PartitionTags4096
/-!
Kernel-evaluated facts about the bundled tag tables.  Balance is not evaluated: the slot lists up to
512 are compared with the arithmetic progression they form, to which `spaced_balanced` applies.
-/
namespace CentrifugeVerif.Partition
open CentrifugeVerif.Gen.PartitionTags

structure TableOK (n : Nat) (tags : List Bytes) (slots : List Nat) : Prop where
  len : tags.length = n
  wf : tags.all tagWF = true
  slotsEq : slotsOf tags = slots
  sorted : strictlyIncreasing slots = true

/-- `RedisSlot.crcStep`, `crcByte` and `slot` of a well-formed tag, written with the `Nat` functions the
kernel computes directly on literals: through the operator notation and the decidable `if` of the
specification the kernel spends most of its time unfolding instances. -/
def stepK (c : Nat) : Nat :=
  Nat.land (Nat.xor (Nat.shiftLeft c 1) (bif Nat.beq (Nat.land c 0x8000) 0 then 0 else 0x1021)) 0xFFFF

def byteK (c : Nat) (b : UInt8) : Nat :=
  stepK (stepK (stepK (stepK (stepK (stepK (stepK (stepK (Nat.xor c (Nat.shiftLeft b.toNat 8)))))))))

def slotK (t : Bytes) : Nat := Nat.mod (t.foldl byteK 0) 16384

theorem stepK_eq (c : Nat) : stepK c = Spec.RedisSlot.crcStep c := by
  unfold stepK Spec.RedisSlot.crcStep
  by_cases h : c &&& 0x8000 = 0
  · rw [if_pos h, show Nat.land c 0x8000 = 0 from h]; rfl
  · rw [if_neg h, show Nat.beq (Nat.land c 0x8000) 0 = false from
      Bool.eq_false_iff.2 fun hb => h (Nat.eq_of_beq_eq_true hb)]; rfl

theorem slotsOf_eq_slotK (tags : List Bytes) (h : tags.all tagWF = true) : slotsOf tags = tags.map slotK := by
  apply List.map_congr_left
  intro t ht
  have : byteK = Spec.RedisSlot.crcByte := by funext c b; simp only [byteK, stepK_eq]; rfl
  rw [Spec.RedisSlot.slot, hashTag_tagKey t (List.all_eq_true.1 h t ht), slotK, this]
  rfl

instance (n : Nat) (tags : List Bytes) (slots : List Nat) : Decidable (TableOK n tags slots) :=
  decidable_of_iff (tags.length = n ∧ tags.all tagWF = true ∧ (tags.map slotK == slots) = true ∧
      strictlyIncreasing slots = true)
    ⟨fun ⟨a, b, c, d⟩ => ⟨a, b, (slotsOf_eq_slotK tags b).trans (eq_of_beq c), d⟩,
      fun ⟨a, b, c, d⟩ => ⟨a, b, beq_iff_eq.2 ((slotsOf_eq_slotK tags b).symm.trans c), d⟩⟩

theorem table16 : TableOK 16 tags16 slots16 := by decide +kernel
theorem table32 : TableOK 32 tags32 slots32 := by decide +kernel
theorem table64 : TableOK 64 tags64 slots64 := by decide +kernel
theorem table128 : TableOK 128 tags128 slots128 := by decide +kernel
theorem table256 : TableOK 256 tags256 slots256 := by decide +kernel
theorem table512 : TableOK 512 tags512 slots512 := by decide +kernel

-- the kernel's recursion over a list of 1024 or more elements exceeds the default depth
set_option maxRecDepth 1000000 in
theorem table1024 : TableOK 1024 tags1024 slots1024 := by decide +kernel
set_option maxRecDepth 1000000 in
theorem table2048 : TableOK 2048 tags2048 slots2048 := by decide +kernel
set_option maxRecDepth 1000000 in
theorem table4096 : TableOK 4096 tags4096 slots4096 := by decide +kernel

/-! The slots are the centres of `n` buckets of `16384 / n` slots each. -/

theorem spaced16 : slots16 = spaced 16 1024 512 := by decide +kernel
theorem spaced32 : slots32 = spaced 32 512 256 := by decide +kernel
theorem spaced64 : slots64 = spaced 64 256 128 := by decide +kernel
theorem spaced128 : slots128 = spaced 128 128 64 := by decide +kernel
theorem spaced256 : slots256 = spaced 256 64 32 := by decide +kernel
theorem spaced512 : slots512 = spaced 512 32 16 := by decide +kernel

theorem table_balanced {n w h : Nat} {tags : List Bytes} {slots : List Nat} (ht : TableOK n tags slots)
    (hs : slots = spaced n w h) (hT : n * w = totalSlots) (hh : h < w) (k : Nat) (h1 : 1 ≤ k) (h2 : k ≤ n) :
    Balanced (slotsOf tags) k := by
  rw [ht.slotsEq, hs]
  exact spaced_balanced n w h hT hh k h1 h2

end CentrifugeVerif.Partition
