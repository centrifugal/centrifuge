import CentrifugeVerif.Model.Partition
import CentrifugeVerif.Proofs.RedisKeys
/-!
Lemmas for C35: soundness of the checkers of `Model/Partition.lean`, the package's CRC16 / `TagSlot`
against the Redis specification, balance of evenly spaced slots under `SlotToNode`.
-/
namespace CentrifugeVerif.Partition
open CentrifugeVerif.Spec

theorem spanEq_spec (v : Nat) : ∀ l : List Nat,
    l = List.replicate (spanEq v l).1 v ++ (spanEq v l).2 ∧ (∀ x, (spanEq v l).2.head? = some x → x ≠ v)
  | [] => by simp [spanEq]
  | x :: xs => by
    unfold spanEq
    by_cases h : x = v
    · subst h
      have ih := spanEq_spec x xs
      simp only [if_true]
      constructor
      · rw [List.replicate_succ, List.cons_append, ← ih.1]
      · exact ih.2
    · simp [h]

theorem walk_sound : ∀ (f : Nat) (l : List Nat) (i lo hi : Nat), walk l i f lo hi = true →
    (∀ x ∈ l, i ≤ x ∧ x < i + f) ∧ (∀ j, i ≤ j → j < i + f → lo ≤ l.count j ∧ l.count j ≤ hi)
  | 0, l, i, lo, hi, h => by
    simp only [walk, List.isEmpty_iff] at h
    subst h
    constructor
    · intro x hx; cases hx
    · intro j h1 h2; omega
  | f + 1, l, i, lo, hi, h => by
    simp only [walk, Bool.and_eq_true, Nat.ble_eq] at h
    obtain ⟨⟨h1, h2⟩, h3⟩ := h
    have ih := walk_sound f (spanEq i l).2 (i + 1) lo hi h3
    have hs := (spanEq_spec i l).1
    constructor
    · intro x hx
      rw [hs] at hx
      rcases List.mem_append.1 hx with hx | hx
      · have := (List.mem_replicate.1 hx).2
        omega
      · have := ih.1 x hx
        omega
    · intro j hj1 hj2
      have hc : l.count j = (if i == j then (spanEq i l).1 else 0) + (spanEq i l).2.count j := by
        conv => lhs; rw [hs, List.count_append, List.count_replicate]
      by_cases hji : j = i
      · subst hji
        have hz : (spanEq j l).2.count j = 0 := by
          apply List.count_eq_zero.2
          intro hmem
          have := ih.1 j hmem
          omega
        rw [hc, hz]; simp; exact ⟨h1, h2⟩
      · have := ih.2 j (by omega) (by omega)
        rw [hc]; simp [Ne.symm hji]; exact this

theorem checkK_sound (slots : List Nat) (k : Nat) (h : checkK slots k = true) : Balanced slots k := by
  unfold checkK at h
  have := (walk_sound k _ 0 _ _ h).2
  intro i hi j hj
  have a := this i (Nat.zero_le _) (by omega)
  have b := this j (Nat.zero_le _) (by omega)
  unfold countOn
  omega

theorem checkRange_sound (slots : List Nat) : ∀ (cnt k0 : Nat), checkRange slots k0 cnt = true →
    ∀ k, k0 ≤ k → k < k0 + cnt → Balanced slots k
  | 0, k0, _, k, h1, h2 => by omega
  | cnt + 1, k0, h, k, h1, h2 => by
    simp only [checkRange, Bool.and_eq_true] at h
    by_cases hk : k = k0
    · subst hk; exact checkK_sound slots k h.1
    · exact checkRange_sound slots cnt (k0 + 1) h.2 k (by omega) (by omega)

theorem strictlyIncreasing_pairwise : ∀ l : List Nat, strictlyIncreasing l = true → l.Pairwise (· < ·)
  | [] , _ => List.Pairwise.nil
  | [a], _ => by simp
  | a :: b :: tl, h => by
    simp only [strictlyIncreasing, Bool.and_eq_true, Nat.blt_eq] at h
    have ih := strictlyIncreasing_pairwise (b :: tl) h.2
    rw [List.pairwise_cons]
    refine ⟨?_, ih⟩
    intro x hx
    rcases List.mem_cons.1 hx with hx | hx
    · subst hx; exact h.1
    · have := (List.pairwise_cons.1 ih).1 x hx
      omega

theorem strictlyIncreasing_nodup (l : List Nat) (h : strictlyIncreasing l = true) : l.Nodup :=
  (strictlyIncreasing_pairwise l h).imp Nat.ne_of_lt

/-! ### the package's CRC16 / TagSlot = what Redis computes for `{tag}` -/

theorem partCrcBit_eq (c : Nat) : partCrcBit c = RedisSlot.crcStep c := by
  unfold partCrcBit RedisSlot.crcStep
  by_cases h : c &&& 0x8000 = 0
  · simp [h]
  · simp only [h, ne_eq, not_false_eq_true, if_true, if_false]
    rw [Nat.and_xor_distrib_right]
    have : (0x1021 : Nat) &&& 0xFFFF = 0x1021 := by decide
    rw [this]

theorem partCrcByte_eq (c : Nat) (b : UInt8) : partCrcByte c b = RedisSlot.crcByte c b := by
  unfold partCrcByte RedisSlot.crcByte RedisSlot.crcStep8
  simp only [partCrcBit_eq]

theorem partCrc16_eq (bs : Bytes) : partCrc16 bs = RedisSlot.crc16 bs := by
  unfold partCrc16 RedisSlot.crc16
  congr 1
  funext c b
  exact partCrcByte_eq c b

theorem tagWF_mem (t : Bytes) (h : tagWF t = true) : t ≠ [] ∧ ∀ b ∈ t, b ≠ 123 ∧ b ≠ 125 ∧ b ≠ 46 := by
  unfold tagWF at h
  simp only [Bool.and_eq_true, Bool.not_eq_true', List.isEmpty_eq_false_iff, List.all_eq_true,
    Bool.or_eq_true, decide_eq_true_eq] at h
  refine ⟨h.1, ?_⟩
  intro b hb
  have := h.2 b hb
  refine ⟨?_, ?_, ?_⟩ <;> (intro e; subst e; revert this; decide)

theorem hashTag_tagKey (t : Bytes) (h : tagWF t = true) : RedisSlot.hashTag (tagKey t) = t := by
  obtain ⟨hne, hm⟩ := tagWF_mem t h
  have := RedisKeys.hashTag_shape [] t [] (by intro b hb; cases hb)
  simp only [List.nil_append] at this
  unfold tagKey
  rw [this, RedisKeys.takeWhile_all 125 t (fun b hb => (hm b hb).2.1)]
  simp [hne]

theorem tagSlot_eq_redis (t : Bytes) (h : tagWF t = true) : tagSlot t = RedisSlot.slot (tagKey t) := by
  unfold tagSlot RedisSlot.slot
  rw [hashTag_tagKey t h, partCrc16_eq]
  rfl

/-! ### evenly spaced slots are balanced

Node `i` owns `[firstSlot k i, firstSlot k (i + 1))`.  Of the points `h, h + w, …` (`h < w`), `⌈(x - h) / w⌉` lie
below `x`; an interval between `(n / k) * w` and `(n / k + 1) * w` long holds `n / k` or `n / k + 1` of them. -/

/-- the first `totalSlots % k` nodes own one slot more than the others -/
def firstSlot (k i : Nat) : Nat := i * (totalSlots / k) + min i (totalSlots % k)

theorem le_slotToNode_iff (s k i : Nat) (hk : 0 < totalSlots / k) :
    i ≤ slotToNode s k ↔ firstSlot k i ≤ s := by
  unfold slotToNode firstSlot
  generalize totalSlots / k = sn at *
  generalize totalSlots % k = r
  dsimp only
  have hb : r * (sn + 1) = r * sn + r := Nat.mul_succ r sn
  by_cases hs : s < r * (sn + 1)
  · rw [if_pos hs, Nat.le_div_iff_mul_le (Nat.succ_pos sn), Nat.mul_succ]
    by_cases hir : i ≤ r
    · rw [Nat.min_eq_left hir]
    · have := Nat.mul_le_mul_right sn (Nat.le_of_not_le hir)
      omega
  · rw [if_neg hs]
    by_cases hir : i ≤ r
    · have := Nat.mul_le_mul_right sn hir
      have := Nat.le_add_right_of_le (k := (s - r * (sn + 1)) / sn) hir
      omega
    · have : i ≤ r + (s - r * (sn + 1)) / sn ↔ i - r ≤ (s - r * (sn + 1)) / sn := by omega
      rw [this, Nat.le_div_iff_mul_le hk, Nat.sub_mul]
      have := Nat.mul_le_mul_right sn (Nat.le_of_not_le hir)
      omega

theorem slotToNode_eq_iff (s k i : Nat) (hk : 0 < totalSlots / k) :
    slotToNode s k = i ↔ firstSlot k i ≤ s ∧ s < firstSlot k (i + 1) := by
  have a := le_slotToNode_iff s k i hk
  have b := le_slotToNode_iff s k (i + 1) hk
  omega

theorem firstSlot_succ (k i : Nat) :
    ∃ d, d ≤ 1 ∧ firstSlot k (i + 1) = firstSlot k i + (totalSlots / k + d) := by
  refine ⟨min (i + 1) (totalSlots % k) - min i (totalSlots % k), by omega, ?_⟩
  unfold firstSlot
  rw [Nat.succ_mul]
  omega

theorem firstSlot_le_total (k i : Nat) (hi : i ≤ k) : firstSlot k i ≤ totalSlots := by
  unfold firstSlot
  have := Nat.mul_le_mul_right (totalSlots / k) hi
  have := Nat.div_add_mod totalSlots k
  have := Nat.mul_comm k (totalSlots / k)
  omega

theorem countP_range_Ico (a b n : Nat) :
    (List.range n).countP (fun j => decide (a ≤ j ∧ j < b)) = min b n - a := by
  induction n with
  | zero => simp
  | succ n ih =>
    rw [List.range_succ, List.countP_append, List.countP_singleton, ih]
    simp only [decide_eq_true_eq]
    split <;> omega

def spaced (n w h : Nat) : List Nat := (List.range n).map fun j => w * j + h

theorem spaced_lt_iff (w h e j x : Nat) (he : h + e + 1 = w) : w * j + h < x ↔ j < (x + e) / w := by
  rw [Nat.lt_iff_add_one_le (m := j), Nat.le_div_iff_mul_le (by omega), Nat.succ_mul, Nat.mul_comm j w]
  omega

theorem countOn_spaced (n w h e k i : Nat) (he : h + e + 1 = w) (hk : 0 < totalSlots / k) :
    countOn (spaced n w h) k i = min ((firstSlot k (i + 1) + e) / w) n - (firstSlot k i + e) / w := by
  unfold countOn spaced
  rw [List.count_eq_countP, List.countP_map, List.countP_map, ← countP_range_Ico]
  apply List.countP_congr
  intro j _
  have a := spaced_lt_iff w h e j (firstSlot k i) he
  have b := spaced_lt_iff w h e j (firstSlot k (i + 1)) he
  simp only [Function.comp, beq_iff_eq, decide_eq_true_eq, slotToNode_eq_iff _ k i hk]
  omega

theorem div_add_between (x l m w : Nat) (hw : 0 < w) (lo : m * w ≤ l) (up : l ≤ (m + 1) * w) :
    x / w + m ≤ (x + l) / w ∧ (x + l) / w ≤ x / w + (m + 1) := by
  rw [← Nat.add_mul_div_right x m hw, ← Nat.add_mul_div_right x (m + 1) hw]
  exact ⟨Nat.div_le_div_right (Nat.add_le_add_left lo x), Nat.div_le_div_right (Nat.add_le_add_left up x)⟩

theorem countOn_spaced_bounds (n w h k i : Nat) (hT : n * w = totalSlots) (hh : h < w)
    (h1 : 1 ≤ k) (h2 : k ≤ n) (hi : i < k) :
    n / k ≤ countOn (spaced n w h) k i ∧ countOn (spaced n w h) k i ≤ n / k + 1 := by
  have hw : 0 < w := by omega
  have lo : n / k * w ≤ totalSlots / k := by
    rw [Nat.le_div_iff_mul_le h1, Nat.mul_right_comm, ← hT]
    exact Nat.mul_le_mul_right _ (Nat.div_mul_le_self n k)
  have up : totalSlots / k < (n / k + 1) * w := by
    rw [Nat.div_lt_iff_lt_mul h1, Nat.mul_right_comm, ← hT, Nat.mul_comm _ k]
    exact Nat.mul_lt_mul_of_pos_right (Nat.lt_mul_div_succ n h1) hw
  have hk : 0 < totalSlots / k := by
    have := Nat.mul_le_mul_right w (Nat.div_pos h2 h1)
    omega
  rw [countOn_spaced n w h (w - 1 - h) k i (by omega) hk]
  -- all of node `i` lies below `totalSlots`, and so do `n` points
  have hB : (firstSlot k (i + 1) + (w - 1 - h)) / w < n + 1 := by
    rw [Nat.div_lt_iff_lt_mul hw, Nat.succ_mul, hT]
    have := firstSlot_le_total k (i + 1) hi
    omega
  obtain ⟨d, hd, hS⟩ := firstSlot_succ k i
  rw [hS, Nat.add_right_comm] at hB ⊢
  generalize n / k = m at *
  have := div_add_between (firstSlot k i + (w - 1 - h)) (totalSlots / k + d) m w hw (by omega) (by omega)
  omega

theorem spaced_balanced (n w h : Nat) (hT : n * w = totalSlots) (hh : h < w) (k : Nat)
    (h1 : 1 ≤ k) (h2 : k ≤ n) : Balanced (spaced n w h) k := by
  intro i hi j hj
  have a := countOn_spaced_bounds n w h k i hT hh h1 h2 hi
  have b := countOn_spaced_bounds n w h k j hT hh h1 h2 hj
  omega

/-- `checkRange_sound` for `k0 = 1`, as `1 ≤ k ≤ n` -/
theorem balanced_of_ranges (slots : List Nat) (n : Nat)
    (h : ∀ k, 1 ≤ k → k < 1 + n → Balanced slots k) : ∀ k, 1 ≤ k → k ≤ n → Balanced slots k :=
  fun k h1 h2 => h k h1 (by omega)

end CentrifugeVerif.Partition
