import CentrifugeVerif.Model.MapExpiry
/-!
One iteration of the phase-1 loop of the key sweeper (`MapHub.phase1Loop`) as a relation, and induction over a run.
-/
namespace CentrifugeVerif.MapExpiry
open CentrifugeVerif.MapHub

theorem popMin_none {q : List (ChKey × Nat)} (h : popMin q = none) : q = [] := by
  cases q with
  | nil => rfl
  | cons x t =>
    unfold popMin at h
    split at h
    · cases h
    · split at h <;> cases h

theorem popMin_some {q : List (ChKey × Nat)} {m : ChKey × Nat} {r : List (ChKey × Nat)}
    (h : popMin q = some (m, r)) : q.Perm (m :: r) ∧ ∀ x ∈ q, m.2 ≤ x.2 := by
  induction q generalizing m r with
  | nil => cases h
  | cons x t ih =>
    unfold popMin at h
    split at h
    · rename_i hn
      cases h
      rw [popMin_none hn]
      exact ⟨.refl _, fun y hy => by rw [List.mem_singleton.mp hy]; exact Nat.le_refl _⟩
    · rename_i m' r' hs
      obtain ⟨hperm, hmin⟩ := ih hs
      split at h
      · rename_i hle
        cases h
        refine ⟨.refl _, fun y hy => ?_⟩
        rcases List.mem_cons.mp hy with rfl | hy
        · exact Nat.le_refl _
        · exact Nat.le_trans hle (hmin y hy)
      · rename_i hle
        cases h
        refine ⟨(hperm.cons x).trans (.swap _ _ _), fun y hy => ?_⟩
        rcases List.mem_cons.mp hy with rfl | hy
        · omega
        · exact hmin y hy

/-- An iteration on `(h, evs)` that popped the elapsed item `((ch, key), p)`, leaving `rest`, goes on with
`(h2, evs2)`: one constructor per branch of the loop body, with the guards the proofs use. -/
inductive LoopStep (now : Nat) (h : Hub) (evs : List ExpEvent) (ch : Nat) (key : Key) (p : Nat)
    (rest : List (ChKey × Nat)) : Hub → List ExpEvent → Prop
  /-- nothing recorded, or the entry carries another, elapsed deadline -/
  | dropped :
      (∀ e, stateOf h ch key = some e → aget h.keyExpires (ch, key) = some e.expireAt → e.expireAt < p) →
      LoopStep now h evs ch key p rest { h with queue := rest } evs
  /-- a later deadline is recorded -/
  | later {stored : Nat} : aget h.keyExpires (ch, key) = some stored → p < stored →
      LoopStep now h evs ch key p rest { h with queue := rest ++ [((ch, key), stored)] } evs
  /-- empty key, or no such channel or key -/
  | gone : key = [] ∨ stateOf h ch key = none →
      LoopStep now h evs ch key p rest { h with keyExpires := adel h.keyExpires (ch, key), queue := rest } evs
  /-- the entry was refreshed to a deadline still ahead -/
  | refreshed {e : Entry} : stateOf h ch key = some e → now < e.expireAt →
      LoopStep now h evs ch key p rest
        { h with keyExpires := aset h.keyExpires (ch, key) e.expireAt,
                 queue := rest ++ [((ch, key), e.expireAt)] } evs
  /-- the entry carries this very deadline -/
  | due {e : Entry} (ss : Nat) : stateOf h ch key = some e → e.expireAt = p →
      LoopStep now h evs ch key p rest { h with queue := rest } (evs ++ [⟨ch, key, p, e.pub.tag, ss⟩])

theorem phase1Loop_step {cfg : Nat → RawCfg} {now n : Nat} {h : Hub} {evs : List ExpEvent} {ch : Nat}
    {key : Key} {p : Nat} {rest : List (ChKey × Nat)} (hp : popMin h.queue = some (((ch, key), p), rest))
    (hle : ¬ now < p) :
    ∃ h2 evs2, LoopStep now h evs ch key p rest h2 evs2 ∧
      phase1Loop cfg now (n + 1) h evs = phase1Loop cfg now n h2 evs2 := by
  simp only [phase1Loop, hp, gt_iff_lt, hle, if_false]
  split
  · rename_i hke
    exact ⟨_, _, .dropped (fun e _ h3 => by rw [hke] at h3; cases h3), rfl⟩
  · rename_i stored hke
    split
    · rename_i hst
      exact ⟨_, _, .later hke hst, rfl⟩
    · rename_i hst
      split
      · rename_i hk
        exact ⟨_, _, .gone (.inl hk), rfl⟩
      · split
        · rename_i hch
          exact ⟨_, _, .gone (.inr (by simp [stateOf, hch])), rfl⟩
        · rename_i c hch
          split
          · rename_i hkey
            exact ⟨_, _, .gone (.inr (by simp [stateOf, hch, hkey])), rfl⟩
          · rename_i e hkey
            have hs : stateOf h ch key = some e := by simp [stateOf, hch, hkey]
            split
            · rename_i hne
              split
              · rename_i hfut
                exact ⟨_, _, .refreshed hs hfut, rfl⟩
              · refine ⟨_, _, .dropped (fun e' hs' h3 => ?_), rfl⟩
                rw [hs] at hs'
                cases hs'
                rw [hke] at h3
                cases h3
                omega
            · rename_i heq
              exact ⟨_, _, .due _ hs (Decidable.of_not_not heq), rfl⟩

theorem phase1Loop_induct {cfg : Nat → RawCfg} {now : Nat}
    {P : Hub → List ExpEvent → Hub × Nat × List ExpEvent → Prop}
    (empty : ∀ h evs, h.queue = [] → P h evs (h, 0, evs))
    (future : ∀ h evs m rest, popMin h.queue = some (m, rest) → now < m.2 → P h evs (h, m.2, evs))
    (step : ∀ h evs ch key p rest h2 evs2 r, popMin h.queue = some (((ch, key), p), rest) → p ≤ now →
      LoopStep now h evs ch key p rest h2 evs2 → P h2 evs2 r → P h evs r) :
    ∀ {fuel h evs r}, phase1Loop cfg now fuel h evs = some r → P h evs r := by
  intro fuel
  induction fuel with
  | zero => intro h evs r hl; simp [phase1Loop] at hl
  | succ n ih =>
    intro h evs r hl
    cases hp : popMin h.queue with
    | none =>
      simp only [phase1Loop, hp, Option.some.injEq] at hl
      subst hl
      exact empty h evs (popMin_none hp)
    | some mr =>
      obtain ⟨⟨⟨ch, key⟩, p⟩, rest⟩ := mr
      by_cases hlt : now < p
      · simp only [phase1Loop, hp, gt_iff_lt, hlt, if_true, Option.some.injEq] at hl
        subst hl
        exact future h evs _ _ hp hlt
      · obtain ⟨h2, evs2, hs, heq⟩ := phase1Loop_step (cfg := cfg) (n := n) (evs := evs) hp hlt
        rw [heq] at hl
        exact step _ _ _ _ _ _ _ _ _ hp (Nat.le_of_not_lt hlt) hs (ih hl)

theorem LoopStep.chans {now : Nat} {h : Hub} {evs : List ExpEvent} {ch : Nat} {key : Key} {p : Nat}
    {rest : List (ChKey × Nat)} {h2 : Hub} {evs2 : List ExpEvent}
    (hs : LoopStep now h evs ch key p rest h2 evs2) : h2.chans = h.chans := by
  cases hs <;> rfl

end CentrifugeVerif.MapExpiry
