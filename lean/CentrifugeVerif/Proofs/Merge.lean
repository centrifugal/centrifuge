import CentrifugeVerif.Model.Merge
/-! Lemmas about the parts of `merge` (C39; the property theorems are in `Props/C39.lean`). -/
namespace CentrifugeVerif.Merge

theorem mem_ins (p q : MPub) (l : List MPub) : q ∈ ins p l ↔ q = p ∨ q ∈ l := by
  induction l with
  | nil => simp [ins]
  | cons x xs ih =>
    unfold ins
    split
    · exact List.mem_cons
    · simp only [List.mem_cons, ih, or_left_comm]

theorem mem_isort (l : List MPub) (p : MPub) : p ∈ isort l ↔ p ∈ l := by
  induction l with
  | nil => simp [isort]
  | cons x xs ih => simp only [isort, mem_ins, ih, List.mem_cons]

theorem ins_pairwise (p : MPub) (l : List MPub)
    (h : l.Pairwise (fun a b => a.offset ≤ b.offset)) :
    (ins p l).Pairwise (fun a b => a.offset ≤ b.offset) := by
  induction l with
  | nil => simp [ins]
  | cons x xs ih =>
    unfold ins
    have ⟨hx, hxs⟩ := List.pairwise_cons.mp h
    split
    · next hle =>
      refine List.pairwise_cons.mpr ⟨fun b hb => ?_, h⟩
      rcases List.mem_cons.mp hb with rfl | hb
      · exact hle
      · exact Nat.le_trans hle (hx b hb)
    · next hgt =>
      refine List.pairwise_cons.mpr ⟨fun b hb => ?_, ih hxs⟩
      rcases (mem_ins p b xs).mp hb with rfl | hb
      · omega
      · exact hx b hb

theorem isort_pairwise (l : List MPub) :
    (isort l).Pairwise (fun a b => a.offset ≤ b.offset) := by
  induction l with
  | nil => exact .nil
  | cons x xs ih => exact ins_pairwise x _ ih

theorem uniq_mem {seen : List Nat} {l : List MPub} {p : MPub} (h : p ∈ uniq seen l) :
    p ∈ l ∧ p.filtered = false ∧ p.offset ∉ seen := by
  fun_induction uniq seen l with
  | case1 => cases h
  | case2 _ _ _ _ ih => exact ⟨List.mem_cons_of_mem _ (ih h).1, (ih h).2⟩
  | case3 _ _ _ _ _ ih => exact ⟨List.mem_cons_of_mem _ (ih h).1, (ih h).2⟩
  | case4 seen q qs hf hs ih =>
    rcases List.mem_cons.mp h with rfl | h'
    · exact ⟨List.mem_cons_self, by simpa using hf, hs⟩
    · exact ⟨List.mem_cons_of_mem _ (ih h').1, (ih h').2.1,
        fun hm => (ih h').2.2 (List.mem_cons_of_mem _ hm)⟩

theorem uniq_sublist (seen : List Nat) (l : List MPub) : (uniq seen l).Sublist l := by
  fun_induction uniq seen l with
  | case1 => exact .slnil
  | case2 _ _ _ _ ih => exact ih.cons _
  | case3 _ _ _ _ _ ih => exact ih.cons _
  | case4 _ _ _ _ _ ih => exact ih.cons_cons _

theorem uniq_offsets_distinct (seen : List Nat) (l : List MPub) :
    (uniq seen l).Pairwise (fun a b => a.offset ≠ b.offset) := by
  fun_induction uniq seen l with
  | case1 => exact .nil
  | case2 _ _ _ _ ih => exact ih
  | case3 _ _ _ _ _ ih => exact ih
  | case4 _ q _ _ _ ih =>
    refine List.pairwise_cons.mpr ⟨fun b hb heq => ?_, ih⟩
    exact (uniq_mem hb).2.2 (heq ▸ List.mem_cons_self)

theorem uniq_complete {seen : List Nat} {l : List MPub} {p : MPub}
    (hp : p ∈ l) (hf : p.filtered = false) (hs : p.offset ∉ seen) :
    ∃ q ∈ uniq seen l, q.offset = p.offset := by
  fun_induction uniq seen l with
  | case1 => cases hp
  | case2 _ q _ hq ih =>
    rcases List.mem_cons.mp hp with rfl | hp'
    · rw [hf] at hq; cases hq
    · exact ih hp' hs
  | case3 _ q _ _ hq ih =>
    rcases List.mem_cons.mp hp with rfl | hp'
    · exact absurd hq hs
    · exact ih hp' hs
  | case4 seen q qs _ _ ih =>
    by_cases hq : p.offset = q.offset
    · exact ⟨q, List.mem_cons_self, hq.symm⟩
    · rcases List.mem_cons.mp hp with rfl | hp'
      · exact absurd rfl hq
      · obtain ⟨r, hr, hro⟩ := ih hp' (by simp [hq, hs])
        exact ⟨r, List.mem_cons_of_mem _ hr, hro⟩

theorem uniq_sorted_strict (l : List MPub) :
    (uniq [] (isort l)).Pairwise (fun a b => a.offset < b.offset) :=
  (((isort_pairwise l).sublist (uniq_sublist _ _)).and (uniq_offsets_distinct _ _)).imp
    fun h => Nat.lt_of_le_of_ne h.1 h.2

theorem uniq_sorted_offset (l : List MPub) (o : Nat) :
    (∃ q ∈ uniq [] (isort l), q.offset = o) ↔ ∃ p ∈ l, p.filtered = false ∧ p.offset = o := by
  constructor
  · rintro ⟨q, hq, rfl⟩
    exact ⟨q, (mem_isort _ _).mp (uniq_mem hq).1, (uniq_mem hq).2.1, rfl⟩
  · rintro ⟨p, hp, hf, rfl⟩
    exact uniq_complete ((mem_isort _ _).mpr hp) hf List.not_mem_nil

theorem mem_skipped (l : List MPub) (o : Nat) :
    o ∈ skipped l ↔ ∃ p ∈ l, p.filtered = true ∧ p.offset = o := by
  simp [skipped, List.mem_map, List.mem_filter, and_assoc]

theorem between_iff (sk : List Nat) (a b : Nat) :
    between sk a b = true ↔ ∀ o, a < o → o < b → o ∈ sk := by
  simp only [between, List.all_eq_true, List.mem_range'_1, decide_eq_true_eq]
  constructor
  · intro h o h1 h2; exact h o (by omega)
  · intro h o ho; exact h o (by omega) (by omega)

theorem gapStep_iff (sk : List Nat) {a b : Nat} (hab : a < b) :
    (b == a + 1 || (!sk.isEmpty && between sk a b)) = true ↔ ∀ o, a < o → o < b → o ∈ sk := by
  rw [Bool.or_eq_true, Bool.and_eq_true, beq_iff_eq, between_iff]
  constructor
  · rintro (h | h) o h1 h2
    · omega
    · exact h.2 o h1 h2
  · intro h
    by_cases hc : b = a + 1
    · exact Or.inl hc
    · -- `a + 1` lies in the gap, so `sk` is not empty
      have hne : sk.isEmpty = false := by
        cases sk with
        | nil => cases h (a + 1) (by omega) (by omega)
        | cons _ _ => rfl
      exact Or.inr ⟨by rw [hne]; rfl, h⟩

/-- on a strictly increasing list the Go gap loop succeeds exactly when every offset between two
entries is an entry's offset or a skipped one. -/
theorem gapsCovered_iff (sk : List Nat) (l : List MPub)
    (hs : l.Pairwise (fun a b => a.offset < b.offset)) :
    gapsCovered sk l = true ↔
      ∀ a ∈ l, ∀ c ∈ l, ∀ o, a.offset < o → o < c.offset → (∃ q ∈ l, q.offset = o) ∨ o ∈ sk := by
  induction l with
  | nil => simp [gapsCovered]
  | cons x rest ih =>
    cases rest with
    | nil =>
      simp only [gapsCovered, List.mem_singleton, forall_eq, true_iff]
      intro o h1 h2; omega
    | cons y rest =>
      have ⟨hx, hs'⟩ := List.pairwise_cons.mp hs
      have hxy := hx y List.mem_cons_self
      have hy := (List.pairwise_cons.mp hs').1
      rw [gapsCovered, Bool.and_eq_true, gapStep_iff sk hxy, ih hs']
      constructor
      · rintro ⟨hh, ht⟩ a ha c hc o h1 h2
        have hxa : x.offset ≤ a.offset := by
          rcases List.mem_cons.mp ha with rfl | ha
          · exact Nat.le_refl _
          · exact Nat.le_of_lt (hx a ha)
        rcases Nat.lt_trichotomy o y.offset with hlt | heq | hgt
        · exact Or.inr (hh o (by omega) hlt)
        · exact Or.inl ⟨y, by simp, heq.symm⟩
        · -- both ends of the gap lie in the tail
          have hc' : c ∈ y :: rest := by
            rcases List.mem_cons.mp hc with rfl | hc
            · omega
            · exact hc
          exact (ht y List.mem_cons_self c hc' o hgt h2).imp
            (fun ⟨q, hq, e⟩ => ⟨q, List.mem_cons_of_mem _ hq, e⟩) id
      · intro h
        refine ⟨fun o h1 h2 => ?_, fun a ha c hc o h1 h2 => ?_⟩
        · rcases h x List.mem_cons_self y (by simp) o h1 h2 with ⟨q, hq, e⟩ | hsk
          · rcases List.mem_cons.mp hq with rfl | hq
            · omega
            · have := hx q hq
              rcases List.mem_cons.mp hq with rfl | hq
              · omega
              · have := hy q hq; omega
          · exact hsk
        · have := hx a ha
          rcases h a (List.mem_cons_of_mem _ ha) c (List.mem_cons_of_mem _ hc) o h1 h2 with
            ⟨q, hq, e⟩ | hsk
          · rcases List.mem_cons.mp hq with rfl | hq
            · omega
            · exact Or.inl ⟨q, hq, e⟩
          · exact Or.inr hsk

theorem foldl_max_spec (l : List MPub) (m : Nat) :
    m ≤ l.foldl (fun m p => max m p.offset) m ∧
    (∀ p ∈ l, p.offset ≤ l.foldl (fun m p => max m p.offset) m) ∧
    (l.foldl (fun m p => max m p.offset) m = m ∨
      ∃ p ∈ l, p.offset = l.foldl (fun m p => max m p.offset) m) := by
  induction l generalizing m with
  | nil => simp
  | cons q qs ih =>
    simp only [List.foldl_cons, List.mem_cons, forall_eq_or_imp]
    obtain ⟨h1, h2, h3⟩ := ih (max m q.offset)
    refine ⟨by omega, ⟨by omega, h2⟩, ?_⟩
    rcases h3 with h | ⟨p, hp, h⟩
    · by_cases hm : q.offset ≤ m
      · left; omega
      · right; exact ⟨q, Or.inl rfl, by omega⟩
    · right; exact ⟨p, Or.inr hp, h⟩

theorem maxSeen_spec (l : List MPub) :
    (∀ p ∈ l, p.offset ≤ maxSeen l) ∧ (maxSeen l = 0 ∨ ∃ p ∈ l, p.offset = maxSeen l) :=
  (foldl_max_spec l 0).2

theorem maxSeen_isort_spec (l : List MPub) :
    (∀ p ∈ l, p.offset ≤ maxSeen (isort l)) ∧
      (maxSeen (isort l) = 0 ∨ ∃ p ∈ l, p.offset = maxSeen (isort l)) := by
  simpa only [mem_isort] using maxSeen_spec (isort l)

theorem all_eq (r b : List MPub) : (if b.isEmpty then r else r ++ b) = r ++ b := by
  cases b <;> simp

theorem merge_eq_some {r b l : List MPub} {m : Nat} (h : merge r b = some (l, m)) :
    l = uniq [] (isort (r ++ b)) ∧ m = maxSeen (isort (r ++ b)) := by
  unfold merge at h
  simp only [all_eq] at h
  split at h
  · cases h
  · cases h; exact ⟨rfl, rfl⟩

theorem merge_eq_none_iff (r b : List MPub) :
    merge r b = none ↔
      b ≠ [] ∧ gapsCovered (skipped (isort (r ++ b))) (uniq [] (isort (r ++ b))) = false := by
  unfold merge
  simp only [all_eq]
  split
  · next hc =>
    simpa only [Bool.and_eq_true, Bool.not_eq_true', List.isEmpty_eq_false_iff, true_iff] using hc
  · next hc =>
    simpa only [Bool.and_eq_true, Bool.not_eq_true', List.isEmpty_eq_false_iff, reduceCtorEq,
      false_iff] using hc

end CentrifugeVerif.Merge
