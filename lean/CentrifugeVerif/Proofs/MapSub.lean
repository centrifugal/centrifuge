import CentrifugeVerif.Model.MapSub
/-!
Lemmas for C22: the stream window as a suffix of the ghost log, and last-writer-wins replay.
-/
namespace CentrifugeVerif.MapSub

theorem pubsFrom_length (base : Nat) (l : List Change) : (pubsFrom base l).length = l.length := by
  induction l generalizing base with
  | nil => rfl
  | cons c r ih => simp [pubsFrom, ih]

theorem pubsFrom_off_gt (base : Nat) (l : List Change) : ∀ p ∈ pubsFrom base l, p.off > base := by
  induction l generalizing base with
  | nil => simp [pubsFrom]
  | cons c r ih =>
    intro p hp
    simp only [pubsFrom, List.mem_cons] at hp
    rcases hp with hp | hp
    · subst hp; simp
    · have := ih (base + 1) p hp; omega

theorem filter_pubsFrom (base n : Nat) (l : List Change) (h : base ≤ n) :
    (pubsFrom base l).filter (fun p => p.off > n) = pubsFrom n (l.drop (n - base)) := by
  induction l generalizing base with
  | nil => simp [pubsFrom]
  | cons c r ih =>
    rcases Nat.eq_or_lt_of_le h with rfl | hlt
    · rw [Nat.sub_self, List.drop_zero, List.filter_eq_self]
      intro p hp
      exact decide_eq_true (pubsFrom_off_gt base _ p hp)
    · rw [pubsFrom, List.filter_cons_of_neg (by simp only [decide_eq_true_eq]; omega),
        show n - base = (n - (base + 1)) + 1 by omega, List.drop_succ_cons]
      exact ih (base + 1) hlt

/-- what the stream would hold after position `n` had nothing been trimmed or expired. -/
def after (b : Broker) (n : Nat) : List Pub := pubsFrom n (b.log.drop n)

theorem after_nil_of_ge (b : Broker) (n : Nat) (h : b.top ≤ n) : after b n = [] := by
  rw [after, List.drop_eq_nil_of_le h]; rfl

theorem after_head (b : Broker) (n : Nat) (h : n < b.top) :
    ∃ (c : Change) (r : List Pub), after b n = ({ off := n + 1, key := c.key, val := c.val } : Pub) :: r := by
  unfold after
  cases hd : b.log.drop n with
  | nil => exact absurd (List.drop_eq_nil_iff.mp hd) (Nat.not_le_of_gt h)
  | cons c r => exact ⟨c, _, rfl⟩

theorem filter_pubs (b : Broker) (n : Nat) : b.pubs.filter (fun p => p.off > n) = after b n :=
  filter_pubsFrom 0 n b.log (Nat.zero_le n)

theorem takeOpt_nil (lim : Option Nat) : takeOpt lim [] = [] := by
  cases lim <;> simp [takeOpt]

/-- the two cases `Node.MapStreamRead` tells apart: nothing after `n`, or a page starting at `n + 1`. -/
theorem takeOpt_after_cases (b : Broker) (n : Nat) (lim : Option Nat) (hlim : lim ≠ some 0) :
    (b.top ≤ n ∧ takeOpt lim (after b n) = []) ∨
      (n < b.top ∧ ∃ p r, takeOpt lim (after b n) = p :: r ∧ p.off = n + 1) := by
  rcases Nat.lt_or_ge n b.top with hlt | hge
  · obtain ⟨c, r, ha⟩ := after_head b n hlt
    refine .inr ⟨hlt, ?_⟩
    rw [ha]
    match lim, hlim with
    | none, _ => exact ⟨_, _, rfl, rfl⟩
    | some (m + 1), _ => exact ⟨_, _, rfl, rfl⟩
  · exact .inl ⟨hge, by rw [after_nil_of_ge b n hge, takeOpt_nil]⟩

theorem readStream_eq (b : Broker) (since : Pos) (lim : Option Nat)
    (hep : ¬(since.ep ≠ 0 ∧ since.ep ≠ b.epoch)) :
    readStream b since lim = some (takeOpt lim (after b (max since.off b.lo)), b.pos) := by
  rw [readStream, if_neg hep]
  split
  next htop => rw [after_nil_of_ge b _ (by omega), takeOpt_nil]
  next => simp only [filter_pubs]

/-! ### last-writer-wins replay -/

/-- a map's contents as a subscribed client holds them. -/
abbrev KV := String → Option Nat

/-- the client applying one stream publication (`none` = removal). -/
def upd (m : KV) (c : Change) : KV := fun k => if k = c.key then c.val else m k

/-- the client applying publications in offset order. -/
def applyAll (m : KV) : List Change → KV
  | [] => m
  | c :: r => applyAll (upd m c) r

def touched (k : String) (cs : List Change) : Prop := ∃ c ∈ cs, c.key = k

theorem not_touched_nil (k : String) : ¬ touched k [] := fun ⟨_, hx, _⟩ => nomatch hx

theorem not_touched_cons {k : String} {c : Change} {r : List Change} :
    ¬ touched k (c :: r) ↔ k ≠ c.key ∧ ¬ touched k r := by
  simp [touched, eq_comm]

theorem applyAll_untouched (m : KV) (cs : List Change) (k : String) (h : ¬ touched k cs) :
    applyAll m cs k = m k := by
  induction cs generalizing m with
  | nil => rfl
  | cons c r ih =>
    obtain ⟨hc, hr⟩ := not_touched_cons.mp h
    rw [applyAll, ih (upd m c) hr, upd, if_neg hc]

theorem applyAll_agree (m m0 : KV) (cs : List Change)
    (h : ∀ k, ¬ touched k cs → m k = m0 k) : applyAll m cs = applyAll m0 cs := by
  induction cs generalizing m m0 with
  | nil => exact funext fun k => h k (not_touched_nil k)
  | cons c r ih =>
    refine ih _ _ fun k hk => ?_
    by_cases hc : k = c.key
    · simp only [upd, if_pos hc]
    · simp only [upd, if_neg hc]
      exact h k (not_touched_cons.mpr ⟨hc, hk⟩)

theorem applyAll_append (m : KV) (a b : List Change) : applyAll m (a ++ b) = applyAll (applyAll m a) b := by
  induction a generalizing m with
  | nil => rfl
  | cons c r ih => simp [applyAll, ih]

/-! ### entries with their offsets (what a state page shows) -/

/-- the hub's `channel.state`: key → (value, `Publication.Offset`). -/
abbrev KVO := String → Option (Nat × Nat)

/-- the hub storing the change it gave offset `off`. -/
def updO (m : KVO) (c : Change) (off : Nat) : KVO :=
  fun k => if k = c.key then (c.val.map fun v => (v, off)) else m k

/-- `channel.state` after the changes `cs`, numbered from `base + 1`. -/
def semL (m : KVO) (base : Nat) : List Change → KVO
  | [] => m
  | c :: r => semL (updO m c (base + 1)) (base + 1) r

theorem semL_untouched (m : KVO) (base : Nat) (cs : List Change) (k : String) (h : ¬ touched k cs) :
    semL m base cs k = m k := by
  induction cs generalizing m base with
  | nil => rfl
  | cons c r ih =>
    obtain ⟨hc, hr⟩ := not_touched_cons.mp h
    rw [semL, ih _ _ hr, updO, if_neg hc]

/-- an entry whose offset is at most `base` was not written by the changes replayed from `base`. -/
theorem semL_old_entry (m : KVO) (base : Nat) (cs : List Change) (k : String) (v o : Nat)
    (h : semL m base cs k = some (v, o)) (ho : o ≤ base) : m k = some (v, o) ∧ ¬ touched k cs := by
  induction cs generalizing m base with
  | nil => exact ⟨h, not_touched_nil k⟩
  | cons c r ih =>
    obtain ⟨h1, h2⟩ := ih (updO m c (base + 1)) (base + 1) h (by omega)
    by_cases hc : k = c.key
    · -- `c` would have written offset `base + 1`
      rw [updO, if_pos hc] at h1
      cases hv : c.val with
      | none => simp [hv] at h1
      | some x => simp [hv] at h1; omega
    · rw [updO, if_neg hc] at h1
      exact ⟨h1, not_touched_cons.mpr ⟨hc, h2⟩⟩

theorem semL_append (m : KVO) (base : Nat) (a b : List Change) :
    semL m base (a ++ b) = semL (semL m base a) (base + a.length) b := by
  induction a generalizing m base with
  | nil => rfl
  | cons c r ih =>
    simp only [List.cons_append, semL, List.length_cons]
    rw [ih]
    congr 1
    omega

theorem semL_vals (m : KVO) (base : Nat) (cs : List Change) :
    (fun k => (semL m base cs k).map (·.1)) = applyAll (fun k => (m k).map (·.1)) cs := by
  induction cs generalizing m base with
  | nil => rfl
  | cons c r ih =>
    simp only [semL, applyAll]
    rw [ih]
    congr 1
    funext k
    by_cases hc : k = c.key
    · simp only [updO, upd, hc, if_true]
      cases c.val <;> rfl
    · simp [updO, upd, hc]

end CentrifugeVerif.MapSub
