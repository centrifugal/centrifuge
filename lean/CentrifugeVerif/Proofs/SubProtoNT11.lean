import CentrifugeVerif.Proofs.SubProtoNT10
/-!
Layer 6 of the no-timeout invariants (`L6`): join / leave counting.  For every generation at most one
join and at most one leave is ever published (`joinOnce`, `leaveOnce`).
-/
namespace CentrifugeVerif.SubProto

section
variable {s : State} {tid : Tid} {t t' : Thread} {o : Outcome} {effs : List Eff}

theorem step_PC_self (h : ThreadStep s tid t o effs t')
    (hD : cmdPc t.pc = true → t.cmdGen = t.resGen)
    (hP : postCommitPc t.pc = true → t.cmdGen = t.resGen) (hp : postCommitPc t'.pc = true) :
    t'.cmdGen = t'.resGen := by
  cases h <;> simp at hp <;> simp_all

theorem step_preJoin_self (h : ThreadStep s tid t o effs t') (hp : preJoinPc t'.pc = true) :
    t'.ch = t.ch ∧ ((preJoinPc t.pc = true ∧ t'.resGen = t.resGen) ∨
      (t.pc = .sReserve ∧ t'.resGen = s.genCounter + 1 ∧ Eff.mint ∈ effs)) := by
  cases h <;> simp at hp <;> simp_all

theorem step_XG_self (h : ThreadStep s tid t o effs t')
    (hX : removePc t.pc = true → ∀ e, aget s.channels t.ch = some e → e.gen = t.target → t.ctx = some e)
    (hG : preLeavePc t.pc = true → ∃ c, t.ctx = some c ∧ c.gen = t.target)
    (hp : preLeavePc t'.pc = true) : ∃ c, t'.ctx = some c ∧ c.gen = t'.target := by
  cases h <;> simp at hp <;> simp_all

/-- entering the cleanup range means: this step deleted the entry of the target generation -/
theorem step_preLeave_self (h : ThreadStep s tid t o effs t') (hp : postDelPc t'.pc = true) :
    t'.ch = t.ch ∧ t'.target = t.target ∧ (preLeavePc t'.pc = true → logged effs = []) ∧
      ((postDelPc t.pc = true ∧ (preLeavePc t'.pc = true → preLeavePc t.pc = true)) ∨
       (t.pc = .uRemove ∧ ∃ e, aget s.channels t.ch = some e ∧ e.gen = t.target)) := by
  cases h <;> simp at hp <;> simp_all [logged]

end

theorem postDelPc_of_preLeavePc (pc : Pc) (h : preLeavePc pc = true) : postDelPc pc = true := by
  cases pc <;> simp_all
theorem cmdPc_of_holdPc_commit (pc : Pc) (h : pc = .sCommit) : cmdPc pc = true ∧ holdPc pc = true := by
  subst h; exact ⟨rfl, rfl⟩

structure L6 (s : State) : Prop where
  /-- a published join or leave carries a generation that has been minted -/
  pubBound : ∀ ch g, (Ev.join ch g ∈ s.log ∨ Ev.leave ch g ∈ s.log) → g ≤ s.genCounter
  /-- after its commit a subscribe attempt still works with its reservation's generation -/
  postCommit : ∀ x t, aget s.threads x = some t → postCommitPc t.pc = true → t.cmdGen = t.resGen
  /-- an attempt that may still publish its join has not published it -/
  joinFresh : ∀ x t, aget s.threads x = some t → preJoinPc t.pc = true → Ev.join t.ch t.resGen ∉ s.log
  joinOnce : ∀ ch g, List.count (Ev.join ch g) s.log ≤ 1
  /-- an unsubscribe that deleted its entry and may still publish the leave kept that entry as its context -/
  ctxTarget : ∀ x t, aget s.threads x = some t → preLeavePc t.pc = true → ∃ c, t.ctx = some c ∧ c.gen = t.target
  /-- at most one unsubscribe cleans up after a given generation of a channel -/
  cleanupUniq : ∀ x y tx ty, aget s.threads x = some tx → aget s.threads y = some ty → postDelPc tx.pc = true →
    postDelPc ty.pc = true → tx.ch = ty.ch → tx.target = ty.target → x = y
  /-- an unsubscribe that may still publish its leave has not published it -/
  leaveFresh : ∀ x t, aget s.threads x = some t → preLeavePc t.pc = true → Ev.leave t.ch t.target ∉ s.log
  /-- a generation whose leave is published is in `c.channels` no more -/
  leaveDead : ∀ ch g, Ev.leave ch g ∈ s.log → ∀ e, aget s.channels ch = some e → e.gen ≠ g
  leaveOnce : ∀ ch g, List.count (Ev.leave ch g) s.log ≤ 1

theorem L6.init : L6 State.init := by
  constructor <;> simp [State.init, aget]

theorem count_append_le_one {l add : List Ev} {x : Ev} (h : List.count x l ≤ 1)
    (hadd : add = [] ∨ ∃ ev, add = [ev]) (hnew : x ∈ add → x ∉ l) : List.count x (l ++ add) ≤ 1 := by
  rcases hadd with rfl | ⟨ev, rfl⟩
  · rwa [List.append_nil]
  · rw [List.count_append]
    by_cases hq : ev = x
    · subst hq
      simp [List.count_eq_zero.mpr (hnew (by simp))]
    · simpa [hq] using h

theorem next_L6 {s s' : State} {l : Label} (hi : NTInv s) (h5 : L5 s) (h6 : L6 s) (hl : l.noTmo = true)
    (hn : next s l = some s') : L6 s' := by
  obtain ⟨hg, h1, h2, h3⟩ := hi
  cases l with
  | spawn k ch o =>
    simp only [next, Option.some.injEq] at hn
    subst hn
    refine ⟨h6.pubBound, spawn_clause h6.postCommit, spawn_clause h6.joinFresh, h6.joinOnce, spawn_clause h6.ctxTarget, ?_, spawn_clause h6.leaveFresh, h6.leaveDead, h6.leaveOnce⟩
    intro x y tx ty hx hy hpx hpy hc ht
    rcases aget_append_singleton hx with h | rfl
    · rcases aget_append_singleton hy with h' | rfl
      · exact h6.cleanupUniq x y tx ty h h' hpx hpy hc ht
      · cases k <;> simp [initPc] at hpy
    · cases k <;> simp [initPc] at hpx
  | step tid o =>
    have hnt := Label.noTmo_step hl
    obtain ⟨t, effs, t', hget, hst, rfl⟩ := next_step_some hn
    have hlog : (after s tid t' effs).log = s.log ++ logged effs := log_applyEffs_eq _ _
    have hle := genCounter_le_after s tid t' effs
    have htb := h1.thrBound tid t hget
    have hjoin : ∀ ch g, Ev.join ch g ∈ logged effs →
        ch = t.ch ∧ g = t.resGen ∧ t.pc = .sJoin ∧ t'.pc = .done ∧ logged effs = [Ev.join ch g] := by
      intro ch g hm
      rcases step_logged hst with h | ⟨ev, hev, hc⟩
      · rw [h] at hm; cases hm
      · rw [hev] at hm; simp only [List.mem_singleton] at hm; subst hm
        rcases hc with ⟨h, _⟩ | ⟨h, hp, hp'⟩ | ⟨c, h, _⟩ | h | h | h | h <;> (try cases h)
        exact ⟨rfl, (h6.postCommit tid t hget (by simp [hp])), hp, hp', hev⟩
    have hleave : ∀ ch g, Ev.leave ch g ∈ logged effs →
        ch = t.ch ∧ g = t.target ∧ t.pc = .uLeave ∧ t'.pc = .uHubRm ∧ logged effs = [Ev.leave ch g] := by
      intro ch g hm
      rcases step_logged hst with h | ⟨ev, hev, hc⟩
      · rw [h] at hm; cases hm
      · rw [hev] at hm; simp only [List.mem_singleton] at hm; subst hm
        rcases hc with ⟨h, _⟩ | ⟨h, _, _⟩ | ⟨c, h, hp, hctx, hp', _, _⟩ | h | h | h | h <;> (try cases h)
        obtain ⟨c', hc', hg'⟩ := h6.ctxTarget tid t hget (by simp [hp])
        rw [hctx] at hc'; cases hc'
        exact ⟨rfl, hg', hp, hp', hev⟩
    refine ⟨?_, ?_, ?_, ?_, ?_, ?_, ?_, ?_, ?_⟩
    · -- pubBound
      intro ch g hm
      rw [hlog] at hm
      simp only [List.mem_append] at hm
      rcases hm with (hm | hm) | (hm | hm)
      · exact Nat.le_trans (h6.pubBound ch g (Or.inl hm)) hle
      · rw [(hjoin ch g hm).2.1]; exact Nat.le_trans htb.1 hle
      · exact Nat.le_trans (h6.pubBound ch g (Or.inr hm)) hle
      · rw [(hleave ch g hm).2.1]; exact Nat.le_trans htb.2.2.1 hle
    · -- postCommit
      intro x u hx hp
      rcases aget_threads_after hget hx with ⟨_, hxo⟩ | ⟨_, rfl⟩ | rfl
      · exact h6.postCommit x u hxo hp
      · have hD : cmdPc t.pc = true → t.cmdGen = t.resGen := by
          intro hc
          obtain ⟨_, _, _, _, hcc⟩ := h2.D tid t hget (holdPc_of_cmdPc _ hc)
          exact hcc hc
        exact step_PC_self hst hD (h6.postCommit tid t hget) hp
      · cases hp
    · -- joinFresh
      intro x u hx hp hm
      rw [hlog] at hm
      simp only [List.mem_append] at hm
      rcases aget_threads_after hget hx with ⟨hne, hxo⟩ | ⟨_, rfl⟩ | rfl
      · rcases hm with hm | hm
        · exact h6.joinFresh x u hxo hp hm
        · obtain ⟨_, hgq, hpj, _⟩ := hjoin _ _ hm
          have hnz : u.resGen ≠ 0 := by
            rw [hgq, ← h6.postCommit tid t hget (by simp [hpj])]
            exact (hg.thr tid t hget).cmdGen (by simp [hpj])
          exact hne (h1.uniq x tid u t hxo hget hnz hgq)
      · obtain ⟨hch, hc⟩ := step_preJoin_self hst hp
        rcases hc with ⟨hpt, hres⟩ | ⟨hpt, hres, hmi⟩
        · rcases hm with hm | hm
          · rw [hch, hres] at hm; exact h6.joinFresh tid t hget hpt hm
          · rw [(hjoin _ _ hm).2.2.2.1] at hp; simp at hp
        · rcases hm with hm | hm
          · have := h6.pubBound _ _ (Or.inl hm)
            rw [hres] at this; exact absurd this (Nat.not_succ_le_self _)
          · have := (hjoin _ _ hm).2.2.1
            rw [hpt] at this; cases this
      · cases hp
    · -- joinOnce
      intro ch g
      rw [hlog]
      refine count_append_le_one (h6.joinOnce ch g) ((step_logged hst).imp_right fun ⟨ev, h, _⟩ => ⟨ev, h⟩) fun hm => ?_
      obtain ⟨hch, hgq, hpj, _⟩ := hjoin ch g hm
      rw [hch, hgq]
      exact h6.joinFresh tid t hget (by simp [hpj])
    · -- ctxTarget
      intro x u hx hp
      rcases aget_threads_after hget hx with ⟨_, hxo⟩ | ⟨_, rfl⟩ | rfl
      · exact h6.ctxTarget x u hxo hp
      · exact step_XG_self hst (h5.X tid t hget) (h6.ctxTarget tid t hget) hp
      · cases hp
    · -- cleanupUniq
      intro x y tx ty hx hy hpx hpy hc ht
      -- a thread entering the cleanup range deleted the entry of its target generation at this step
      have henter : ∀ z tz, aget s.threads z = some tz → z ≠ tid → postDelPc tz.pc = true → postDelPc t'.pc = true →
          t'.ch = tz.ch → t'.target = tz.target → False := by
        intro z tz hz hzne hpz hpt' hcz htz
        obtain ⟨r1, r2, _, r3⟩ := step_preLeave_self hst hpt'
        rcases r3 with ⟨hpt, _⟩ | ⟨_, e, he, hge⟩
        · exact hzne (h6.cleanupUniq z tid tz t hz hget hpz hpt (by rw [← hcz, r1]) (by rw [← htz, r2]))
        · exact h3.Hd z tz hz hpz e (by rw [← hcz, r1]; exact he) (by rw [hge, ← r2, htz])
      rcases aget_threads_after hget hx with ⟨hxne, hxo⟩ | ⟨rfl, rfl⟩ | rfl <;>
        rcases aget_threads_after hget hy with ⟨hyne, hyo⟩ | ⟨rfl, rfl⟩ | rfl
      · exact h6.cleanupUniq x y tx ty hxo hyo hpx hpy hc ht
      · exact (henter x tx hxo hxne hpx hpy hc.symm ht.symm).elim
      · cases hpy
      · exact (henter y ty hyo hyne hpy hpx hc ht).elim
      · rfl
      · cases hpy
      all_goals cases hpx
    · -- leaveFresh
      intro x u hx hp hm
      rw [hlog] at hm
      simp only [List.mem_append] at hm
      rcases aget_threads_after hget hx with ⟨hne, hxo⟩ | ⟨_, rfl⟩ | rfl
      · rcases hm with hm | hm
        · exact h6.leaveFresh x u hxo hp hm
        · obtain ⟨hch, hgq, hpl, _⟩ := hleave _ _ hm
          exact hne (h6.cleanupUniq x tid u t hxo hget (postDelPc_of_preLeavePc _ hp) (by simp [hpl]) hch hgq)
      · obtain ⟨r1, r2, r3, r4⟩ := step_preLeave_self hst (postDelPc_of_preLeavePc _ hp)
        rcases hm with hm | hm
        · rw [r1, r2] at hm
          rcases r4 with ⟨_, hpt⟩ | ⟨_, e, he, hge⟩
          · exact h6.leaveFresh tid t hget (hpt hp) hm
          · exact h6.leaveDead _ _ hm e he hge
        · rw [r3 hp] at hm; cases hm
      · cases hp
    · -- leaveDead
      intro ch g hm e he hge
      rw [hlog] at hm
      simp only [List.mem_append] at hm
      rcases hm with hm | hm
      · rcases entry_after_known hg hst hnt he (hge ▸ h6.pubBound ch g (Or.inr hm)) with h | ⟨_, _, _, e0, he0, hg0⟩
        · exact h6.leaveDead ch g hm e h hge
        · exact h6.leaveDead ch g hm e0 he0 (hg0.trans hge)
      · obtain ⟨hch, hgq, hpl, _⟩ := hleave ch g hm
        rcases entry_after hg hst hnt he with h | ⟨_, ⟨hq, _⟩ | ⟨hq, _⟩⟩
        · exact h3.Hd tid t hget (by simp [hpl]) e (hch ▸ h) (by rw [hge, hgq])
        all_goals (rw [hpl] at hq; cases hq)
    · -- leaveOnce
      intro ch g
      rw [hlog]
      refine count_append_le_one (h6.leaveOnce ch g) ((step_logged hst).imp_right fun ⟨ev, h, _⟩ => ⟨ev, h⟩) fun hm => ?_
      obtain ⟨hch, hgq, hpl, _⟩ := hleave ch g hm
      rw [hch, hgq]
      exact h6.leaveFresh tid t hget (by simp [hpl])

structure NTInvAll (s : State) : Prop where
  base : NTInv s
  l4 : L4 s
  l5 : L5 s
  l6 : L6 s

theorem reachableNT_invAll (s : State) (h : ReachableNT s) : NTInvAll s := by
  refine reachableNT_invariant NTInvAll ⟨NTInv.init, L4.init, L5.init, L6.init⟩ ?_ s h
  intro s s' l hi hl hn
  exact ⟨next_ntInv hi.base hl hn, next_L4 hi.base.ghost hi.l4 hl hn, next_L5 hi.base.ghost hi.base.l1 hi.base.l2 hi.l5 hl hn,
    next_L6 hi.base hi.l5 hi.l6 hl hn⟩

end CentrifugeVerif.SubProto
