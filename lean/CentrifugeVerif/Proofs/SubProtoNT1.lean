import CentrifugeVerif.Proofs.SubProtoInv
import CentrifugeVerif.Model.SubProtoSpec
/-!
Executions in which the unsubscribe wait gate never times out (`ReachableNT`), induction over them, and
the evaluation lemmas of the program-counter classes of `Model/SubProtoSpec.lean`.
-/
namespace CentrifugeVerif.SubProto

@[simp] theorem holdPc_sReserve : holdPc .sReserve = false := rfl
@[simp] theorem holdPc_sOnSub : holdPc .sOnSub = true := rfl
@[simp] theorem holdPc_sReadGen : holdPc .sReadGen = true := rfl
@[simp] theorem holdPc_sCheck1 : holdPc .sCheck1 = true := rfl
@[simp] theorem holdPc_sHubAdd : holdPc .sHubAdd = true := rfl
@[simp] theorem holdPc_sCheck2 : holdPc .sCheck2 = true := rfl
@[simp] theorem holdPc_sPresAdd : holdPc .sPresAdd = true := rfl
@[simp] theorem holdPc_sReply : holdPc .sReply = true := rfl
@[simp] theorem holdPc_sCommit : holdPc .sCommit = true := rfl
@[simp] theorem holdPc_sRbHub : holdPc .sRbHub = false := rfl
@[simp] theorem holdPc_sRbPres : holdPc .sRbPres = false := rfl
@[simp] theorem holdPc_sRbClose : holdPc .sRbClose = false := rfl
@[simp] theorem holdPc_sCloseGate : holdPc .sCloseGate = false := rfl
@[simp] theorem holdPc_sDpf : holdPc .sDpf = false := rfl
@[simp] theorem holdPc_sPush : holdPc .sPush = false := rfl
@[simp] theorem holdPc_sJoin : holdPc .sJoin = false := rfl
@[simp] theorem holdPc_sDeferPres : holdPc .sDeferPres = false := rfl
@[simp] theorem holdPc_sErrDel : holdPc .sErrDel = false := rfl
@[simp] theorem holdPc_sErrHub : holdPc .sErrHub = false := rfl
@[simp] theorem holdPc_sErrClose : holdPc .sErrClose = false := rfl
@[simp] theorem holdPc_sErrOut : holdPc .sErrOut = false := rfl
@[simp] theorem holdPc_uStatus : holdPc .uStatus = false := rfl
@[simp] theorem holdPc_uSnap : holdPc .uSnap = false := rfl
@[simp] theorem holdPc_uWait : holdPc .uWait = false := rfl
@[simp] theorem holdPc_uTmoLog : holdPc .uTmoLog = false := rfl
@[simp] theorem holdPc_uRemove : holdPc .uRemove = false := rfl
@[simp] theorem holdPc_uPresRm : holdPc .uPresRm = false := rfl
@[simp] theorem holdPc_uLeave : holdPc .uLeave = false := rfl
@[simp] theorem holdPc_uHubRm : holdPc .uHubRm = false := rfl
@[simp] theorem holdPc_uOnUnsub : holdPc .uOnUnsub = false := rfl
@[simp] theorem holdPc_uOut : holdPc .uOut = false := rfl
@[simp] theorem holdPc_cEnter : holdPc .cEnter = false := rfl
@[simp] theorem holdPc_cRemoveClient : holdPc .cRemoveClient = false := rfl
@[simp] theorem holdPc_cDpf : holdPc .cDpf = false := rfl
@[simp] theorem holdPc_cWriter : holdPc .cWriter = false := rfl
@[simp] theorem holdPc_cTClose : holdPc .cTClose = false := rfl
@[simp] theorem holdPc_cLoop : holdPc .cLoop = false := rfl
@[simp] theorem holdPc_cOnDisc : holdPc .cOnDisc = false := rfl
@[simp] theorem holdPc_cExit : holdPc .cExit = false := rfl
@[simp] theorem holdPc_done : holdPc .done = false := rfl
@[simp] theorem cmdPc_sReserve : cmdPc .sReserve = false := rfl
@[simp] theorem cmdPc_sOnSub : cmdPc .sOnSub = false := rfl
@[simp] theorem cmdPc_sReadGen : cmdPc .sReadGen = false := rfl
@[simp] theorem cmdPc_sCheck1 : cmdPc .sCheck1 = true := rfl
@[simp] theorem cmdPc_sHubAdd : cmdPc .sHubAdd = true := rfl
@[simp] theorem cmdPc_sCheck2 : cmdPc .sCheck2 = true := rfl
@[simp] theorem cmdPc_sPresAdd : cmdPc .sPresAdd = true := rfl
@[simp] theorem cmdPc_sReply : cmdPc .sReply = true := rfl
@[simp] theorem cmdPc_sCommit : cmdPc .sCommit = true := rfl
@[simp] theorem cmdPc_sRbHub : cmdPc .sRbHub = false := rfl
@[simp] theorem cmdPc_sRbPres : cmdPc .sRbPres = false := rfl
@[simp] theorem cmdPc_sRbClose : cmdPc .sRbClose = false := rfl
@[simp] theorem cmdPc_sCloseGate : cmdPc .sCloseGate = false := rfl
@[simp] theorem cmdPc_sDpf : cmdPc .sDpf = false := rfl
@[simp] theorem cmdPc_sPush : cmdPc .sPush = false := rfl
@[simp] theorem cmdPc_sJoin : cmdPc .sJoin = false := rfl
@[simp] theorem cmdPc_sDeferPres : cmdPc .sDeferPres = false := rfl
@[simp] theorem cmdPc_sErrDel : cmdPc .sErrDel = false := rfl
@[simp] theorem cmdPc_sErrHub : cmdPc .sErrHub = false := rfl
@[simp] theorem cmdPc_sErrClose : cmdPc .sErrClose = false := rfl
@[simp] theorem cmdPc_sErrOut : cmdPc .sErrOut = false := rfl
@[simp] theorem cmdPc_uStatus : cmdPc .uStatus = false := rfl
@[simp] theorem cmdPc_uSnap : cmdPc .uSnap = false := rfl
@[simp] theorem cmdPc_uWait : cmdPc .uWait = false := rfl
@[simp] theorem cmdPc_uTmoLog : cmdPc .uTmoLog = false := rfl
@[simp] theorem cmdPc_uRemove : cmdPc .uRemove = false := rfl
@[simp] theorem cmdPc_uPresRm : cmdPc .uPresRm = false := rfl
@[simp] theorem cmdPc_uLeave : cmdPc .uLeave = false := rfl
@[simp] theorem cmdPc_uHubRm : cmdPc .uHubRm = false := rfl
@[simp] theorem cmdPc_uOnUnsub : cmdPc .uOnUnsub = false := rfl
@[simp] theorem cmdPc_uOut : cmdPc .uOut = false := rfl
@[simp] theorem cmdPc_cEnter : cmdPc .cEnter = false := rfl
@[simp] theorem cmdPc_cRemoveClient : cmdPc .cRemoveClient = false := rfl
@[simp] theorem cmdPc_cDpf : cmdPc .cDpf = false := rfl
@[simp] theorem cmdPc_cWriter : cmdPc .cWriter = false := rfl
@[simp] theorem cmdPc_cTClose : cmdPc .cTClose = false := rfl
@[simp] theorem cmdPc_cLoop : cmdPc .cLoop = false := rfl
@[simp] theorem cmdPc_cOnDisc : cmdPc .cOnDisc = false := rfl
@[simp] theorem cmdPc_cExit : cmdPc .cExit = false := rfl
@[simp] theorem cmdPc_done : cmdPc .done = false := rfl
@[simp] theorem cleanupPc_sReserve : cleanupPc .sReserve = false := rfl
@[simp] theorem cleanupPc_sOnSub : cleanupPc .sOnSub = false := rfl
@[simp] theorem cleanupPc_sReadGen : cleanupPc .sReadGen = false := rfl
@[simp] theorem cleanupPc_sCheck1 : cleanupPc .sCheck1 = false := rfl
@[simp] theorem cleanupPc_sHubAdd : cleanupPc .sHubAdd = false := rfl
@[simp] theorem cleanupPc_sCheck2 : cleanupPc .sCheck2 = false := rfl
@[simp] theorem cleanupPc_sPresAdd : cleanupPc .sPresAdd = false := rfl
@[simp] theorem cleanupPc_sReply : cleanupPc .sReply = false := rfl
@[simp] theorem cleanupPc_sCommit : cleanupPc .sCommit = false := rfl
@[simp] theorem cleanupPc_sRbHub : cleanupPc .sRbHub = false := rfl
@[simp] theorem cleanupPc_sRbPres : cleanupPc .sRbPres = false := rfl
@[simp] theorem cleanupPc_sRbClose : cleanupPc .sRbClose = false := rfl
@[simp] theorem cleanupPc_sCloseGate : cleanupPc .sCloseGate = false := rfl
@[simp] theorem cleanupPc_sDpf : cleanupPc .sDpf = false := rfl
@[simp] theorem cleanupPc_sPush : cleanupPc .sPush = false := rfl
@[simp] theorem cleanupPc_sJoin : cleanupPc .sJoin = false := rfl
@[simp] theorem cleanupPc_sDeferPres : cleanupPc .sDeferPres = false := rfl
@[simp] theorem cleanupPc_sErrDel : cleanupPc .sErrDel = false := rfl
@[simp] theorem cleanupPc_sErrHub : cleanupPc .sErrHub = false := rfl
@[simp] theorem cleanupPc_sErrClose : cleanupPc .sErrClose = false := rfl
@[simp] theorem cleanupPc_sErrOut : cleanupPc .sErrOut = false := rfl
@[simp] theorem cleanupPc_uStatus : cleanupPc .uStatus = false := rfl
@[simp] theorem cleanupPc_uSnap : cleanupPc .uSnap = false := rfl
@[simp] theorem cleanupPc_uWait : cleanupPc .uWait = false := rfl
@[simp] theorem cleanupPc_uTmoLog : cleanupPc .uTmoLog = false := rfl
@[simp] theorem cleanupPc_uRemove : cleanupPc .uRemove = false := rfl
@[simp] theorem cleanupPc_uPresRm : cleanupPc .uPresRm = true := rfl
@[simp] theorem cleanupPc_uLeave : cleanupPc .uLeave = true := rfl
@[simp] theorem cleanupPc_uHubRm : cleanupPc .uHubRm = true := rfl
@[simp] theorem cleanupPc_uOnUnsub : cleanupPc .uOnUnsub = false := rfl
@[simp] theorem cleanupPc_uOut : cleanupPc .uOut = false := rfl
@[simp] theorem cleanupPc_cEnter : cleanupPc .cEnter = false := rfl
@[simp] theorem cleanupPc_cRemoveClient : cleanupPc .cRemoveClient = false := rfl
@[simp] theorem cleanupPc_cDpf : cleanupPc .cDpf = false := rfl
@[simp] theorem cleanupPc_cWriter : cleanupPc .cWriter = false := rfl
@[simp] theorem cleanupPc_cTClose : cleanupPc .cTClose = false := rfl
@[simp] theorem cleanupPc_cLoop : cleanupPc .cLoop = false := rfl
@[simp] theorem cleanupPc_cOnDisc : cleanupPc .cOnDisc = false := rfl
@[simp] theorem cleanupPc_cExit : cleanupPc .cExit = false := rfl
@[simp] theorem cleanupPc_done : cleanupPc .done = false := rfl
@[simp] theorem holdPc_unsubRetPc (k : Kind) : holdPc (unsubRetPc k) = false := by cases k <;> rfl
@[simp] theorem holdPc_afterRemove (c : Entry) : holdPc (afterRemove c) = false :=
  pc_afterRemove c rfl rfl rfl
@[simp] theorem holdPc_afterCmdFail (t : Thread) : holdPc (afterCmdFail t) = false :=
  pc_afterCmdFail t rfl rfl
@[simp] theorem holdPc_afterChecks (t : Thread) : holdPc (afterChecks t) = true :=
  pc_afterChecks t rfl rfl rfl
@[simp] theorem holdPc_afterPres (t : Thread) : holdPc (afterPres t) = true :=
  pc_afterPres t rfl rfl
@[simp] theorem cmdPc_afterChecks (t : Thread) : cmdPc (afterChecks t) = true :=
  pc_afterChecks t rfl rfl rfl
@[simp] theorem cmdPc_afterPres (t : Thread) : cmdPc (afterPres t) = true :=
  pc_afterPres t rfl rfl

@[simp] theorem holdPc_ite (c : Prop) [Decidable c] (a b : Pc) :
    holdPc (if c then a else b) = if c then holdPc a else holdPc b := apply_ite holdPc c a b
@[simp] theorem cmdPc_ite (c : Prop) [Decidable c] (a b : Pc) :
    cmdPc (if c then a else b) = if c then cmdPc a else cmdPc b := apply_ite cmdPc c a b
@[simp] theorem cleanupPc_ite (c : Prop) [Decidable c] (a b : Pc) :
    cleanupPc (if c then a else b) = if c then cleanupPc a else cleanupPc b := apply_ite cleanupPc c a b
@[simp] theorem cleanupPc_unsubRetPc (k : Kind) : cleanupPc (unsubRetPc k) = false := by cases k <;> rfl
@[simp] theorem cmdPc_unsubRetPc (k : Kind) : cmdPc (unsubRetPc k) = false := by cases k <;> rfl
@[simp] theorem cmdPc_afterCmdFail (t : Thread) : cmdPc (afterCmdFail t) = false :=
  pc_afterCmdFail t rfl rfl
@[simp] theorem cleanupPc_afterCmdFail (t : Thread) : cleanupPc (afterCmdFail t) = false :=
  pc_afterCmdFail t rfl rfl
@[simp] theorem cleanupPc_afterChecks (t : Thread) : cleanupPc (afterChecks t) = false :=
  pc_afterChecks t rfl rfl rfl
@[simp] theorem cleanupPc_afterPres (t : Thread) : cleanupPc (afterPres t) = false :=
  pc_afterPres t rfl rfl
@[simp] theorem cmdPc_afterRemove (c : Entry) : cmdPc (afterRemove c) = false :=
  pc_afterRemove c rfl rfl rfl

def Label.noTmo : Label → Bool
  | .step _ .tmo => false
  | _ => true

theorem Label.noTmo_step {tid : Tid} {o : Outcome} (h : (Label.step tid o).noTmo = true) : o ≠ .tmo := by
  rintro rfl; cases h

def ReachableNT (s : State) : Prop := ∃ ls, (∀ l ∈ ls, l.noTmo = true) ∧ run State.init ls = some s

theorem reachableNT_reachable (s : State) (h : ReachableNT s) : Reachable s := by
  obtain ⟨ls, _, h⟩ := h; exact ⟨ls, h⟩

theorem reachableNT_invariant (P : State → Prop) (h0 : P State.init)
    (hstep : ∀ s s' l, P s → l.noTmo = true → next s l = some s' → P s') (s : State)
    (hr : ReachableNT s) : P s := by
  obtain ⟨ls, hnt, hl⟩ := hr
  exact run_invariant P (·.noTmo = true) hstep ls _ _ h0 hnt hl

theorem genCounter_applyEffs (es : List Eff) (s : State) :
    (applyEffs s es).genCounter = s.genCounter + es.count .mint := by
  induction es generalizing s with
  | nil => rfl
  | cons e r ih =>
    rw [applyEffs_cons, ih]
    cases e <;> simp
    omega

theorem genCounter_le_after (s : State) (tid : Tid) (t' : Thread) (effs : List Eff) :
    s.genCounter ≤ (after s tid t' effs).genCounter := by
  rw [genCounter_applyEffs]; exact Nat.le_add_right _ _

theorem genCounter_lt_after {s : State} (tid : Tid) (t' : Thread) {effs : List Eff} (h : Eff.mint ∈ effs) :
    s.genCounter + 1 ≤ (after s tid t' effs).genCounter := by
  rw [genCounter_applyEffs]; exact Nat.add_le_add_left (List.count_pos_iff.mpr h) _

theorem closedGates_applyEffs (es : List Eff) (s : State) (g : Gen) (h : g ∈ (applyEffs s es).closedGates) :
    g ∈ s.closedGates ∨ Eff.closeGate g ∈ es := by
  induction es generalizing s with
  | nil => exact Or.inl h
  | cons e r ih =>
    rcases ih _ h with h1 | h1
    · cases e <;> simp_all [applyEff_closeGate_closedGates]
      rename_i g'
      split at h1
      · exact Or.inl h1
      · simp only [List.mem_cons] at h1
        rcases h1 with h1 | h1
        · exact Or.inr (Or.inl h1)
        · exact Or.inl h1
    · exact Or.inr (List.mem_cons_of_mem _ h1)

/-- a clause guarded by a program-counter class that contains no initial program counter carries over to
the state with a freshly spawned thread -/
theorem spawn_clause {ts : List (Tid × Thread)} {n : Tid} {k : Kind} {ch : Chan} {o : Opts} {C : Pc → Bool}
    {P : Thread → Prop} (h : ∀ x t, aget ts x = some t → C t.pc = true → P t)
    (hC : ∀ k, C (initPc k) = false := by intro k; cases k <;> rfl) :
    ∀ x t, aget (ts ++ [(n, { kind := k, ch := ch, opts := o, pc := initPc k })]) x = some t → C t.pc = true → P t := by
  intro x t hx hp
  rcases aget_append_singleton hx with h1 | rfl
  · exact h x t h1 hp
  · rw [hC k] at hp; cases hp

end CentrifugeVerif.SubProto
