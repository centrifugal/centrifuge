import CentrifugeVerif.Proofs.WSHeader
import CentrifugeVerif.Proofs.WSMask
import CentrifugeVerif.Spec.WSSpec
import CentrifugeVerif.Proofs.WSEquiv
import CentrifugeVerif.Proofs.WSTrunc
/-! Writer model against the receiver specification: what the message writer puts on the wire
decodes to the messages written. -/
namespace CentrifugeVerif.WS
open Writer Spec

theorem contOrData_facts {op : Nat} (h : op = 0 ∨ isDataOp op = true) :
    isControlOp op = false ∧ (op == opClose) = false ∧ op < 16 := by
  simp only [isDataOp, Bool.or_eq_true, beq_iff_eq] at h
  rcases h with h | h | h <;> subst h <;> exact ⟨rfl, rfl, by omega⟩

/-- the bytes `flushFrame` puts on the wire for one frame -/
def frameBytes (server : Bool) (key : Key) (b0 : UInt8) (payload : Bytes) : Bytes :=
  if server then encHeader b0 false payload.length ++ payload
  else encHeader b0 true payload.length ++ (key.toBytes ++ xorMask key 0 payload)

theorem frameBytes_body (wserver : Bool) (key : Key) (b0 : UInt8) (payload : Bytes) :
    ∃ body k p, frameBytes wserver key b0 payload = encHeader b0 (!wserver) payload.length ++ body ∧
      (∀ X, takeKey (!wserver) (body ++ X) = some (k, p ++ X)) ∧
      p.length = payload.length ∧ xorMask k 0 p = payload := by
  cases wserver
  · exact ⟨key.toBytes ++ xorMask key 0 payload, key, xorMask key 0 payload, rfl, fun X => rfl,
      xorMask_length .., xorMask_involutive ..⟩
  · exact ⟨payload, Key.zero, payload, rfl, fun X => rfl, rfl, xorMask_zero 0 payload⟩

theorem frameBytes_pos (server : Bool) (key : Key) (b0 : UInt8) (payload : Bytes) :
    0 < (frameBytes server key b0 payload).length := by
  have : ∀ m, 0 < (encHeader b0 m payload.length).length := by
    intro m
    unfold encHeader
    dsimp only
    split
    · simp
    · split <;> simp
  unfold frameBytes
  split
  · have := this false
    rw [List.length_append]; omega
  · have := this true
    rw [List.length_append]; omega

/-- One data or continuation frame as the writer encodes it, read by the specification: the
payload joins the message; a final frame delivers it. -/
theorem decode_data_frame (q : Quirks) (peer : Cfg) (a : Nat → Bool) (fuel : Nat) (frag : Option Frag)
    (wserver : Bool) (hside : peer.server = !wserver) (hrl : peer.readLimit = 0)
    (fin rsv1 : Bool) (op : Nat) (key : Key) (payload X : Bytes)
    (hop : (op = 0 ∧ frag.isSome = true) ∨ (isDataOp op = true ∧ frag = none))
    (hrsv : rsv1 = true → peer.deflate = true ∧ isDataOp op = true)
    (hlen : (accOf frag).length + payload.length < two63) :
    decodeQ q peer a (fuel + 1) frag (frameBytes wserver key (firstByte fin rsv1 op) payload ++ X) =
      andThen
        (if fin then
          ([deliver peer (typOf frag op) (compOf frag rsv1) (accOf frag ++ payload)],
            if (deliver peer (typOf frag op) (compOf frag rsv1) (accOf frag ++ payload)).terminal then none
            else some none)
        else ([], some (some ⟨typOf frag op, compOf frag rsv1, accOf frag ++ payload⟩)))
        fun f => decodeQ q peer a fuel f X := by
  obtain ⟨hctl, _, hop16⟩ := contOrData_facts (hop.imp And.left And.left)
  obtain ⟨body, k, p, hfb, hkey, hpl, hun⟩ := frameBytes_body wserver key (firstByte fin rsv1 op) payload
  obtain ⟨b0, b1, ext, henc, hfin, hrsv1, hrsv2, hrsv3, hopc, hmask, hext⟩ :=
    encHeader_parse fin rsv1 (!wserver) op hop16 payload.length (by unfold two63 at hlen; omega) (body ++ X)
  rw [hfb, henc, List.cons_append, List.cons_append, List.cons_append, List.cons_append,
    List.append_assoc, decodeQ_succ]
  generalize parseHdr b0 b1 = h at *
  have hviol : hdrViolation q peer frag.isSome h = false := by
    simp only [hdrViolation, hrsv2, hrsv3, hrsv1, hopc, hmask, hfin, hctl, hside, Bool.false_or,
      Bool.false_and, Bool.or_false, bne_self_eq_false]
    rcases hop with ⟨h0, hs⟩ | ⟨hd, hn⟩
    · cases hr : rsv1
      · simp [h0, hs, isDataOp]
      · have := (hrsv hr).2; simp [h0, isDataOp] at this
    · have hne : (op == 0) = false := by
        simp only [isDataOp, Bool.or_eq_true, beq_iff_eq] at hd
        simp only [beq_eq_false_iff_ne]; omega
      cases hr : rsv1
      · simp [hd, hne, hn]
      · simp [hd, hne, hn, (hrsv hr).1]
  have hff : frameFields q h (ext ++ (body ++ X)) = .ok (payload.length, k, p ++ X) := by
    have : ¬ payload.length ≥ two63 := by omega
    simp only [frameFields, hext, this, if_false, hmask, hkey]
  have hov : overLimit peer ((accOf frag).length + payload.length) = false := by
    simp only [overLimit, hrl, Nat.lt_irrefl, decide_false, Bool.false_and, Bool.false_or,
      decide_eq_false_iff_not]
    omega
  have hnl : ¬ (p ++ X).length < payload.length := by rw [List.length_append, hpl]; omega
  rw [hviol, hff]
  simp only [Bool.false_eq_true, if_false, framePayload, hopc, hctl, hov, hnl,
    List.take_left' hpl, List.drop_left' hpl, hun, hfin, hrsv1]

/-- `wire`, followed by anything, is decoded by the specification to the events `evs`, after which
the decoder is in reassembly state `frag` -/
def DecodesTo (peer : Cfg) (a : Nat → Bool) (wire : Bytes) (evs : List Event) (frag : Option Frag) : Prop :=
  ∀ X : Bytes, decodeQ Quirks.rfc peer a ((wire ++ X).length + 1) none (wire ++ X) =
    evs ++ decodeQ Quirks.rfc peer a (X.length + 1) frag X

theorem decodesTo_nil (peer : Cfg) (a : Nat → Bool) : DecodesTo peer a [] [] none := fun _ => rfl

theorem decodesTo_append {peer : Cfg} {a : Nat → Bool} {w1 w2 : Bytes} {e1 e2 : List Event}
    {frag : Option Frag} (h1 : DecodesTo peer a w1 e1 none) (h2 : DecodesTo peer a w2 e2 frag) :
    DecodesTo peer a (w1 ++ w2) (e1 ++ e2) frag := by
  intro X
  rw [List.append_assoc, h1, h2, List.append_assoc]

theorem decodesTo_frame {peer : Cfg} {a : Nat → Bool} {wire : Bytes} {evs : List Event}
    {frag : Option Frag} (h : DecodesTo peer a wire evs frag)
    (wserver : Bool) (hside : peer.server = !wserver) (hrl : peer.readLimit = 0)
    (fin rsv1 : Bool) (op : Nat) (key : Key) (payload : Bytes)
    (hop : (op = 0 ∧ frag.isSome = true) ∨ (isDataOp op = true ∧ frag = none))
    (hrsv : rsv1 = true → peer.deflate = true ∧ isDataOp op = true)
    (hlen : (accOf frag).length + payload.length < two63) :
    (fin = false → DecodesTo peer a (wire ++ frameBytes wserver key (firstByte fin rsv1 op) payload) evs
        (some ⟨typOf frag op, compOf frag rsv1, accOf frag ++ payload⟩)) ∧
    (fin = true → (deliver peer (typOf frag op) (compOf frag rsv1) (accOf frag ++ payload)).terminal = false →
      DecodesTo peer a (wire ++ frameBytes wserver key (firstByte fin rsv1 op) payload)
        (evs ++ [deliver peer (typOf frag op) (compOf frag rsv1) (accOf frag ++ payload)]) none) := by
  have hfuel : ∀ (X : Bytes) (f : Option Frag), decodeQ Quirks.rfc peer a
      (frameBytes wserver key (firstByte fin rsv1 op) payload ++ X).length f X =
      decodeQ Quirks.rfc peer a (X.length + 1) f X := fun X f =>
    decodeQ_fuel _ _ _ _ _ _ _ (by
      have := frameBytes_pos wserver key (firstByte fin rsv1 op) payload
      rw [List.length_append]; omega) (by omega)
  constructor
  · intro hf X
    subst hf
    rw [List.append_assoc, h, decode_data_frame Quirks.rfc peer a _ frag wserver hside hrl _ rsv1 op key
      payload X hop hrsv hlen]
    simp only [hfuel, Bool.false_eq_true, if_false, andThen, List.nil_append]
  · intro hf ht X
    subst hf
    rw [List.append_assoc, h, decode_data_frame Quirks.rfc peer a _ frag wserver hside hrl _ rsv1 op key
      payload X hop hrsv hlen]
    simp only [hfuel, if_true, ht, Bool.false_eq_true, if_false, andThen, List.append_assoc]

/-- `flushFrame` for a data/continuation frame on an open connection: one `frameBytes` more on
the wire -/
theorem flushFrame_data (cfg : WCfg) (c : WConn) (w : MW) (final : Bool) (extra : Bytes)
    (hcs : c.closeSent = false) (hop : w.frameType = 0 ∨ isDataOp w.frameType = true)
    (hex : cfg.server = true ∨ extra = []) :
    flushFrame cfg c w final extra =
      ({ wire := c.wire ++ frameBytes cfg.server (cfg.keyAt c.nkeys)
                    (firstByte final w.compress w.frameType) (w.buf ++ extra),
         nkeys := if cfg.server then c.nkeys else c.nkeys + 1,
         closeSent := false },
       if final then endMessage { w with compress := false } .writeClosed
       else { w with compress := false, buf := [], frameType := 0 },
       none) := by
  obtain ⟨hctl, hnc, _⟩ := contOrData_facts hop
  unfold flushFrame connWrite
  simp only [hctl, Bool.false_and, Bool.false_eq_true, if_false]
  cases hs : cfg.server
  · -- client
    have he : extra = [] := by rcases hex with h | h; (rw [hs] at h; cases h); exact h
    subst he
    cases final <;> simp [hcs, hnc, frameBytes, List.append_assoc]
  · cases final <;> simp [hcs, hnc, frameBytes, List.append_assoc]

/-- The message writer `w` on connection `c` has written the message bytes `D` of a data message of
type `typ` (`comp`: RSV1 on its first frame) and the wire so far decodes accordingly; `frag` is
the decoder's reassembly state, `none` until the first frame is flushed. -/
structure WSync (peer : Cfg) (a : Nat → Bool) (typ : Nat) (comp : Bool) (evs : List Event)
    (bufSize : Nat) (c : WConn) (w : MW) (D : Bytes) : Prop where
  err : w.err = none
  opn : c.closeSent = false
  buf : w.buf.length ≤ bufSize
  state : ∃ frag, DecodesTo peer a c.wire evs frag ∧ D = accOf frag ++ w.buf ∧
    typOf frag w.frameType = typ ∧ compOf frag w.compress = comp ∧
    ((w.frameType = 0 ∧ frag.isSome = true) ∨ (isDataOp w.frameType = true ∧ frag = none)) ∧
    (w.compress = true → frag = none)

theorem WSync.start {peer : Cfg} {a : Nat → Bool} {typ : Nat} {comp : Bool} {evs : List Event}
    {B : Nat} {c : WConn} (htyp : isDataOp typ = true) (hd : DecodesTo peer a c.wire evs none)
    (hopen : c.closeSent = false) (buf : Bytes) (hb : buf.length ≤ B) :
    WSync peer a typ comp evs B c { frameType := typ, compress := comp, buf := buf } buf :=
  ⟨rfl, hopen, hb, none, hd, rfl, rfl, rfl, Or.inr ⟨htyp, rfl⟩, fun _ => rfl⟩

theorem wsync_buffer {peer : Cfg} {a : Nat → Bool} {typ : Nat} {comp : Bool} {evs : List Event}
    {B : Nat} {c : WConn} {w : MW} {D : Bytes} (h : WSync peer a typ comp evs B c w D) (q : Bytes)
    (hq : w.buf.length + q.length ≤ B) :
    WSync peer a typ comp evs B c { w with buf := w.buf ++ q } (D ++ q) := by
  obtain ⟨frag, hd, hD, rest⟩ := h.state
  exact ⟨h.err, h.opn, by rw [List.length_append]; exact hq, frag, hd,
    by rw [hD, List.append_assoc], rest⟩

section
variable {peer : Cfg} {a : Nat → Bool} {cfg : WCfg} {typ : Nat} {comp : Bool}
  (hside : peer.server = !cfg.server) (hrl : peer.readLimit = 0)
  (hcomp : comp = true → peer.deflate = true)
include hside hrl hcomp

/-- a non-final flush keeps writer and decoder in sync, the final one delivers the message -/
theorem flush_sync {evs : List Event} {c : WConn} {w : MW} {D : Bytes}
    (h : WSync peer a typ comp evs cfg.bufSize c w D) (final : Bool) (extra : Bytes)
    (hex : cfg.server = true ∨ extra = []) (hlen : (D ++ extra).length < two63) :
    ∃ c' w', flushFrame cfg c w final extra = (c', w', none) ∧ c'.closeSent = false ∧
      (final = false → WSync peer a typ comp evs cfg.bufSize c' w' (D ++ extra) ∧ w'.buf = []) ∧
      (final = true → (deliver peer typ comp (D ++ extra)).terminal = false →
        DecodesTo peer a c'.wire (evs ++ [deliver peer typ comp (D ++ extra)]) none) := by
  obtain ⟨frag, hd, hD, ht, hcp, hop, hc⟩ := h.state
  have hfr := decodesTo_frame hd cfg.server hside hrl final w.compress w.frameType (cfg.keyAt c.nkeys)
    (w.buf ++ extra) hop
    (fun hr => by
      have hn := hc hr
      rcases hop with ⟨_, hs⟩ | ⟨hdat, _⟩
      · rw [hn] at hs; cases hs
      · exact ⟨hcomp (by rw [← hcp, hn]; exact hr), hdat⟩)
    (by rw [← List.length_append, ← List.append_assoc, ← hD]; exact hlen)
  rw [ht, hcp, ← List.append_assoc, ← hD] at hfr
  rw [flushFrame_data cfg c w final extra h.opn (hop.imp And.left And.left) hex]
  refine ⟨_, _, rfl, rfl, fun hf => ?_, fun hf => hfr.2 hf⟩
  subst hf
  exact ⟨⟨h.err, rfl, Nat.zero_le _, _, hfr.1 rfl, (List.append_nil _).symm, rfl, rfl, Or.inl ⟨rfl, rfl⟩, nofun⟩, rfl⟩

/-- the copy loop of `Write`/`WriteString`: whatever the buffer size, all of `p` is accepted -/
theorem writeLoop_sync (hB : cfg.bufSize > 0) : ∀ (fuel : Nat) (p : Bytes) {evs : List Event}
    {c : WConn} {w : MW} {D : Bytes}, p.length < fuel → WSync peer a typ comp evs cfg.bufSize c w D →
    (D ++ p).length < two63 →
    ∃ c' w', writeLoop cfg fuel c w p = (c', w', none) ∧ WSync peer a typ comp evs cfg.bufSize c' w' (D ++ p) := by
  intro fuel
  induction fuel with
  | zero => intro p _ _ _ _ hf; omega
  | succ n ih =>
    intro p evs c w D hf h hlen
    have hbuf := h.buf
    unfold writeLoop
    cases p with
    | nil => exact ⟨c, w, rfl, by simpa using h⟩
    | cons x xs =>
      generalize hp : x :: xs = p at hf hlen ⊢
      have hpl : p.length > 0 := by rw [← hp]; simp
      have hne : p.isEmpty = false := by rw [← hp]; rfl
      simp only [hne, Bool.false_eq_true, if_false]
      -- after copying `k ≤ |p|` bytes into a buffer with room for them, the loop goes on
      have copy : ∀ {c : WConn} {w : MW} {D : Bytes} (k : Nat), WSync peer a typ comp evs cfg.bufSize c w D →
          w.buf.length + min k p.length ≤ cfg.bufSize → k > 0 → (D ++ p).length < two63 →
          ∃ c' w', writeLoop cfg n c { w with buf := w.buf ++ p.take (min k p.length) }
              (p.drop (min k p.length)) = (c', w', none) ∧
            WSync peer a typ comp evs cfg.bufSize c' w' (D ++ p) := by
        intro c w D k h hroom hk hlen
        obtain ⟨c', w', hl, hs'⟩ := ih (p.drop (min k p.length))
          (by simp only [List.length_drop]; omega)
          (wsync_buffer h (p.take (min k p.length)) (by simp only [List.length_take]; omega))
          (by rw [List.append_assoc, List.take_append_drop]; exact hlen)
        rw [List.append_assoc, List.take_append_drop] at hs'
        exact ⟨c', w', hl, hs'⟩
      by_cases hn : (cfg.bufSize - w.buf.length == 0) = true
      · -- buffer full: flush a non-final frame, then copy
        simp only [hn, if_true]
        obtain ⟨c1, w1, hfl, _, hs1, _⟩ := flush_sync hside hrl hcomp h false [] (Or.inr rfl)
          (by simp only [List.append_nil]; simp only [List.length_append] at hlen; omega)
        obtain ⟨hs1, hb1⟩ := hs1 rfl
        rw [hfl]
        rw [List.append_nil] at hs1
        exact copy cfg.bufSize hs1 (by rw [hb1]; simp only [List.length_nil]; omega) hB hlen
      · simp only [hn, Bool.false_eq_true, if_false]
        simp only [beq_iff_eq] at hn
        exact copy (cfg.bufSize - w.buf.length) h (by omega) (by omega) hlen

/-- `messageWriter.Write(p)` -/
theorem mwWrite_sync (hB : cfg.bufSize > 0) {evs : List Event} {c : WConn} {w : MW} {D : Bytes} (p : Bytes)
    (h : WSync peer a typ comp evs cfg.bufSize c w D)
    (hlen : (D ++ p).length < two63) :
    ∃ c' w', mwWrite cfg c w p = (c', w', none) ∧ WSync peer a typ comp evs cfg.bufSize c' w' (D ++ p) := by
  unfold mwWrite
  simp only [h.err]
  split
  · rename_i hbig
    simp only [Bool.and_eq_true, decide_eq_true_eq] at hbig
    obtain ⟨c', w', hfl, _, hs, _⟩ := flush_sync hside hrl hcomp h false p (Or.inl hbig.2) hlen
    exact ⟨c', w', hfl, (hs rfl).1⟩
  · exact writeLoop_sync hside hrl hcomp hB _ p (Nat.lt_succ_self _) h hlen

/-- `messageWriter.WriteString(p)` -/
theorem mwWriteString_sync (hB : cfg.bufSize > 0) {evs : List Event} {c : WConn} {w : MW} {D : Bytes}
    (p : Bytes) (h : WSync peer a typ comp evs cfg.bufSize c w D)
    (hlen : (D ++ p).length < two63) :
    ∃ c' w', mwWriteString cfg c w p = (c', w', none) ∧ WSync peer a typ comp evs cfg.bufSize c' w' (D ++ p) := by
  unfold mwWriteString
  simp only [h.err]
  exact writeLoop_sync hside hrl hcomp hB _ p (Nat.lt_succ_self _) h hlen

omit hside hrl hcomp in
theorem writes_sync (one : WConn → MW → Bytes → WConn × MW × Option WErr)
    (many : WConn → MW → List Bytes → WConn × MW × Option WErr)
    (hnil : ∀ c w, many c w [] = (c, w, none))
    (hcons : ∀ c w p ps, many c w (p :: ps) =
      match one c w p with
      | (c, w, some e) => (c, w, some e)
      | (c, w, none) => many c w ps)
    (hone : ∀ {evs : List Event} {c : WConn} {w : MW} {D : Bytes} (p : Bytes),
      WSync peer a typ comp evs cfg.bufSize c w D → (D ++ p).length < two63 →
      ∃ c' w', one c w p = (c', w', none) ∧ WSync peer a typ comp evs cfg.bufSize c' w' (D ++ p)) :
    ∀ (ps : List Bytes) {evs : List Event} {c : WConn} {w : MW} {D : Bytes},
    WSync peer a typ comp evs cfg.bufSize c w D → (D ++ ps.flatten).length < two63 →
    ∃ c' w', many c w ps = (c', w', none) ∧ WSync peer a typ comp evs cfg.bufSize c' w' (D ++ ps.flatten) := by
  intro ps
  induction ps with
  | nil => intro evs c w D h _; exact ⟨c, w, hnil c w, by simpa using h⟩
  | cons p ps ih =>
    intro evs c w D h hlen
    simp only [List.flatten_cons] at hlen ⊢
    obtain ⟨c1, w1, h1, hs1⟩ := hone p h (by simp only [List.length_append] at hlen ⊢; omega)
    obtain ⟨c2, w2, h2, hs2⟩ := ih hs1 (by rw [List.append_assoc]; exact hlen)
    exact ⟨c2, w2, by rw [hcons, h1]; exact h2, by rw [← List.append_assoc]; exact hs2⟩

theorem writeClose_sync (many : WConn → MW → List Bytes → WConn × MW × Option WErr)
    (hmany : ∀ (ps : List Bytes) {evs : List Event} {c : WConn} {w : MW} {D : Bytes},
      WSync peer a typ comp evs cfg.bufSize c w D → (D ++ ps.flatten).length < two63 →
      ∃ c' w', many c w ps = (c', w', none) ∧ WSync peer a typ comp evs cfg.bufSize c' w' (D ++ ps.flatten))
    (htyp : isDataOp typ = true) {evs : List Event} {c : WConn} (chunks : List Bytes)
    (hd : DecodesTo peer a c.wire evs none) (hopen : c.closeSent = false)
    (hlen : chunks.flatten.length < two63)
    (hterm : (deliver peer typ comp chunks.flatten).terminal = false) :
    ∃ c', (match many c { frameType := typ, compress := comp } chunks with
        | (c, _, some e) => (c, some e)
        | (c, w, none) => match mwClose cfg c w with | (c, _, e) => (c, e)) = (c', none) ∧
      c'.closeSent = false ∧
      DecodesTo peer a c'.wire (evs ++ [deliver peer typ comp chunks.flatten]) none := by
  obtain ⟨c1, w1, h1, hs1⟩ := hmany chunks (WSync.start htyp hd hopen [] (Nat.zero_le _))
    (by simpa using hlen)
  rw [List.nil_append] at hs1
  obtain ⟨c2, w2, h2, hc2, _, hd2⟩ := flush_sync hside hrl hcomp hs1 true [] (Or.inr rfl)
    (by simpa using hlen)
  rw [List.append_nil] at hd2
  simp only [h1, mwClose, hs1.err, h2]
  exact ⟨c2, rfl, hc2, hd2 rfl hterm⟩

/-- `NextWriter(typ)`, any `Write` calls, `Close`: one more message for the decoder -/
theorem writeStreamed_sync (hB : cfg.bufSize > 0) (htyp : isDataOp typ = true) {evs : List Event}
    {c : WConn} (chunks : List Bytes)
    (hd : DecodesTo peer a c.wire evs none) (hopen : c.closeSent = false)
    (hlen : chunks.flatten.length < two63)
    (hterm : (deliver peer typ comp chunks.flatten).terminal = false) :
    ∃ c', writeStreamed cfg c typ comp chunks = (c', none) ∧ c'.closeSent = false ∧
      DecodesTo peer a c'.wire (evs ++ [deliver peer typ comp chunks.flatten]) none := by
  unfold writeStreamed beginMessage
  simp only [htyp, Bool.or_true, Bool.not_true, Bool.false_eq_true, if_false, hopen]
  exact writeClose_sync hside hrl hcomp (mwWrites cfg)
    (writes_sync (mwWrite cfg) (mwWrites cfg) (fun _ _ => rfl) (fun _ _ _ _ => rfl)
      (mwWrite_sync hside hrl hcomp hB))
    htyp chunks hd hopen hlen hterm

end

section
variable {peer : Cfg} {a : Nat → Bool} {cfg : WCfg} {typ : Nat}
  (hside : peer.server = !cfg.server) (hrl : peer.readLimit = 0) (htyp : isDataOp typ = true)
include hside hrl htyp

/-- `NextWriter(typ)`, any `WriteString` calls, `Close` -/
theorem writeStrings_sync (hB : cfg.bufSize > 0) {evs : List Event} {c : WConn} (chunks : List Bytes)
    (hd : DecodesTo peer a c.wire evs none) (hopen : c.closeSent = false)
    (hlen : chunks.flatten.length < two63) :
    ∃ c', writeStrings cfg c typ chunks = (c', none) ∧ c'.closeSent = false ∧
      DecodesTo peer a c'.wire (evs ++ [.msg typ chunks.flatten]) none := by
  unfold writeStrings beginMessage
  simp only [htyp, Bool.or_true, Bool.not_true, Bool.false_eq_true, if_false, hopen]
  exact writeClose_sync (comp := false) hside hrl nofun (mwWriteStrings cfg)
    (writes_sync (mwWriteString cfg) (mwWriteStrings cfg) (fun _ _ => rfl) (fun _ _ _ _ => rfl)
      (mwWriteString_sync (comp := false) hside hrl nofun hB))
    htyp chunks hd hopen hlen rfl

/-- `WriteMessage(typ, data)` without compression: the single-frame fast path of a server, the
`NextWriter` path otherwise -/
theorem writeMessagePlain_sync (hB : cfg.bufSize > 0) {evs : List Event} {c : WConn} (data : Bytes)
    (hd : DecodesTo peer a c.wire evs none) (hopen : c.closeSent = false)
    (hlen : data.length < two63) :
    ∃ c', writeMessagePlain cfg c typ data = (c', none) ∧ c'.closeSent = false ∧
      DecodesTo peer a c'.wire (evs ++ [.msg typ data]) none := by
  unfold writeMessagePlain
  split
  · rename_i hfast
    simp only [Bool.and_eq_true] at hfast
    unfold beginMessage
    simp only [htyp, Bool.or_true, Bool.not_true, Bool.false_eq_true, if_false, hopen]
    obtain ⟨c2, w2, h2, hc2, _, hd2⟩ := flush_sync (comp := false) hside hrl nofun
      (WSync.start htyp hd hopen (data.take cfg.bufSize) (List.length_take_le ..)) true (data.drop cfg.bufSize)
      (Or.inl hfast.1) (by rw [List.take_append_drop]; exact hlen)
    rw [List.take_append_drop] at hd2
    rw [h2]
    exact ⟨c2, rfl, hc2, hd2 rfl rfl⟩
  · obtain ⟨c', h1, h2, h3⟩ := writeStreamed_sync (comp := false) hside hrl nofun hB htyp [data] hd hopen
      (by simpa using hlen) rfl
    exact ⟨c', h1, h2, by simpa [deliver] using h3⟩

theorem writePrepared_sync {evs : List Event} {c : WConn} (data : Bytes)
    (hd : DecodesTo peer a c.wire evs none) (hopen : c.closeSent = false)
    (hlen : data.length < two63) :
    ∃ c', writePrepared cfg c typ data = (c', none) ∧ c'.closeSent = false ∧
      DecodesTo peer a c'.wire (evs ++ [.msg typ data]) none := by
  unfold writePrepared
  obtain ⟨pc, h1, h2, h3⟩ := writeMessagePlain_sync (peer := peer) (a := a)
    (cfg := { cfg with bufSize := 4096, compress := false }) (typ := typ)
    hside hrl htyp (by show 4096 > 0; omega) (evs := []) (c := { nkeys := c.nkeys }) data
    (decodesTo_nil peer a) rfl hlen
  simp only [h1]
  simp only [connWrite, hopen, Bool.false_eq_true, if_false, (contOrData_facts (Or.inr htyp)).2.1]
  exact ⟨_, rfl, rfl, decodesTo_append hd h3⟩

theorem writeCompressed_sync (hB : cfg.bufSize > 0) (hdefl : peer.deflate = true)
    (hlim : peer.inflatedLimit = 0) {evs : List Event} {c : WConn}
    (data dfl : Bytes) (deflChunks : List Bytes)
    (hchunks : deflChunks.flatten = dfl ++ deflateTail)
    (hcodec : peer.inflate (dfl ++ deflateTail) = some data)
    (hd : DecodesTo peer a c.wire evs none) (hopen : c.closeSent = false)
    (hlen : dfl.length < two63) :
    ∃ c', writeCompressed cfg c typ deflChunks = (c', none) ∧ c'.closeSent = false ∧
      DecodesTo peer a c'.wire (evs ++ [.msg typ data]) none := by
  obtain ⟨hout, hheld⟩ := twWrites_tail deflChunks dfl deflateTail hchunks
    (by rw [hchunks, List.length_append]; exact (Nat.min_eq_left (Nat.le_add_left 4 _)).symm)
  have hdel : deliver peer typ true (twWrites {} deflChunks).2.flatten = .msg typ data := by
    simp [deliver, hout, hcodec, hlim]
  obtain ⟨c', h1, h2, h3⟩ := writeStreamed_sync (peer := peer) (a := a) (cfg := cfg) (typ := typ)
    (comp := true) hside hrl (fun _ => hdefl) hB htyp (evs := evs) (c := c) (twWrites {} deflChunks).2 hd hopen
    (by rw [hout]; exact hlen) (by rw [hdel]; rfl)
  refine ⟨c', ?_, h2, by rw [hdel] at h3; exact h3⟩
  rw [← h1]
  unfold writeCompressed writeStreamed
  cases hb : beginMessage c typ with
  | some e => rfl
  | none =>
    simp only []
    generalize hm : mwWrites cfg c { frameType := typ, compress := true } (twWrites {} deflChunks).2 = r
    obtain ⟨c1, w1, e1⟩ := r
    cases e1 with
    | some e => rfl
    | none => simp [hheld]

end

/-- if each operation of a script adds its message for the decoder, so does the script -/
theorem writeAll_decodes (peer : Cfg) (accept : Nat → Bool) (cfg : WCfg) : ∀ (ops : List WOp),
    (∀ op ∈ ops, ∀ (c : WConn) (evs : List Event), DecodesTo peer accept c.wire evs none →
      c.closeSent = false → ∃ c', writeOp cfg c op = (c', none) ∧ c'.closeSent = false ∧
        DecodesTo peer accept c'.wire (evs ++ [Event.msg op.typ op.data]) none) →
    ∀ (c : WConn) (evs : List Event), DecodesTo peer accept c.wire evs none → c.closeSent = false →
    (writeAll cfg c ops).2 = true ∧
    DecodesTo peer accept (writeAll cfg c ops).1.wire
      (evs ++ ops.map (fun op => Event.msg op.typ op.data)) none := by
  intro ops
  induction ops with
  | nil => intro _ c evs hd _; exact ⟨rfl, by simpa [writeAll] using hd⟩
  | cons op ops ih =>
    intro hstep c evs hd hopen
    obtain ⟨c', h1, h2, h3⟩ := hstep op (List.mem_cons_self ..) c evs hd hopen
    have := ih (fun o ho => hstep o (List.mem_cons_of_mem _ ho)) c' _ h3 h2
    simp only [writeAll, h1, List.map_cons]
    exact ⟨this.1, by simpa [List.append_assoc] using this.2⟩

end CentrifugeVerif.WS
