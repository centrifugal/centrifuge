import CentrifugeVerif.Model.RedisPush
/-!
Lemmas for C33 (`Props/C33.lean`): how the decoder before the bounds checks (`…Pre`) relates to the
current one (`Guards`), and the lemmas behind the build → extract round trip.
-/
namespace CentrifugeVerif.RedisPush

theorem sliceTo_panic (s : Bytes) (b : Int) (h : b < 0 ∨ (s.length : Int) < b) : sliceTo s b = .panic :=
  if_neg (by omega)

theorem sliceFrom_panic (s : Bytes) (a : Int) (h : a < 0 ∨ (s.length : Int) < a) : sliceFrom s a = .panic :=
  if_neg (by omega)

theorem sliceTo_ok (s : Bytes) (b : Int) (h0 : 0 ≤ b) (h1 : b ≤ (s.length : Int)) :
    sliceTo s b = .val (s.take b.toNat) :=
  if_pos ⟨h0, h1⟩

theorem sliceFrom_ok (s : Bytes) (a : Int) (h0 : 0 ≤ a) (h1 : a ≤ (s.length : Int)) :
    sliceFrom s a = .val (s.drop a.toNat) :=
  if_pos ⟨h0, h1⟩

/-- `pre` panics where `c` holds and is `cur` elsewhere, and `cur` never panics: how each level of the
decoder before the bounds checks relates to the current one -/
def Guards {α : Type} (c : Bool) (pre cur : Outcome α) : Prop :=
  cur ≠ .panic ∧ pre = if c then .panic else cur

namespace Guards
variable {α : Type} {c : Bool} {pre cur : Outcome α}

theorem panic_iff (h : Guards c pre cur) : pre = .panic ↔ c = true := by
  rw [h.2]; cases c <;> simp [h.1]

theorem agrees (h : Guards c pre cur) {r : α} (hr : pre = .val r) : cur = .val r := by
  rw [h.2] at hr; cases c <;> simp_all

theorem val (a : α) : Guards false (.val a) (.val a) := ⟨nofun, rfl⟩

theorem fixed (a : α) : Guards true .panic (.val a) := ⟨nofun, rfl⟩

end Guards

/-- the `payload_length:payload` part of `bodyPanicClass` -/
def tailPanicClass (input : Bytes) : Option PanicKind :=
  match splitColon input with
  | none => none
  | some (lS, _) =>
    match atoi lS with
    | none => none
    | some l => if l < 0 then some .payloadLenNegative else none

theorem deltaTail_guards (h : DeltaHead) (prev input : Bytes) :
    Guards (tailPanicClass input).isSome (deltaTailPre h prev input) (deltaTail h prev input) := by
  unfold tailPanicClass deltaTailPre deltaTail
  rcases splitColon input with _ | ⟨lS, r⟩
  · exact .val _
  dsimp only
  rcases atoi lS with _ | l
  · exact .val _
  dsimp only
  by_cases hneg : l < 0
  · rw [if_pos hneg, if_neg (by omega), if_pos (.inl hneg), sliceTo_panic r l (.inl hneg)]
    exact .fixed _
  · rw [if_neg hneg]
    by_cases hlt : (r.length : Int) < l
    · rw [if_pos hlt, if_pos (.inr hlt)]
      exact .val _
    · rw [if_neg hlt, if_neg (by omega), sliceTo_ok r l (by omega) (by omega)]
      exact .val _

theorem deltaBody_guards (h : DeltaHead) :
    Guards (bodyPanicClass h).isSome (deltaBodyPre h) (deltaBody h) := by
  unfold bodyPanicClass deltaBodyPre deltaBody
  by_cases hneg : h.prevLen < 0
  · rw [if_pos hneg, if_neg (by omega), if_pos (.inl hneg), sliceTo_panic _ _ (.inl hneg)]
    exact .fixed _
  rw [if_neg hneg]
  by_cases heq : h.prevLen = (h.rest.length : Int)
  · -- no separator after the previous payload: `input[prevPayloadLength+1:]` is out of range
    rw [if_pos heq, if_neg (by omega), if_pos (.inr (by omega)), sliceTo_ok _ _ (by omega) (by omega),
      sliceFrom_panic _ _ (.inr (by omega))]
    exact .fixed _
  rw [if_neg heq]
  by_cases hlt : (h.rest.length : Int) < h.prevLen
  · rw [if_pos hlt, if_pos hlt, if_pos (.inr (by omega))]
    exact .val _
  · rw [if_neg hlt, if_neg hlt, if_neg (by omega), sliceTo_ok _ _ (by omega) (by omega),
      sliceFrom_ok _ _ (by omega) (by omega), show (h.prevLen + 1).toNat = h.prevLen.toNat + 1 by omega]
    exact deltaTail_guards _ _ _

theorem parseDeltaPush_guards (input : Bytes) :
    Guards (deltaPanicClass input).isSome (parseDeltaPushPre input) (parseDeltaPush input) := by
  unfold deltaPanicClass parseDeltaPushPre parseDeltaPush
  cases deltaHead input with
  | error e => exact .val _
  | ok h => exact deltaBody_guards h

theorem indexSep_le : ∀ (s : Bytes) (p : Nat), indexSep s = some p → p + 2 ≤ s.length
  | [], p, h => by simp [indexSep] at h
  | [_], p, h => by simp [indexSep] at h
  | a :: b :: rest, p, h => by
    rw [indexSep] at h
    split at h
    · cases h
      simp
    · obtain ⟨q, hq, rfl⟩ := Option.map_eq_some_iff.1 h
      have := indexSep_le (b :: rest) q hq
      simp only [List.length_cons] at this ⊢
      omega

/-- the `'p'` case of `panicClass` -/
def headerPanicClass (content : Bytes) : Option PanicKind :=
  match indexSep content with
  | some 1 => some .pHeaderShort
  | some 2 => some .pHeaderShort
  | _ => none

theorem extractPositioned_guards (data content : Bytes) :
    Guards (headerPanicClass content).isSome (extractPositionedPre data content) (extractPositioned data content) := by
  unfold headerPanicClass extractPositionedPre extractPositioned
  rcases hpos : indexSep content with _ | _ | _ | _ | pos
  · exact .val _
  · exact .val _
  -- `stringHeader[3:]` on a header of one or two bytes
  iterate 2
    · simp only []
      rw [sliceFrom_panic _ 3 (.inr (by simp only [List.length_take]; omega)),
        if_pos (by simp only [List.length_take]; omega)]
      exact .fixed _
  · have := indexSep_le _ _ hpos
    simp only []
    rw [sliceFrom_ok _ 3 (by omega) (by simp only [List.length_take]; omega),
      if_neg (by simp only [List.length_take]; omega)]
    simp only [Outcome.bind]
    split <;> exact .val _

theorem extractDelta_guards (content : Bytes) :
    Guards (deltaPanicClass content).isSome (extractDeltaPre content) (extractDelta content) := by
  unfold extractDeltaPre extractDelta
  obtain ⟨hc, hp⟩ := parseDeltaPush_guards content
  rw [hp]
  cases h : parseDeltaPush content with
  | panic => exact absurd h hc
  | val r => cases (deltaPanicClass content).isSome <;> cases r <;> exact ⟨nofun, rfl⟩

theorem extractPushData_guards (data : Bytes) :
    Guards (panicClass data).isSome (extractPushDataPre data) (extractPushData data) := by
  unfold panicClass extractPushDataPre extractPushData
  split
  · exact .val _
  rcases data.drop 2 with _ | ⟨ct, tl⟩
  · exact .val _
  simp only []
  have hjl (t : Nat) : Guards false (extractJoinLeave data (ct :: tl) t) (extractJoinLeave data (ct :: tl) t) := by
    unfold extractJoinLeave
    split <;> exact .val _
  by_cases h1 : ct = 106
  · subst h1; exact hjl 1
  by_cases h2 : ct = 108
  · subst h2; exact hjl 2
  rw [if_neg h1, if_neg h1, if_neg h2, if_neg h2]
  by_cases h3 : ct = 112
  · rw [if_pos h3, if_pos h3, if_pos h3]
    exact extractPositioned_guards _ _
  rw [if_neg h3, if_neg h3, if_neg h3]
  by_cases h4 : ct = 100
  · rw [if_pos h4, if_pos h4, if_pos h4]
    exact extractDelta_guards _
  · rw [if_neg h4, if_neg h4, if_neg h4]
    exact .val _

/-! ### build → extract round trip -/

theorem indexSep_append : ∀ (h p : Bytes), (∀ b ∈ h, b ≠ 95) →
    indexSep (h ++ 95 :: 95 :: p) = some h.length
  | [], p, _ => by simp [indexSep]
  | [a], p, hn => by simp [indexSep, hn a]
  | a :: b :: t, p, hn => by
    have ih := indexSep_append (b :: t) p (fun x hx => hn x (by simp [hx]))
    simp only [List.cons_append] at ih ⊢
    rw [indexSep, ih]
    simp [hn a]

theorem indexByte_append (c : UInt8) : ∀ (h p : Bytes), (∀ b ∈ h, b ≠ c) →
    indexByte c (h ++ c :: p) = some h.length
  | [], p, _ => by simp [indexByte]
  | a :: t, p, hn => by
    have ha : a ≠ c := hn a (by simp)
    have ih := indexByte_append c t p (fun b hb => hn b (by simp [hb]))
    simp [indexByte, ha, ih]

theorem digitByte_facts : ∀ d, d < 10 → isDigit (digitByte d) = true ∧ (digitByte d).toNat - 48 = d ∧
    digitByte d ≠ 58 ∧ digitByte d ≠ 95 ∧ digitByte d ≠ 45 ∧ digitByte d ≠ 43 := by decide

theorem digitsVal_append : ∀ (s t : Bytes) (acc : Nat),
    digitsVal (s ++ t) acc = (digitsVal s acc).bind (fun v => digitsVal t v)
  | [], t, acc => by simp [digitsVal]
  | c :: cs, t, acc => by
    simp only [List.cons_append, digitsVal]
    split
    · exact digitsVal_append cs t _
    · simp

theorem digitsVal_decimalF : ∀ (f n : Nat), n < 10 ^ f → digitsVal (decimalF f n) 0 = some n
  | 0, n, h => by
    obtain rfl : n = 0 := by omega
    rfl
  | f + 1, n, h => by
    unfold decimalF
    split
    · rename_i h10
      have := digitByte_facts n h10
      simp [digitsVal, this.1, this.2.1]
    · rename_i h10
      have ih := digitsVal_decimalF f (n / 10) (by rw [Nat.pow_succ] at h; omega)
      have hd := digitByte_facts (n % 10) (Nat.mod_lt _ (by decide))
      rw [digitsVal_append, ih]
      simp [digitsVal, hd.1, hd.2.1, Nat.div_add_mod']

theorem decimalF_mem : ∀ (f n : Nat) (b : UInt8), b ∈ decimalF f n →
    isDigit b = true ∧ b ≠ 58 ∧ b ≠ 95 ∧ b ≠ 45 ∧ b ≠ 43
  | 0, n, b, h => by simp [decimalF] at h
  | f + 1, n, b, h => by
    unfold decimalF at h
    split at h
    · rename_i h10
      rw [List.mem_singleton] at h; subst h
      have := digitByte_facts n h10
      exact ⟨this.1, this.2.2⟩
    · rw [List.mem_append, List.mem_singleton] at h
      rcases h with h | h
      · exact decimalF_mem f _ b h
      · subst h
        have := digitByte_facts (n % 10) (Nat.mod_lt _ (by decide))
        exact ⟨this.1, this.2.2⟩

theorem decimalF_length_le : ∀ (f n : Nat), (decimalF f n).length ≤ f
  | 0, _ => by simp [decimalF]
  | f + 1, n => by
    unfold decimalF
    split
    · simp
    · have := decimalF_length_le f (n / 10)
      simp only [List.length_append, List.length_singleton]; omega

theorem decimalF_ne_nil (f n : Nat) : decimalF (f + 1) n ≠ [] := by
  unfold decimalF; split <;> simp

theorem digitsVal_ge : ∀ (s : Bytes) (acc v : Nat), digitsVal s acc = some v → acc ≤ v
  | [], acc, v, h => by simp [digitsVal] at h; omega
  | c :: cs, acc, v, h => by
    simp only [digitsVal] at h
    split at h
    · have := digitsVal_ge cs _ v h; omega
    · cases h

theorem parseUintGo_of_digitsVal : ∀ (s : Bytes) (acc v : Nat), digitsVal s acc = some v → v < 2 ^ 64 →
    parseUintGo s acc = .ok v
  | [], acc, v, h, _ => by simp [digitsVal] at h; simp [parseUintGo, h]
  | c :: cs, acc, v, h, hv => by
    simp only [digitsVal] at h
    split at h
    · rename_i hd
      have hge := digitsVal_ge cs _ v h
      have : ¬ (acc * 10 + (c.toNat - 48) ≥ 2 ^ 64) := by omega
      simp only [parseUintGo, hd, Bool.not_true, Bool.false_eq_true, if_false, this]
      exact parseUintGo_of_digitsVal cs _ v h hv
    · cases h

theorem decimal_ne_nil (n : Nat) : decimal n ≠ [] := decimalF_ne_nil 19 n

theorem parseUint_decimal (n : Nat) (h : n < 2 ^ 64) : parseUint (decimal n) = .ok n := by
  unfold parseUint
  rw [List.isEmpty_eq_false_iff.2 (decimal_ne_nil n), if_neg Bool.false_ne_true]
  exact parseUintGo_of_digitsVal _ _ _ (digitsVal_decimalF 20 n (by omega)) h

theorem atoi_decimal (n : Nat) (h : n < 2 ^ 63) : atoi (decimal n) = some (n : Int) := by
  have hv : digitsVal (decimal n) 0 = some n := digitsVal_decimalF 20 n (by omega)
  obtain ⟨c, rest, hc⟩ := List.exists_cons_of_ne_nil (decimal_ne_nil n)
  have hm := decimalF_mem 20 n c (by rw [← decimal, hc]; simp)
  rw [hc] at hv ⊢
  simp [atoi, hm.2.2.2.1, hm.2.2.2.2, hv, h]

theorem decimal_no_colon (n : Nat) : ∀ b ∈ decimal n, b ≠ 58 :=
  fun b hb => (decimalF_mem 20 n b hb).2.1

theorem splitColon_append (h p : Bytes) (hn : ∀ b ∈ h, b ≠ 58) :
    splitColon (h ++ 58 :: p) = some (h, p) := by
  unfold splitColon
  rw [indexByte_append 58 h p hn]
  simp only [List.take_left, List.drop_length_add_append 1]
  rfl

/-- what the receiving node must decode from a positioned / delta publication frame -/
def expectPub (off : Nat) (epoch payload : Bytes) (delta : Bool) (prev : Bytes) : Push :=
  { data := payload, typ := 0, epoch := epoch, offset := off, delta := delta, prev := prev, ok := true }

theorem extractPositionedPre_frame (data : Bytes) (off : Nat) (epoch payload : Bytes)
    (hoff : off < 2 ^ 64) (hep : ∀ b ∈ epoch, b ≠ 95) :
    extractPositionedPre data (([112, 49, 58] ++ decimal off ++ 58 :: epoch) ++ 95 :: 95 :: payload) =
      .val (expectPub off epoch payload false []) := by
  have hdec := decimalF_mem 20 off
  have hno : ∀ b ∈ ([112, 49, 58] ++ decimal off ++ 58 :: epoch : Bytes), b ≠ 95 := by
    intro b hb
    simp only [List.mem_append, List.mem_cons, List.not_mem_nil, or_false] at hb
    rcases hb with ((rfl | rfl | rfl) | hb) | rfl | hb
    any_goals decide
    · exact (hdec b hb).2.2.1
    · exact hep b hb
  unfold extractPositionedPre
  rw [indexSep_append _ payload hno]
  split
  · contradiction
  · next h => simp at h
  next pos _ h =>
  cases h
  rw [List.take_left, List.drop_length_add_append 2]
  dsimp only
  rw [show sliceFrom ([112, 49, 58] ++ decimal off ++ 58 :: epoch) 3 = .val (decimal off ++ 58 :: epoch) from
    (sliceFrom_ok _ 3 (by decide) (by simp; omega)).trans rfl]
  simp only [Outcome.bind]
  rw [indexByte_append 58 _ _ (decimal_no_colon off)]
  split
  · contradiction
  · next h => exact absurd (List.eq_nil_of_length_eq_zero (Option.some.inj h)) (decimal_ne_nil off)
  next p _ h =>
  cases h
  rw [List.take_left, List.drop_length_add_append 1, parseUint_decimal off hoff]
  rfl

theorem deltaHead_frame (off : Nat) (epoch prev payload : Bytes)
    (hoff : off < 2 ^ 64) (hep : ∀ b ∈ epoch, b ≠ 58) (hpv : prev.length < 2 ^ 63) :
    deltaHead ([100, 49, 58] ++ (decimal off ++ 58 :: (epoch ++ 58 :: (decimal prev.length ++ 58 ::
        (prev ++ 58 :: (decimal payload.length ++ 58 :: payload)))))) =
      .ok { offset := off, epoch := epoch, prevLen := prev.length,
            rest := prev ++ 58 :: (decimal payload.length ++ 58 :: payload) } := by
  unfold deltaHead
  rw [if_neg (by simp [d1Prefix])]
  simp only [show ∀ l : Bytes, List.drop 3 ([100, 49, 58] ++ l) = l from fun _ => rfl,
    splitColon_append _ _ (decimal_no_colon _), splitColon_append _ _ hep, parseUint_decimal off hoff,
    atoi_decimal _ hpv]

theorem parseDeltaPushPre_frame (off : Nat) (epoch prev payload : Bytes)
    (hoff : off < 2 ^ 64) (hep : ∀ b ∈ epoch, b ≠ 58)
    (hpv : prev.length < 2 ^ 63) (hpl : payload.length < 2 ^ 63) :
    parseDeltaPushPre ([100, 49, 58] ++ (decimal off ++ 58 :: (epoch ++ 58 :: (decimal prev.length ++ 58 ::
        (prev ++ 58 :: (decimal payload.length ++ 58 :: payload)))))) =
      .val (.ok { offset := off, epoch := epoch, prevLen := prev.length, prev := prev,
                  payloadLen := payload.length, payload := payload }) := by
  unfold parseDeltaPushPre
  rw [deltaHead_frame off epoch prev payload hoff hep hpv]
  unfold deltaBodyPre
  simp only []
  rw [if_neg (by simp; omega), sliceTo_ok _ _ (by omega) (by simp; omega),
    sliceFrom_ok _ _ (by omega) (by simp; omega)]
  simp only [Outcome.bind, Int.toNat_natCast, List.take_left,
    show ((prev.length : Int) + 1).toNat = prev.length + 1 by omega, List.drop_length_add_append 1]
  unfold deltaTailPre
  simp only [List.drop_one, List.tail_cons, splitColon_append _ _ (decimal_no_colon _), atoi_decimal _ hpl]
  rw [if_neg (by omega), sliceTo_ok _ _ (by omega) (by omega)]
  simp [Outcome.bind]

end CentrifugeVerif.RedisPush
