import CentrifugeVerif.Model.PresenceHub
/-! Helper lemmas for C06 (a): invariants of the `presenceHub` model and the `uniqueUsers` loop. -/
namespace CentrifugeVerif.PresenceHub

def keys (m : Inner) : List String := m.map (·.1)
def usersOf (m : Inner) : List String := m.map (·.2.userID)

theorem mem_keys_setKey (uid : String) (info : Info) (m : Inner) (k : String) :
    k ∈ keys (setKey uid info m) ↔ k = uid ∨ k ∈ keys m := by
  induction m with
  | nil => simp [setKey, keys]
  | cons x r ih =>
    obtain ⟨k', v'⟩ := x
    unfold setKey
    by_cases h : k' = uid
    · subst h; simp [keys]
    · simp only [h, if_false]
      simp only [keys, List.map_cons, List.mem_cons] at ih ⊢
      rw [ih]
      exact or_left_comm

theorem nodup_keys_setKey (uid : String) (info : Info) (m : Inner) (h : (keys m).Nodup) :
    (keys (setKey uid info m)).Nodup := by
  induction m with
  | nil => simp [setKey, keys]
  | cons x r ih =>
    obtain ⟨k', v'⟩ := x
    unfold setKey
    obtain ⟨h1, h2⟩ := List.nodup_cons.mp h
    by_cases hk : k' = uid
    · rw [if_pos hk]
      exact List.nodup_cons.mpr ⟨hk ▸ h1, h2⟩
    · rw [if_neg hk]
      refine List.nodup_cons.mpr ⟨fun hm => ?_, ih h2⟩
      rcases (mem_keys_setKey uid info r k').mp hm with e | hm
      · exact hk e
      · exact h1 hm

theorem keys_delKey_sublist (uid : String) (m : Inner) : (keys (delKey uid m)).Sublist (keys m) := by
  induction m with
  | nil => simp [delKey, keys]
  | cons x r ih =>
    obtain ⟨k', v'⟩ := x
    unfold delKey
    by_cases hk : k' = uid
    · simp [hk, keys]
    · simp only [hk, if_false, keys, List.map_cons]
      exact List.Sublist.cons_cons _ ih

/-- every inner map has unique keys -/
def Inv (h : Hub) : Prop := ∀ c m, (c, m) ∈ h → (keys m).Nodup

theorem inv_cons {c : String} {m : Inner} {r : Hub} : Inv ((c, m) :: r) ↔ (keys m).Nodup ∧ Inv r := by
  constructor
  · exact fun hi => ⟨hi c m (List.mem_cons_self ..), fun c' m' hm => hi c' m' (List.mem_cons_of_mem _ hm)⟩
  · rintro ⟨h0, hr⟩ c' m' hm
    rcases List.mem_cons.mp hm with h1 | h1
    · cases h1; exact h0
    · exact hr c' m' h1

theorem inv_add (ch uid : String) (info : Info) (h : Hub) (hi : Inv h) : Inv (add ch uid info h) := by
  induction h with
  | nil => exact inv_cons.mpr ⟨by simp [keys], hi⟩
  | cons x r ih =>
    obtain ⟨c0, m0⟩ := x
    obtain ⟨h0, hr⟩ := inv_cons.mp hi
    unfold add
    split
    · exact inv_cons.mpr ⟨nodup_keys_setKey uid info m0 h0, hr⟩
    · exact inv_cons.mpr ⟨h0, ih hr⟩

theorem inv_remove (ch uid : String) (h : Hub) (hi : Inv h) : Inv (remove ch uid h) := by
  induction h with
  | nil => exact hi
  | cons x r ih =>
    obtain ⟨c0, m0⟩ := x
    obtain ⟨h0, hr⟩ := inv_cons.mp hi
    unfold remove
    split
    · split
      · dsimp only
        split
        · exact hr
        · exact inv_cons.mpr ⟨h0.sublist (keys_delKey_sublist uid m0), hr⟩
      · exact hi
    · exact inv_cons.mpr ⟨h0, ih hr⟩

theorem inv_foldl (ops : List Op) (h : Hub) (hi : Inv h) : Inv (ops.foldl apply h) := by
  induction ops generalizing h with
  | nil => exact hi
  | cons o r ih =>
    apply ih
    cases o with
    | add ch uid info => exact inv_add ch uid info h hi
    | remove ch uid => exact inv_remove ch uid h hi

theorem inv_runOps (ops : List Op) : Inv (runOps ops) :=
  inv_foldl ops [] (fun _ _ hm => by simp at hm)

theorem get_mem {ch : String} {h : Hub} {m : Inner} (hg : get ch h = some m) : (ch, m) ∈ h := by
  induction h with
  | nil => simp [get] at hg
  | cons x r ih =>
    obtain ⟨c0, m0⟩ := x
    unfold get at hg
    by_cases hc : c0 = ch
    · simp only [hc, if_true, Option.some.injEq] at hg
      subst hg; subst hc; exact List.mem_cons_self ..
    · simp only [hc, if_false] at hg
      exact List.mem_cons_of_mem _ (ih hg)

/-- the `uniqueUsers` loop counts exactly the distinct user ids not seen before -/
theorem countUsers_spec (m : Inner) (seen : List String) :
    ∃ us : List String, us.Nodup ∧ (∀ u, u ∈ us ↔ u ∈ usersOf m ∧ u ∉ seen) ∧
      countUsers seen m = us.length := by
  induction m generalizing seen with
  | nil => exact ⟨[], by simp, by simp [usersOf], by simp [countUsers]⟩
  | cons x r ih =>
    obtain ⟨k, i⟩ := x
    unfold countUsers
    by_cases hs : i.userID ∈ seen
    · obtain ⟨us, hn, hm, hc⟩ := ih seen
      refine ⟨us, hn, fun u => ?_, by simp [hs, hc]⟩
      simp only [hm u, usersOf, List.map_cons, List.mem_cons]
      grind
    · obtain ⟨us, hn, hm, hc⟩ := ih (i.userID :: seen)
      refine ⟨i.userID :: us, List.nodup_cons.mpr ⟨fun h1 => ?_, hn⟩, fun u => ?_,
        by simp [hs, hc]; omega⟩
      · exact ((hm _).mp h1).2 (List.mem_cons_self ..)
      · simp only [hm u, usersOf, List.map_cons, List.mem_cons, not_or]
        grind

end CentrifugeVerif.PresenceHub
