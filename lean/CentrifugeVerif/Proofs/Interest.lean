import CentrifugeVerif.Model.Interest
/-!
Invariant of the per-channel interest system (`Model/Interest.lean`) and its preservation by every
label.  `K` is the kind (map = `true` / stream = `false`) of the channel: the hypothesis `WF K` on
labels says that every subscriber of the channel is added with `isMap = K` (the kind of a channel is
a function of the channel).
-/
namespace CentrifugeVerif.Interest

/-- well-formed labels for a channel of kind `K` -/
def WF (K : Bool) : Label → Prop
  | .addBegin _ _ m => m = K
  | _ => True

instance (K : Bool) (l : Label) : Decidable (WF K l) := by
  cases l <;> simp only [WF] <;> infer_instance

/-- states reachable from `init` by well-formed labels (any number of steps, any interleaving of
adders, removers and jobs, any outcome of every broker call) -/
inductive Reach (K : Bool) : Ch → Prop
  | init : Reach K init
  | step {s s' : Ch} {l : Label} : Reach K s → WF K l → next s l = some s' → Reach K s'

def lockOk (K : Bool) (s : Ch) : Prop :=
  match s.lock with
  | .free => s.subs ≠ [] → served s K = true
  | .adder c g m => m = K ∧ s.subs = [(c, g)]
  | .job w => s.subs = [] ∧ w ∈ s.jobs
  | .cool w => s.subs = [] ∧ w ∈ s.jobs

def isAdder : Lock → Prop
  | .adder _ _ _ => True
  | _ => False

structure Inv (K : Bool) (s : Ch) : Prop where
  hubMap_empty : s.subs = [] → s.hubMap = false
  hubMap_kind : s.subs ≠ [] → s.hubMap = K
  lock : lockOk K s
  /-- a broker subscription that is not backed by a settled subscriber is covered by a pending job
  of the right kind -/
  covered : served s K = true → (s.subs = [] ∨ isAdder s.lock) → K ∈ s.jobs
  other : served s (!K) = false

theorem inv_init (K : Bool) : Inv K init := by
  constructor <;> simp [init, lockOk, served]

theorem insertSub_ne_nil (c g : Nat) (l : List (Nat × Nat)) : insertSub c g l ≠ [] := by
  cases l with
  | nil => simp [insertSub]
  | cons x xs =>
    obtain ⟨c', g'⟩ := x
    simp only [insertSub]; split <;> simp

theorem eraseJob_eq_erase (w : Bool) (l : List Bool) : eraseJob w l = l.erase w := by
  induction l with
  | nil => rfl
  | cons x xs ih =>
    rw [eraseJob, List.erase_cons, ih]
    by_cases h : x = w <;> simp [h]

theorem setSubscribed_fields (s : Ch) (k v : Bool) :
    (setSubscribed s k v).subs = s.subs ∧ (setSubscribed s k v).hubMap = s.hubMap ∧
    (setSubscribed s k v).jobs = s.jobs ∧ (setSubscribed s k v).lock = s.lock := by
  cases k <;> simp [setSubscribed]

theorem served_setSubscribed (s : Ch) (w v k : Bool) :
    served (setSubscribed s w v) k = if k = w then v else served s k := by
  cases w <;> cases k <;> rfl

theorem hubRemove_spec (s : Ch) (c gen : Nat) :
    ∃ l b empty wasMap, hubRemove s c gen = ({ s with subs := l, hubMap := b }, empty, wasMap) ∧
    ((l = s.subs ∧ b = s.hubMap ∧ (empty = true → wasMap = false)) ∨
     (s.subs ≠ [] ∧ l = [] ∧ b = false ∧ empty = true ∧ wasMap = s.hubMap) ∨
     (s.subs ≠ [] ∧ l ≠ [] ∧ b = s.hubMap ∧ empty = false)) := by
  simp only [hubRemove]
  split
  · exact ⟨_, _, _, _, rfl, Or.inl ⟨rfl, rfl, fun _ => rfl⟩⟩
  · rename_i hne
    split
    · exact ⟨_, _, _, _, rfl, Or.inl ⟨rfl, rfl, fun _ => rfl⟩⟩
    · split
      · exact ⟨_, _, _, _, rfl, Or.inl ⟨rfl, rfl, nofun⟩⟩
      · split
        · exact ⟨_, _, _, _, rfl, Or.inr (Or.inl ⟨hne, rfl, rfl, rfl, rfl⟩)⟩
        · rename_i hne'
          exact ⟨_, _, _, _, rfl, Or.inr (Or.inr ⟨hne, hne', rfl, rfl⟩)⟩

theorem hubRemove_single (s : Ch) (c g : Nat) (h : s.subs = [(c, g)]) :
    (hubRemove s c g).1 = { s with subs := [], hubMap := false } := by
  simp [hubRemove, h, lookupSub, eraseSub]

theorem inv_step {K : Bool} {s s' : Ch} {l : Label} (hi : Inv K s) (hwf : WF K l)
    (h : next s l = some s') : Inv K s' := by
  have hl := hi.lock
  cases l with
  | addBegin c gen m =>
    cases (hwf : m = K)
    simp only [next] at h
    split at h
    · rename_i hfree
      simp only [hfree, lockOk] at hl
      by_cases hfirst : s.subs = []
      · simp only [hfirst, if_true] at h
        cases h
        exact { hi with
          hubMap_empty := nofun
          hubMap_kind := fun _ => by cases K <;> simp [hi.hubMap_empty hfirst]
          lock := ⟨rfl, rfl⟩
          covered := fun hs _ => hi.covered hs (Or.inl hfirst) }
      · simp only [hfirst, if_false] at h
        cases h
        exact { hi with
          hubMap_empty := fun h' => absurd h' (insertSub_ne_nil _ _ _)
          hubMap_kind := fun _ => by simpa using hi.hubMap_kind hfirst
          lock := by simp only [lockOk, hfree]; exact fun _ => hl hfirst
          covered := fun _ h' => h'.elim (fun h' => absurd h' (insertSub_ne_nil _ _ _)) (by simp [hfree, isAdder]) }
    · cases h
  | addBroker ok =>
    simp only [next] at h
    split at h
    · rename_i c gen m hlock
      simp only [hlock, lockOk] at hl
      obtain ⟨rfl, hsubs⟩ := hl
      have hne : s.subs ≠ [] := by simp [hsubs]
      cases ok with
      | true =>
        simp only [if_true] at h
        cases h
        obtain ⟨f1, f2, -, -⟩ := setSubscribed_fields s m true
        refine ⟨fun h' => absurd (f1 ▸ h') hne, fun _ => f2 ▸ hi.hubMap_kind hne, ?_, ?_, ?_⟩
        · show _ → served (setSubscribed s m true) m = true
          exact fun _ => by rw [served_setSubscribed, if_pos rfl]
        · exact fun _ h' => h'.elim (fun h' => absurd (f1 ▸ h') hne) nofun
        · show served (setSubscribed s m true) (!m) = false
          rw [served_setSubscribed, if_neg (by simp)]; exact hi.other
      | false =>
        -- a broker subscription left over from an earlier epoch is still covered by its job
        simp only [Bool.false_eq_true, if_false] at h
        cases h
        rw [hubRemove_single s c gen hsubs]
        exact { hi with
          hubMap_empty := fun _ => rfl
          hubMap_kind := nofun
          lock := nofun
          covered := fun hs _ => hi.covered hs (Or.inr (by simp [hlock, isAdder])) }
    all_goals cases h
  | remove c gen =>
    simp only [next] at h
    split at h
    · rename_i hfree
      simp only [hfree, lockOk] at hl
      obtain ⟨l, b, empty, wasMap, hr, hcases⟩ := hubRemove_spec s c gen
      rw [hr] at h
      simp only at h
      rcases hcases with ⟨rfl, rfl, hw⟩ | ⟨hne, rfl, rfl, rfl, rfl⟩ | ⟨hne, hl', rfl, rfl⟩
      · cases empty with
        | true =>
          simp only [if_true] at h
          cases h
          exact { hi with
            lock := by simp only [lockOk, hfree]; exact hl
            covered := fun hs h' => List.mem_append_left _ (hi.covered hs h') }
        | false =>
          simp only [Bool.false_eq_true, if_false] at h
          cases h
          exact hi
      · simp only [if_true] at h
        cases h
        exact { hi with
          hubMap_empty := fun _ => rfl
          hubMap_kind := nofun
          lock := by simp only [lockOk, hfree]; exact nofun
          covered := fun _ _ => by simp [hi.hubMap_kind hne] }
      · simp only [Bool.false_eq_true, if_false] at h
        cases h
        exact { hi with
          hubMap_empty := fun h' => absurd h' hl'
          hubMap_kind := fun _ => hi.hubMap_kind hne
          lock := by simp only [lockOk, hfree]; exact fun _ => hl hne
          covered := fun _ h' => h'.elim (fun h' => absurd h' hl') (by simp [hfree, isAdder]) }
    · cases h
  | jobStart w =>
    simp only [next] at h
    split at h
    · rename_i hcond
      obtain ⟨hfree, hw⟩ := hcond
      simp only [hfree, lockOk] at hl
      split at h
      · rename_i hempty
        cases h
        exact { hi with lock := ⟨hempty, hw⟩, covered := fun hs _ => hi.covered hs (Or.inl hempty) }
      · rename_i hne
        cases h
        exact { hi with
          lock := by simp only [lockOk, hfree]; exact hl
          covered := fun _ h' => h'.elim (fun h' => absurd h' hne) (by simp [hfree, isAdder]) }
    · cases h
  | jobBroker ok =>
    simp only [next] at h
    split at h
    · rename_i w hlock
      simp only [hlock, lockOk] at hl
      obtain ⟨hempty, hw⟩ := hl
      cases ok with
      | true =>
        simp only [if_true] at h
        cases h
        obtain ⟨f1, f2, -, -⟩ := setSubscribed_fields s w false
        refine ⟨fun _ => f2 ▸ hi.hubMap_empty hempty, fun h' => absurd (f1 ▸ hempty) h',
          fun h' => absurd (f1 ▸ hempty) h', fun hs _ => ?_, ?_⟩
        · replace hs : served (setSubscribed s w false) K = true := hs
          rw [served_setSubscribed] at hs
          split at hs
          · cases hs
          · rename_i hKw
            rw [eraseJob_eq_erase]
            exact (List.mem_erase_of_ne hKw).mpr (hi.covered hs (Or.inl hempty))
        · show served (setSubscribed s w false) (!K) = false
          rw [served_setSubscribed]
          split
          · rfl
          · exact hi.other
      | false =>
        simp only [Bool.false_eq_true, if_false] at h
        cases h
        exact { hi with lock := ⟨hempty, hw⟩, covered := fun hs _ => hi.covered hs (Or.inl hempty) }
    all_goals cases h
  | coolEnd =>
    simp only [next] at h
    split at h
    · rename_i w hlock
      simp only [hlock, lockOk] at hl
      cases h
      exact { hi with lock := fun h' => absurd hl.1 h', covered := fun hs _ => hi.covered hs (Or.inl hl.1) }
    all_goals cases h

theorem reach_inv {K : Bool} {s : Ch} (h : Reach K s) : Inv K s := by
  induction h with
  | init => exact inv_init K
  | step _ hwf hn ih => exact inv_step ih hwf hn

theorem reach_run {K : Bool} {s s' : Ch} (ls : List Label) (h : Reach K s) (hwf : ∀ l ∈ ls, WF K l)
    (hr : run s ls = some s') : Reach K s' := by
  induction ls generalizing s with
  | nil => simp [run] at hr; subst hr; exact h
  | cons l ls ih =>
    simp only [run] at hr
    split at hr
    · cases hr
    · rename_i s1 hs1
      exact ih (Reach.step h (hwf l (by simp)) hs1) (fun l' hl' => hwf l' (by simp [hl'])) hr

theorem run_append (l1 l2 : List Label) (s : Ch) : run s (l1 ++ l2) = (run s l1).bind (run · l2) := by
  induction l1 generalizing s with
  | nil => rfl
  | cons l l1 ih =>
    simp only [List.cons_append, run]
    cases next s l with
    | none => rfl
    | some s1 => exact ih s1

end CentrifugeVerif.Interest
