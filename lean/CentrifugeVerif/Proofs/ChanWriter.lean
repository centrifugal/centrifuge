import CentrifugeVerif.Model.ChanWriter
/-!
C13 (`channelWriter`): order, coalescing and provenance of what is flushed, each from `step_shape`.
-/
namespace CentrifugeVerif.ChanWriter

theorem eraseKey_of_not_mem (k : Nat) (l : List CItem) (h : ∀ x ∈ l, x.key ≠ k) : eraseKey k l = l := by
  induction l with
  | nil => rfl
  | cons a l ih =>
    simp only [eraseKey]
    rw [if_neg (h a (by simp)), ih (fun x hx => h x (by simp [hx]))]

theorem mem_dedupLast {l : List CItem} {x : CItem} (h : x ∈ dedupLast l) : x ∈ l := by
  induction l with
  | nil => simp [dedupLast] at h
  | cons a l ih =>
    simp only [dedupLast] at h
    split at h
    · exact List.mem_cons_of_mem _ (ih h)
    · exact List.mem_cons.mpr ((List.mem_cons.mp h).imp_right ih)

/-- the Go update of `latestPubs` (drop the entry with the same key, append) computes the
specification `dedupLast` incrementally -/
theorem dedupLast_snoc (l : List CItem) (x : CItem) :
    dedupLast (l ++ [x]) = eraseKey x.key (dedupLast l) ++ [x] := by
  induction l with
  | nil => simp [dedupLast, eraseKey]
  | cons a l ih =>
    have e1 : dedupLast (a :: (l ++ [x])) =
        if (l ++ [x]).any (fun y => decide (y.key = a.key)) then dedupLast (l ++ [x])
        else a :: dedupLast (l ++ [x]) := rfl
    have e2 : dedupLast (a :: l) =
        if l.any (fun y => decide (y.key = a.key)) then dedupLast l else a :: dedupLast l := rfl
    rw [List.cons_append, e1, e2, ih, List.any_append]
    by_cases hA : l.any (fun y => decide (y.key = a.key)) = true
    · simp [hA]
    · by_cases hB : x.key = a.key
      · have hnone : ∀ y ∈ dedupLast l, y.key ≠ x.key := by
          intro y hy hyk
          apply hA
          simp only [List.any_eq_true, decide_eq_true_eq]
          exact ⟨y, mem_dedupLast hy, by rw [hyk, hB]⟩
        simp [hA, hB, eraseKey, eraseKey_of_not_mem _ _ (by simpa [hB] using hnone)]
      · have hB' : ¬ a.key = x.key := fun h => hB h.symm
        simp [hA, hB, hB', eraseKey]

theorem mem_eraseKey {k : Nat} {l : List CItem} {x : CItem} (h : x ∈ eraseKey k l) : x ∈ l := by
  induction l with
  | nil => simp [eraseKey] at h
  | cons a l ih =>
    simp only [eraseKey] at h
    split at h
    · exact List.mem_cons_of_mem _ h
    · exact List.mem_cons.mpr ((List.mem_cons.mp h).imp_right ih)

/-- what `flushLocked` hands to the callback when anything is buffered -/
def CW.batch (w : CW) : List CItem :=
  if w.latestOnly ∧ w.latestPubs ≠ [] then w.buffer ++ w.latestPubs else w.buffer

theorem flush_out (w : CW) :
    (w.flush = (w, none) ∧ w.buffer = [] ∧ w.latestPubs = []) ∨
      w.flush = ({ w with buffer := [], latestPubs := [] }, some w.batch) := by
  unfold CW.flush CW.batch
  by_cases h : w.buffer.isEmpty ∧ w.latestPubs.isEmpty
  · rw [if_pos h]
    exact Or.inl ⟨rfl, List.isEmpty_iff.mp h.1, List.isEmpty_iff.mp h.2⟩
  · right
    rw [if_neg h]
    simp only [Bool.not_eq_true', List.isEmpty_eq_false_iff]

theorem arm_frame (w : CW) (now : Nat) (c : BatchCfg) :
    (w.arm now c).buffer = w.buffer ∧ (w.arm now c).latestPubs = w.latestPubs ∧
      (w.arm now c).latestOnly = w.latestOnly := by
  unfold CW.arm; split <;> simp

/-- the state after the first half of `Add` -/
def pre (w : CW) : Op → CW
  | .add x c => w.record x c
  | _ => w

/-- timers aside, a step records the added item and then keeps what is buffered, hands it over as one
batch, or (`close`) drops it -/
theorem step_shape (w : CW) (op : Op) :
    (w.step 0 op).1.latestOnly = (pre w op).latestOnly ∧
    (((∀ f, op ≠ .close f) ∧ (w.step 0 op).2 = none ∧ (w.step 0 op).1.buffer = (pre w op).buffer ∧
        (w.step 0 op).1.latestPubs = (pre w op).latestPubs) ∨
      ((w.step 0 op).1.buffer = [] ∧ (w.step 0 op).1.latestPubs = [] ∧
        (((w.step 0 op).2 = some (pre w op).batch ∧ op ≠ .close false) ∨
          ((w.step 0 op).2 = none ∧
            ∃ f, op = .close f ∧ (f = true → (pre w op).buffer = [] ∧ (pre w op).latestPubs = []))))) := by
  cases op with
  | add x c =>
    have ha := arm_frame (w.record x c) 0 c
    simp only [CW.step, CW.add, pre]
    generalize (w.record x c).arm 0 c = w3 at ha
    have hbatch : w3.stopTimer.batch = (w.record x c).batch := by
      simp only [CW.batch, CW.stopTimer, ha.1, ha.2.1, ha.2.2]
    split
    · rcases flush_out w3.stopTimer with ⟨h, _⟩ | h
      · rw [h]; exact ⟨ha.2.2, Or.inl ⟨nofun, rfl, ha.1, ha.2.1⟩⟩
      · rw [h, hbatch]; exact ⟨ha.2.2, Or.inr ⟨rfl, rfl, Or.inl ⟨rfl, nofun⟩⟩⟩
    · exact ⟨ha.2.2, Or.inl ⟨nofun, rfl, ha.1, ha.2.1⟩⟩
  | fire id =>
    simp only [CW.step, CW.fire, pre]
    split
    · rcases flush_out w with ⟨h, _⟩ | h
      · rw [h]; exact ⟨rfl, Or.inl ⟨nofun, rfl, rfl, rfl⟩⟩
      · rw [h]; exact ⟨rfl, Or.inr ⟨rfl, rfl, Or.inl ⟨rfl, nofun⟩⟩⟩
    · exact ⟨rfl, Or.inl ⟨nofun, rfl, rfl, rfl⟩⟩
  | close f =>
    cases f with
    | false => exact ⟨rfl, Or.inr ⟨rfl, rfl, Or.inr ⟨rfl, false, rfl, nofun⟩⟩⟩
    | true =>
      have e : w.step 0 (.close true) =
          ({ w.stopTimer.flush.1 with buffer := [], latestPubs := [] }, w.stopTimer.flush.2) := rfl
      rcases flush_out w.stopTimer with ⟨h, hb, hl⟩ | h
      · rw [e, h]
        exact ⟨rfl, Or.inr ⟨rfl, rfl, Or.inr ⟨rfl, true, rfl, fun _ => ⟨hb, hl⟩⟩⟩⟩
      · rw [e, h]
        exact ⟨rfl, Or.inr ⟨rfl, rfl, Or.inl ⟨rfl, nofun⟩⟩⟩

/-- ops of a channel that is always used with `FlushLatestPublication = false` and is never closed
without flush -/
def Op.plainMode : Op → Bool
  | .add _ c => !c.latest
  | .fire _ => true
  | .close f => f

/-- ops of a channel that is always used with `FlushLatestPublication = true` and is never closed
without flush -/
def Op.latestMode : Op → Bool
  | .add _ c => c.latest
  | .fire _ => true
  | .close f => f

def outItems (b : Option (List CItem)) : List CItem := b.getD []

theorem step_plain (w : CW) (hl : w.latestPubs = []) (op : Op) (hop : op.plainMode = true) :
    outItems (w.step 0 op).2 ++ (w.step 0 op).1.buffer = w.buffer ++ adds [op] ∧
      (w.step 0 op).1.latestPubs = [] := by
  have hp : (pre w op).buffer = w.buffer ++ adds [op] ∧ (pre w op).latestPubs = [] := by
    cases op with
    | add x c =>
      simp only [Op.plainMode, Bool.not_eq_true'] at hop
      simp [pre, CW.record, hop, adds, hl]
    | fire id => exact ⟨(List.append_nil _).symm, hl⟩
    | close f => exact ⟨(List.append_nil _).symm, hl⟩
  obtain ⟨_, ⟨_, h2, hb, hlp⟩ | ⟨hb, hlp, ⟨h2, _⟩ | ⟨h2, f, rfl, hf⟩⟩⟩ := step_shape w op
  · rw [h2, hb, hlp]; exact ⟨hp.1, hp.2⟩
  · rw [h2, hb, hlp, CW.batch, if_neg (fun h => h.2 hp.2), hp.1]; exact ⟨List.append_nil _, rfl⟩
  · rw [h2, hb, hlp, ← hp.1, (hf hop).1]; exact ⟨rfl, rfl⟩

theorem adds_cons (op : Op) (ops : List Op) : adds (op :: ops) = adds [op] ++ adds ops := by
  cases op <;> simp [adds]

theorem run_plain (w : CW) (hl : w.latestPubs = []) (ops : List Op) (hops : ∀ op ∈ ops, op.plainMode = true) :
    (w.run ops).2.flatten ++ (w.run ops).1.buffer = w.buffer ++ adds ops ∧ (w.run ops).1.latestPubs = [] := by
  induction ops generalizing w with
  | nil => simp [CW.run, adds, hl]
  | cons op ops ih =>
    have hs := step_plain w hl op (hops op (by simp))
    have := ih (w.step 0 op).1 hs.2 (fun o ho => hops o (by simp [ho]))
    simp only [CW.run]
    refine ⟨?_, this.2⟩
    rw [adds_cons, ← List.append_assoc, ← hs.1]
    cases hb : (w.step 0 op).2 with
    | none => simp only [outItems, Option.getD_none, List.nil_append]; exact this.1
    | some b =>
      simp only [outItems, Option.getD_some, List.flatten_cons, List.append_assoc]
      rw [this.1]

/-- the state holds exactly the coalesced form of what was added since the last flush -/
def Coalesced (w : CW) (pending : List CItem) : Prop :=
  w.buffer = pending.filter (·.frame ≠ .pub) ∧ w.latestPubs = dedupLast (pending.filter (·.frame = .pub))

/-- the items pending after an op that did not flush: a close drops them -/
def nextPending (op : Op) (pending : List CItem) : List CItem :=
  match op with
  | .close _ => []
  | _ => pending ++ adds [op]

/-- run instrumented with the items added since the last flush: emits (batch, pending-at-flush) -/
def CW.runP (w : CW) (pending : List CItem) : List Op → List (List CItem × List CItem)
  | [] => []
  | op :: ops =>
    let pending1 := pending ++ adds [op]
    match (w.step 0 op).2 with
    | some batch => (batch, pending1) :: CW.runP (w.step 0 op).1 [] ops
    | none => CW.runP (w.step 0 op).1 (nextPending op pending) ops

theorem runP_fst (w : CW) (pending : List CItem) (ops : List Op) :
    (w.runP pending ops).map Prod.fst = (w.run ops).2 := by
  induction ops generalizing w pending with
  | nil => rfl
  | cons op ops ih =>
    simp only [CW.runP, CW.run]
    cases hb : (w.step 0 op).2 with
    | some b => simp [ih]
    | none => simp [ih]

theorem coalesced_record {w : CW} {pending : List CItem} (hc : Coalesced w pending) (x : CItem) (c : BatchCfg)
    (hl : c.latest = true) : Coalesced (w.record x c) (pending ++ [x]) ∧ (w.record x c).latestOnly = true := by
  unfold CW.record
  by_cases hx : x.frame = .pub
  · simp only [hl, hx, and_self, if_true, Coalesced, List.filter_append]
    refine ⟨⟨by simp [hx, hc.1], ?_⟩, trivial⟩
    simp only [List.filter_cons, hx, decide_true, if_true, List.filter_nil]
    rw [dedupLast_snoc, hc.2]
  · simp only [hl, hx, and_false, if_false, Coalesced, List.filter_append]
    exact ⟨⟨by simp [hx, hc.1], by simp [hx, hc.2]⟩, trivial⟩

/-- invariant of a channel writer used in latest-publication mode -/
def LInv (w : CW) (pending : List CItem) : Prop :=
  Coalesced w pending ∧ (w.latestOnly = true ∨ pending = [])

theorem LInv.batch {w : CW} {pending : List CItem} (h : LInv w pending) : w.batch = coalesce pending := by
  obtain ⟨⟨hb, hl⟩, hlo | rfl⟩ := h
  · rw [CW.batch, hb, hl, coalesce]
    by_cases hlp : dedupLast (pending.filter (·.frame = .pub)) = [] <;> simp [hlo, hlp]
  · simp [CW.batch, hb, hl, coalesce, dedupLast]

theorem step_latest (w : CW) (pending : List CItem) (h : LInv w pending) (op : Op) (hop : op.latestMode = true) :
    (∀ b, (w.step 0 op).2 = some b → b = coalesce (pending ++ adds [op]) ∧ LInv (w.step 0 op).1 []) ∧
    ((w.step 0 op).2 = none → LInv (w.step 0 op).1 (nextPending op pending)) := by
  have hp : LInv (pre w op) (pending ++ adds [op]) := by
    cases op with
    | add x c => have hr := coalesced_record h.1 x c hop; exact ⟨hr.1, Or.inl hr.2⟩
    | fire id => exact (List.append_nil pending).symm ▸ h
    | close f => exact (List.append_nil pending).symm ▸ h
  obtain ⟨hlo, ⟨hnc, h2, hb, hlp⟩ | ⟨hb, hlp, ⟨h2, _⟩ | ⟨h2, _⟩⟩⟩ := step_shape w op
  · refine ⟨fun b hb' => (nomatch h2.symm.trans hb'), fun _ => ?_⟩
    have : nextPending op pending = pending ++ adds [op] := by
      cases op with
      | close f => exact absurd rfl (hnc f)
      | _ => rfl
    rw [this]
    exact ⟨by unfold Coalesced; rw [hb, hlp]; exact hp.1, by rw [hlo]; exact hp.2⟩
  · exact ⟨fun b hb' => (by cases h2.symm.trans hb'; exact ⟨hp.batch, ⟨hb, hlp⟩, Or.inr rfl⟩),
      fun hn => (nomatch hn.symm.trans h2)⟩
  · obtain ⟨f, rfl, _⟩ := ‹∃ f, _›
    exact ⟨fun b hb' => (nomatch h2.symm.trans hb'), fun _ => ⟨⟨hb, hlp⟩, Or.inr rfl⟩⟩

theorem runP_latest (w : CW) (pending : List CItem) (h : LInv w pending) (ops : List Op)
    (hops : ∀ op ∈ ops, op.latestMode = true) :
    ∀ p ∈ w.runP pending ops, p.1 = coalesce p.2 := by
  induction ops generalizing w pending with
  | nil => nofun
  | cons op ops ih =>
    have hs := step_latest w pending h op (hops op (by simp))
    simp only [CW.runP]
    cases hb : (w.step 0 op).2 with
    | some b =>
      have hs1 := hs.1 b hb
      simp only [List.mem_cons]
      rintro p (rfl | hp)
      · exact hs1.1
      · exact ih _ _ hs1.2 (fun o ho => hops o (by simp [ho])) p hp
    | none =>
      exact ih _ _ (hs.2 hb) (fun o ho => hops o (by simp [ho]))

def held (w : CW) (x : CItem) : Prop := x ∈ w.buffer ∨ x ∈ w.latestPubs

theorem mem_batch {w : CW} {x : CItem} (hx : x ∈ w.batch) : held w x := by
  unfold CW.batch at hx
  split at hx
  · exact List.mem_append.mp hx
  · exact Or.inl hx

theorem record_mem (w : CW) (x : CItem) (c : BatchCfg) (y : CItem) (hy : held (w.record x c) y) :
    held w y ∨ y = x := by
  unfold CW.record at hy
  split at hy
  · rcases hy with hy | hy
    · exact Or.inl (Or.inl hy)
    · rcases List.mem_append.mp hy with hy | hy
      · exact Or.inl (Or.inr (mem_eraseKey hy))
      · exact Or.inr (List.mem_singleton.mp hy)
  · rcases hy with hy | hy
    · rcases List.mem_append.mp hy with hy | hy
      · exact Or.inl (Or.inl hy)
      · exact Or.inr (List.mem_singleton.mp hy)
    · exact Or.inl (Or.inr hy)

theorem step_mem (w : CW) (op : Op) :
    (∀ b, (w.step 0 op).2 = some b → ∀ x ∈ b, held w x ∨ x ∈ adds [op]) ∧
    (∀ x, held (w.step 0 op).1 x → held w x ∨ x ∈ adds [op]) := by
  have hp : ∀ y, held (pre w op) y → held w y ∨ y ∈ adds [op] := by
    cases op with
    | add x c => exact fun y hy => (record_mem w x c y hy).imp_right List.mem_singleton.mpr
    | fire id => exact fun y hy => Or.inl hy
    | close f => exact fun y hy => Or.inl hy
  have hnil : (w.step 0 op).1.buffer = [] → (w.step 0 op).1.latestPubs = [] → ∀ x, ¬ held (w.step 0 op).1 x :=
    fun hb hl x hx => by unfold held at hx; rw [hb, hl] at hx; rcases hx with h | h <;> cases h
  obtain ⟨_, ⟨_, h2, hb, hlp⟩ | ⟨hb, hlp, ⟨h2, _⟩ | ⟨h2, _⟩⟩⟩ := step_shape w op
  · exact ⟨fun b hb' => (nomatch h2.symm.trans hb'),
      fun x hx => hp x (by unfold held at hx ⊢; rwa [hb, hlp] at hx)⟩
  · exact ⟨fun b hb' x hx => (by cases h2.symm.trans hb'; exact hp x (mem_batch hx)),
      fun x hx => absurd hx (hnil hb hlp x)⟩
  · exact ⟨fun b hb' => (nomatch h2.symm.trans hb'), fun x hx => absurd hx (hnil hb hlp x)⟩

theorem run_mem (w : CW) (ops : List Op) {S : CItem → Prop} (hw : ∀ x, held w x → S x)
    (ha : ∀ x ∈ adds ops, S x) : ∀ b ∈ (w.run ops).2, ∀ x ∈ b, S x := by
  induction ops generalizing w with
  | nil => nofun
  | cons op ops ih =>
    have hs := step_mem w op
    rw [adds_cons] at ha
    have hS : ∀ x, held w x ∨ x ∈ adds [op] → S x := fun x hx =>
      hx.elim (hw x) fun h => ha x (List.mem_append_left _ h)
    have hrest := ih (w.step 0 op).1 (fun x hx => hS x (hs.2 x hx)) fun x hx => ha x (List.mem_append_right _ hx)
    intro b hb x hx
    simp only [CW.run] at hb
    cases hb2 : (w.step 0 op).2 with
    | none => rw [hb2] at hb; exact hrest b hb x hx
    | some b0 =>
      rw [hb2] at hb
      rcases List.mem_cons.mp hb with rfl | hb
      · exact hS x (hs.1 b hb2 x hx)
      · exact hrest b hb x hx

end CentrifugeVerif.ChanWriter
