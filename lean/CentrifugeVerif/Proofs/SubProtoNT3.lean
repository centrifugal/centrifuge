import CentrifugeVerif.Proofs.SubProtoPc
import CentrifugeVerif.Proofs.SubProtoNT2
/-!
What one step does to the stepping thread's own clause of `L2` (next file): `simp at hp` discards the steps
that end outside the program-counter class of the clause.
-/
namespace CentrifugeVerif.SubProto

theorem channels_applyEffs_frame (es : List Eff) (s : State) (ch : Chan)
    (h1 : ∀ e, Eff.chanSet ch e ∉ es) (h2 : Eff.chanDel ch ∉ es) :
    aget (applyEffs s es).channels ch = aget s.channels ch := by
  induction es generalizing s with
  | nil => rfl
  | cons x r ih =>
    rw [applyEffs_cons, ih _ (fun e he => h1 e (List.mem_cons_of_mem _ he)) fun he => h2 (List.mem_cons_of_mem _ he)]
    cases x with
    | chanSet ch' e' =>
      have : ch' ≠ ch := fun hc => h1 e' (hc ▸ List.mem_cons_self ..)
      simp [aget_aset, this]
    | chanDel ch' =>
      have : ch' ≠ ch := fun hc => h2 (hc ▸ List.mem_cons_self ..)
      simp [aget_adel, this]
    | _ => simp

variable {s : State} {tid : Tid} {t t' : Thread} {o : Outcome} {effs : List Eff}

theorem step_chanDel (h : ThreadStep s tid t o effs t') {ch : Chan} (hm : Eff.chanDel ch ∈ effs) :
    ch = t.ch ∧ t'.ch = t.ch ∧ t'.resGen = t.resGen ∧ t'.target = t.target ∧
    ∃ e0, aget s.channels t.ch = some e0 ∧
      ((t.pc = .sCommit ∧ e0.gen = t.cmdGen ∧ rbHubPc t'.pc = true) ∨
       (t.pc = .sErrDel ∧ e0.gen = t.resGen ∧ errHubPc t'.pc = true) ∨
       (t.pc = .uRemove ∧ e0.gen = t.target ∧ owesHubPc t'.pc = true)) := by
  cases h <;> simp at hm <;> simp_all

theorem commit_writes {ev : Ev} {c : Chan} {e : Entry} (h : effs = [.log ev, .chanSet c e]) :
    aget (after s tid t' effs).channels c = some e := by
  subst h; simp [after, aget_aset]

theorem step_D_self (h : ThreadStep s tid t o effs t')
    (hD : holdPc t.pc = true → ∃ e, aget s.channels t.ch = some e ∧ e.gen = t.resGen ∧ e.subscribed = false ∧
      (cmdPc t.pc = true → t.cmdGen = t.resGen))
    (hgen : ∀ e, aget s.channels t.ch = some e → e.gen ≠ 0)
    (hp : holdPc t'.pc = true) :
    ∃ e, aget (after s tid t' effs).channels t'.ch = some e ∧ e.gen = t'.resGen ∧ e.subscribed = false ∧
      (cmdPc t'.pc = true → t'.cmdGen = t'.resGen) := by
  cases h <;> simp at hp <;> simp_all [after, aget_aset, Entry.reservation]

theorem step_W_self (h : ThreadStep s tid t o effs t')
    (hshape : ∀ e, aget s.channels t.ch = some e → e.subscribed = false → e.gate = some e.gen ∧ e.serverSide = false)
    (hp : waitPc t'.pc = true) : t'.capGate = some t'.target := by
  cases h <;> simp at hp
  case snapWait e he hw =>
    simp only [Bool.and_eq_true, Bool.not_eq_eq_eq_not, Bool.not_true] at hw
    exact (hshape e he hw.1.2).1

/-- it did not have to wait for the entry, or the gate it waited for is closed, which no reservation's gate is -/
theorem step_F_self (h : ThreadStep s tid t o effs t')
    (hshape : ∀ e, aget s.channels t.ch = some e → e.subscribed = false → e.gate = some e.gen ∧ e.serverSide = false)
    (hG : ∀ e, aget s.channels t.ch = some e → e.subscribed = false → e.gen ∉ s.closedGates)
    (hW : waitPc t.pc = true → t.capGate = some t.target) (hp : removePc t'.pc = true) :
    ∀ e, aget (after s tid t' effs).channels t'.ch = some e → e.gen = t'.target → e.subscribed = true := by
  cases h <;> simp at hp
  case snap e he hw =>
    intro e' he' _
    cases he.symm.trans he'
    rw [← Bool.not_eq_false]
    intro hsb
    simp [hsb, hshape e he hsb] at hw
  case wake hpc g hcap hg e he =>
    intro e' he' hgen
    cases he.symm.trans he'
    rw [← Bool.not_eq_false]
    intro hsb
    have := hW (by simp [hpc])
    rw [hcap] at this
    cases this
    exact hG e he hsb (hgen ▸ hg)

theorem step_K1_self (h : ThreadStep s tid t o effs t')
    (hshape : ∀ e, aget s.channels t.ch = some e → e.subscribed = false → e.gate = some e.gen)
    (hD : holdPc t.pc = true → ∃ e, aget s.channels t.ch = some e ∧ e.gen = t.resGen ∧ e.subscribed = false ∧
      (cmdPc t.pc = true → t.cmdGen = t.resGen))
    (hp : closeGatePc t'.pc = true) :
    t'.cmdGen = t'.resGen ∧ (∀ g, t'.capGate = some g → g = t'.resGen) ∧
      (∀ e, aget (after s tid t' effs).channels t'.ch = some e → e.gen = t'.resGen → e.subscribed = true) := by
  cases h <;> simp at hp <;> simp_all [after, aget_aset]

theorem step_K2_self (h : ThreadStep s tid t o effs t')
    (hshape : ∀ e, aget s.channels t.ch = some e → e.subscribed = false → e.gate = some e.gen)
    (hD : holdPc t.pc = true → ∃ e, aget s.channels t.ch = some e ∧ e.gen = t.resGen ∧ e.subscribed = false ∧
      (cmdPc t.pc = true → t.cmdGen = t.resGen))
    (hK : rbPc t.pc = true → t.cmdGen = t.resGen ∧ (∀ g, t.capGate = some g → g = t.resGen) ∧
      (∀ e, aget s.channels t.ch = some e → e.gen ≠ t.resGen))
    (hp : rbPc t'.pc = true) :
    t'.cmdGen = t'.resGen ∧ (∀ g, t'.capGate = some g → g = t'.resGen) ∧
      (∀ e, aget (after s tid t' effs).channels t'.ch = some e → e.gen ≠ t'.resGen) := by
  cases h <;> simp at hp <;> simp_all [after, aget_adel]
  -- a lost commit contradicts D: the attempt's own reservation carries `cmdGen`
  case commitLost _ hlost =>
    obtain ⟨e, he, hg, _, hc⟩ := hD
    exact absurd (hg.trans hc.symm) (hlost e he)

theorem step_K3_self (h : ThreadStep s tid t o effs t')
    (hgate : ∀ e, aget s.channels t.ch = some e → ∀ g, e.gate = some g → g = e.gen)
    (hK : errPc t.pc = true → (∀ g, t.capGate = some g → g = t.resGen) ∧ (∀ e, aget s.channels t.ch = some e → e.gen ≠ t.resGen))
    (hp : errPc t'.pc = true) :
    (∀ g, t'.capGate = some g → g = t'.resGen) ∧
      (∀ e, aget (after s tid t' effs).channels t'.ch = some e → e.gen ≠ t'.resGen) := by
  cases h <;> simp at hp <;> simp_all [after, aget_adel]

/-- the owner of a reservation keeps owning it as long as the reservation is in `c.channels` unchanged -/
theorem step_A_self (h : ThreadStep s tid t o effs t')
    (hD : cmdPc t.pc = true → t.cmdGen = t.resGen)
    {e : Entry} (hp : holderPc t.pc = true) (he : aget s.channels t.ch = some e) (hg : e.gen = t.resGen)
    (hsb : e.subscribed = false) (he' : aget (after s tid t' effs).channels t.ch = some e) :
    t'.ch = t.ch ∧ t'.resGen = t.resGen ∧ holderPc t'.pc = true := by
  cases h <;> simp [‹t.pc = _›] at hp <;> simp_all [after, aget_aset, aget_adel]
  all_goals (subst he'; simp at hsb)

end CentrifugeVerif.SubProto
