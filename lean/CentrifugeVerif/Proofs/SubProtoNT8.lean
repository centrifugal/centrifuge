import CentrifugeVerif.Proofs.SubProtoPc
import CentrifugeVerif.Proofs.SubProtoNT1
/-!
Layer 4 of the no-timeout invariants (`L4`): `close()`.
-/
namespace CentrifugeVerif.SubProto

variable {s : State} {tid : Tid} {t t' : Thread} {o : Outcome} {effs : List Eff}

theorem step_closeKind (h : ThreadStep s tid t o effs t') (hk : t.kind = .close) (hp : closeKindPc t.pc = true) :
    closeKindPc t'.pc = true ∧
    (inClosePc t.pc = true → inClosePc t'.pc = true ∨ (Eff.unlock ∈ effs ∧ t'.pc = .done)) ∧
    (inClosePc t.pc = false → inClosePc t'.pc = true →
      (Eff.markClosed tid ∈ effs ∧ s.connectMu = none ∧ s.status ≠ .closed)) := by
  cases h <;> simp [‹t.pc = _›] at hp <;> simp_all [unsubRetPc]

theorem step_unlock (h : ThreadStep s tid t o effs t') (hm : Eff.unlock ∈ effs) : t.pc = .cExit ∧ t'.pc = .done := by
  cases h <;> simp at hm
  exact ⟨‹_›, rfl⟩

/-- the closing thread `tc` still has the subscribed entry `(ch, e)` on its work list -/
def covers (tc : Thread) (ch : Chan) (e : Entry) : Prop :=
  ch ∈ tc.pending ∨ (tc.ch = ch ∧ (snapPc tc.pc = true ∨ (removePc tc.pc = true ∧ tc.target = e.gen)))

theorem step_cover_self (h : ThreadStep s tid t o effs t') (hnt : o ≠ .tmo) (hk : t.kind = .close)
    (hp : inClosePc t.pc = true) {ch : Chan} {e : Entry} (he : aget s.channels ch = some e)
    (hsb : e.subscribed = true) (hcov : covers t ch e) (he' : aget (after s tid t' effs).channels ch = some e) :
    covers t' ch e := by
  unfold covers at hcov ⊢
  cases h <;> simp [‹t.pc = _›] at hp <;>
    simp_all [after, aget_adel, mem_sdel, unsubRetPc] <;>
    (try (rcases hcov with hc | hc <;> simp_all))
  -- left: the loop picking its next channel, which moves from the snapshot to the thread; the others stay
  case pick => exact (Decidable.em _).symm.imp id Eq.symm

theorem step_notPend_self (h : ThreadStep s tid t o effs t') (hk : t.kind = .close) (hp : inClosePc t.pc = true)
    (h1 : unsubWorkPc t.pc = true → t.ch ∉ t.pending) (h2 : donePendPc t.pc = true → t.pending = []) :
    (unsubWorkPc t'.pc = true → t'.ch ∉ t'.pending) ∧ (donePendPc t'.pc = true → t'.pending = []) := by
  cases h <;> simp [‹t.pc = _›] at hp <;> simp_all [mem_sdel, unsubRetPc]

theorem step_cPcKind (h : ThreadStep s tid t o effs t') (hk : cPc t.pc = true → t.kind = .close)
    (hp : cPc t'.pc = true) : t'.kind = .close := by
  cases h <;> simp at hp <;> simp_all

theorem step_connectMu (h : ThreadStep s tid t o effs t') :
    (after s tid t' effs).connectMu =
      if Eff.markClosed tid ∈ effs then some tid else if Eff.unlock ∈ effs then none else s.connectMu := by
  cases h <;> simp [after]

structure L4 (s : State) : Prop where
  /-- threads of kind `close` stay at `close()` / `unsubscribe` program counters, and only they stand at
  `close()` program counters -/
  KC : ∀ x t, aget s.threads x = some t → (t.kind = .close → closeKindPc t.pc = true) ∧ (cPc t.pc = true → t.kind = .close)
  /-- a thread inside `close()` holds `connectMu` -/
  M : ∀ x t, aget s.threads x = some t → t.kind = .close → inClosePc t.pc = true → s.connectMu = some x
  /-- once the status is closed, the closing thread still has every subscribed `c.channels` entry on its work
  list (in its snapshot, or being unsubscribed right now); when it has released `connectMu` no subscribed
  entry is left -/
  Q : s.status = .closed →
    (∃ c tc, s.connectMu = some c ∧ aget s.threads c = some tc ∧ tc.kind = .close ∧ inClosePc tc.pc = true ∧
      (∀ ch e, aget s.channels ch = some e → e.subscribed = true → covers tc ch e) ∧
      (unsubWorkPc tc.pc = true → tc.ch ∉ tc.pending) ∧ (donePendPc tc.pc = true → tc.pending = [])) ∨
    (s.connectMu = none ∧ ∀ ch e, aget s.channels ch = some e → e.subscribed = false)

theorem L4.init : L4 State.init := by
  constructor <;> simp [State.init, aget]

theorem inClosePc_cExit_of (pc : Pc) (h : pc = .cExit) : inClosePc pc = true := by subst h; rfl

theorem next_L4 {s s' : State} {l : Label} (hg : Ghost s) (h4 : L4 s) (hl : l.noTmo = true)
    (hn : next s l = some s') : L4 s' := by
  cases l with
  | spawn k ch o =>
    simp only [next, Option.some.injEq] at hn
    subst hn
    refine ⟨?_, ?_, ?_⟩
    · intro x u hx
      rcases aget_append_singleton hx with h | rfl
      · exact h4.KC x u h
      · cases k <;> simp [initPc]
    · intro x u hx hk hp
      rcases aget_append_singleton hx with h | rfl
      · exact h4.M x u h hk hp
      · cases k <;> simp [initPc] at hp hk
    · intro hc
      rcases h4.Q hc with ⟨c, tc, h1, h2, h3⟩ | h
      · exact Or.inl ⟨c, tc, h1, aget_append_some _ _ _ _ h2, h3⟩
      · exact Or.inr h
  | step tid o =>
    have hnt := Label.noTmo_step hl
    obtain ⟨t, effs, t', hget, hst, rfl⟩ := next_step_some hn
    have hKCt := h4.KC tid t hget
    have hmu := step_connectMu hst
    have hkind := (step_kind_res hst).1
    -- a subscribed entry of the successor state that this step wrote is a commit, made while not closed
    have hold_sub : ∀ ch e, aget (after s tid t' effs).channels ch = some e → e.subscribed = true →
        aget s.channels ch = some e ∨ (t.pc = .sCommit ∧ s.status ≠ .closed) := by
      intro ch e he hsb
      rcases channels_applyEffs _ _ _ _ he with h | h
      · exact Or.inl h
      · rcases (step_chanSet hst h).2 with ⟨_, hre, _⟩ | ⟨_, e0, he0, hz, _⟩ | ⟨hp, hnc, _⟩ | ⟨ho, _⟩
        · rw [hre] at hsb; simp [Entry.reservation] at hsb
        · exact absurd hz (hg.entGen _ _ he0)
        · exact Or.inr ⟨hp, hnc⟩
        · exact absurd ho hnt
    have hnomark_closed : s.status = .closed → ∀ x, Eff.markClosed x ∉ effs :=
      fun hc x hm => (step_markClosed hst hm).2.2.2.1 hc
    have hunlock : Eff.unlock ∈ effs → s.connectMu = some tid := by
      intro hm
      have hp := (step_unlock hst hm).1
      exact h4.M tid t hget (hKCt.2 (by simp [hp])) (by simp [hp])
    refine ⟨?_, ?_, ?_⟩
    · -- KC
      intro x u hx
      rcases aget_threads_after hget hx with ⟨_, hxo⟩ | ⟨_, rfl⟩ | rfl
      · exact h4.KC x u hxo
      · refine ⟨fun hk => ?_, step_cPcKind hst hKCt.2⟩
        have hk0 : t.kind = .close := hkind ▸ hk
        exact (step_closeKind hst hk0 (hKCt.1 hk0)).1
      · simp [autoClose]
    · -- M
      intro x u hx hk hp
      rcases aget_threads_after hget hx with ⟨hne, hxo⟩ | ⟨rfl, rfl⟩ | rfl
      · have hm := h4.M x u hxo hk hp
        rw [hmu]
        have h1 : Eff.markClosed tid ∉ effs := by
          intro hmk
          have := (step_markClosed hst hmk).2.2.1
          rw [hm] at this; cases this
        have h2 : Eff.unlock ∉ effs := by
          intro hul
          have := hunlock hul
          rw [hm] at this; cases this; exact hne rfl
        simp [h1, h2, hm]
      · have hk0 : t.kind = .close := hkind ▸ hk
        obtain ⟨_, l2, l3⟩ := step_closeKind hst hk0 (hKCt.1 hk0)
        rw [hmu]
        cases hin : inClosePc t.pc with
        | true =>
          have hm := h4.M x t hget hk0 hin
          have h1 : Eff.markClosed x ∉ effs := by
            intro hmk
            have := (step_markClosed hst hmk).2.2.1
            rw [hm] at this; cases this
          have h2 : Eff.unlock ∉ effs := by
            intro hul
            rw [(step_unlock hst hul).2] at hp; simp at hp
          simp [h1, h2, hm]
        | false => simp [(l3 hin hp).1]
      · simp [autoClose] at hp
    · -- Q
      intro hc'
      rcases (status_applyEffs _ _).mp hc' with hc | ⟨x, hx⟩
      · -- closed before the step
        have hnm := hnomark_closed hc
        have hold : ∀ ch e, aget (after s tid t' effs).channels ch = some e → e.subscribed = true →
            aget s.channels ch = some e :=
          fun ch e he hsb => (hold_sub ch e he hsb).resolve_right (fun h => h.2 hc)
        rcases h4.Q hc with ⟨c, tc, hmuc, hgc, hkc, hpc, hcov, hnp, hdp⟩ | ⟨hmun, hall⟩
        · by_cases hct : c = tid
          · -- the closing thread itself steps
            subst hct
            rw [hget] at hgc; cases hgc
            obtain ⟨_, l2, _⟩ := step_closeKind hst hkc (hKCt.1 hkc)
            obtain ⟨np1, np2⟩ := step_notPend_self hst hkc hpc hnp hdp
            rcases l2 hpc with hin' | ⟨hul, hdone⟩
            · left
              have h2 : Eff.unlock ∉ effs := by
                intro hul; rw [(step_unlock hst hul).2] at hin'; simp at hin'
              refine ⟨c, t', ?_, aget_threads_after_self hget, hkind.trans hkc, hin', ?_, np1, np2⟩
              · rw [hmu]; simp [hnm c, h2, hmuc]
              · intro ch e he hsb
                have he0 := hold ch e he hsb
                exact step_cover_self hst hnt hkc hpc he0 hsb (hcov ch e he0 hsb) he
            · right
              refine ⟨by rw [hmu]; simp [hnm c, hul], ?_⟩
              intro ch e he
              rcases Bool.eq_false_or_eq_true e.subscribed with hsb | hsb
              · exfalso
                have he0 := hold ch e he hsb
                have hcv := hcov ch e he0 hsb
                have hpe := (step_unlock hst hul).1
                have hpend := hdp (by simp [hpe])
                unfold covers at hcv
                rw [hpend, hpe] at hcv
                simp at hcv
              · exact hsb
          · -- another thread steps: the closing thread is untouched
            left
            have h2 : Eff.unlock ∉ effs := by
              intro hul
              have := hunlock hul
              rw [hmuc] at this; cases this; exact hct rfl
            refine ⟨c, tc, ?_, aget_threads_after_other hct hgc, hkc, hpc, ?_, hnp, hdp⟩
            · rw [hmu]; simp [hnm tid, h2, hmuc]
            · exact fun ch e he hsb => hcov ch e (hold ch e he hsb) hsb
        · right
          have h2 : Eff.unlock ∉ effs := by
            intro hul
            have := hunlock hul
            rw [hmun] at this; cases this
          refine ⟨by rw [hmu]; simp [hnm tid, h2, hmun], ?_⟩
          intro ch e he
          rcases Bool.eq_false_or_eq_true e.subscribed with hsb | hsb
          · have := hall ch e (hold ch e he hsb)
            rw [hsb] at this; cases this
          · exact hsb
      · -- this step is close()'s first critical section
        obtain ⟨rfl, hpe, _, _, hp', hpend⟩ := step_markClosed hst hx
        left
        refine ⟨x, t', by rw [hmu]; simp [hx], aget_threads_after_self hget, hkind.trans (hKCt.2 (by simp [hpe])),
          by simp [hp'], ?_, by simp [hp'], by simp [hp']⟩
        intro ch e he hsb
        -- the entering step does not write c.channels: the entry is an old one, hence in the snapshot
        rcases hold_sub ch e he hsb with he0 | ⟨hq, _⟩
        · exact Or.inl (hpend ▸ aget_key_mem _ _ _ he0)
        · rw [hpe] at hq; cases hq

end CentrifugeVerif.SubProto
