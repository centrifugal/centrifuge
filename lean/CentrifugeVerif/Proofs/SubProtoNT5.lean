import CentrifugeVerif.Proofs.SubProtoNT4
/-!
Transition lemmas for layer 3 of the no-timeout invariants (the hub): which steps write or remove hub
entries, who owes a removal, and generic facts about hub effects.
-/
namespace CentrifugeVerif.SubProto

section
variable {s : State} {tid : Tid} {t t' : Thread} {o : Outcome} {effs : List Eff}

theorem step_hubSet (h : ThreadStep s tid t o effs t') {ch : Chan} {g : Gen} (hm : Eff.hubSet ch g ∈ effs) :
    ch = t.ch ∧ g = t.cmdGen ∧ t.pc = .sHubAdd := by
  cases h <;> simp at hm <;> simp_all

theorem step_hubDel (h : ThreadStep s tid t o effs t') {ch : Chan} {g : Gen} (hm : Eff.hubDelIf ch g ∈ effs) :
    ch = t.ch ∧ ((t.pc = .sHubAdd ∧ g = t.cmdGen) ∨ (t.pc = .sRbHub ∧ g = t.cmdGen) ∨
      (t.pc = .sErrHub ∧ g = t.resGen) ∨ (t.pc = .uHubRm ∧ g = t.target)) := by
  cases h <;> simp at hm <;> simp_all

end

/-- what the stepping thread owes to the hub -/
def owesP (t : Thread) (g : Gen) : Prop :=
  (rbHubPc t.pc = true ∧ t.resGen = g) ∨ (errHubPc t.pc = true ∧ t.resGen = g) ∨ (owesHubPc t.pc = true ∧ t.target = g)

section
variable {s : State} {tid : Tid} {t t' : Thread} {o : Outcome} {effs : List Eff}

/-- a thread that owes a hub removal keeps owing it until the step that makes it -/
theorem step_owes_self (h : ThreadStep s tid t o effs t') {g : Gen} (ho : owesP t g)
    (hK : rbPc t.pc = true → t.cmdGen = t.resGen) :
    (owesP t' g ∧ t'.ch = t.ch) ∨ (Eff.hubDelIf t.ch g ∈ effs ∧ ∀ g', Eff.hubSet t.ch g' ∉ effs) := by
  unfold owesP at ho ⊢
  cases h <;> simp [‹t.pc = _›] at ho <;> simp_all

theorem step_Hd_self (h : ThreadStep s tid t o effs t')
    (hH : postDelPc t.pc = true → ∀ e, aget s.channels t.ch = some e → e.gen ≠ t.target)
    (hp : postDelPc t'.pc = true) :
    ∀ e, aget (after s tid t' effs).channels t'.ch = some e → e.gen ≠ t'.target := by
  cases h <;> simp at hp <;> simp_all [after, aget_adel]

theorem step_HubHeld_self (h : ThreadStep s tid t o effs t')
    (hH : hubHeldPc t.pc = true → aget s.hub t.ch = some t.cmdGen)
    (hp : hubHeldPc t'.pc = true) :
    aget (after s tid t' effs).hub t'.ch = some t'.cmdGen := by
  cases h <;> simp at hp <;> simp_all [after, aget_aset]

end

theorem hub_applyEffs (es : List Eff) (s : State) (ch : Chan) (g : Gen)
    (h : aget (applyEffs s es).hub ch = some g) : aget s.hub ch = some g ∨ Eff.hubSet ch g ∈ es := by
  induction es generalizing s with
  | nil => exact Or.inl h
  | cons x r ih =>
    rcases ih _ h with h1 | h1
    · cases x with
      | hubSet ch' g' =>
        simp only [applyEff_hubSet_hub, aget_aset] at h1
        by_cases hc : ch' = ch
        · simp only [hc, if_true, Option.some.injEq] at h1
          subst hc; subst h1; exact Or.inr (by simp)
        · simp only [hc, if_false] at h1; exact Or.inl h1
      | hubDelIf ch' g' =>
        rw [applyEff_hubDelIf_hub] at h1
        split at h1
        · rw [aget_adel] at h1
          split at h1
          · cases h1
          · exact Or.inl h1
        · exact Or.inl h1
      | _ => simp_all
    · exact Or.inr (List.mem_cons_of_mem _ h1)

/-- a step that does not set the hub entry of `ch` keeps it exactly when it does not remove it -/
theorem hub_applyEffs_frame (es : List Eff) (s : State) (ch : Chan) (g : Gen)
    (hset : ∀ g', Eff.hubSet ch g' ∉ es) :
    aget (applyEffs s es).hub ch = some g ↔ aget s.hub ch = some g ∧ Eff.hubDelIf ch g ∉ es := by
  induction es generalizing s with
  | nil => simp
  | cons x r ih =>
    rw [applyEffs_cons, ih _ fun g' hm => hset g' (List.mem_cons_of_mem _ hm)]
    cases x with
    | hubSet ch' g' =>
      have hc : ch' ≠ ch := fun hc => hset g' (hc ▸ List.mem_cons_self ..)
      simp [aget_aset, hc]
    | hubDelIf ch' g' =>
      rw [applyEff_hubDelIf_hub]
      by_cases hc : ch' = ch
      · subst hc
        by_cases hh : aget s.hub ch' = some g'
        · simp [hh, aget_adel]
          intro h1 h2; exact absurd h1.symm h2
        · simp [hh]
          intro h1 _ h2; exact hh (h2 ▸ h1)
      · have : ch ≠ ch' := fun h => hc h.symm
        split
        · simp [aget_adel, hc, this]
        · simp [this]
    | _ => simp

end CentrifugeVerif.SubProto
