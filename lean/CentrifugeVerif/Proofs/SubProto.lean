import CentrifugeVerif.Model.SubProto
/-!
Helper lemmas for the subscription-protocol LTS: association lists, the structural invariant
(`Struct`: map keys are duplicate free, the subscriptions gauge equals the number of hub entries)
which every primitive effect preserves, and the induction principle over `Reachable`.
-/
namespace CentrifugeVerif.SubProto

theorem aget_none_iff {β : Type} (l : List (Nat × β)) (x : Nat) :
    aget l x = none ↔ x ∉ l.map (·.1) := by
  induction l with
  | nil => simp [aget]
  | cons p r ih =>
    obtain ⟨k, v⟩ := p
    by_cases h : k = x
    · subst h; simp [aget]
    · have h' : ¬ x = k := fun e => h e.symm
      simp only [aget, h, if_false, ih, List.map_cons, List.mem_cons, not_or, h', not_false_eq_true, true_and]

theorem sdel_eq_filter (l : List Nat) (x : Nat) : sdel l x = l.filter (· != x) := by
  induction l with
  | nil => rfl
  | cons k r ih =>
    by_cases hk : k = x
    · simp [sdel, hk, ih]
    · simp [sdel, hk, ih]

theorem mem_sdel (l : List Nat) (x y : Nat) : y ∈ sdel l x ↔ y ∈ l ∧ y ≠ x := by
  simp [sdel_eq_filter]

theorem nodup_sdel (l : List Nat) (x : Nat) (h : l.Nodup) : (sdel l x).Nodup := by
  rw [sdel_eq_filter]; exact h.sublist List.filter_sublist

theorem nodup_sadd (l : List Nat) (x : Nat) (h : l.Nodup) : (sadd l x).Nodup := by
  simp only [sadd, List.nodup_cons]
  exact ⟨fun hm => ((mem_sdel l x x).mp hm).2 rfl, nodup_sdel l x h⟩

theorem map_adel {β : Type} (l : List (Nat × β)) (x : Nat) : (adel l x).map (·.1) = sdel (l.map (·.1)) x := by
  induction l with
  | nil => rfl
  | cons p r ih =>
    by_cases hk : p.1 = x
    · simp [adel, sdel, hk, ih]
    · simp [adel, sdel, hk, ih]

theorem keys_adel {β : Type} (l : List (Nat × β)) (x y : Nat) :
    y ∈ (adel l x).map (·.1) ↔ y ∈ l.map (·.1) ∧ y ≠ x := by
  rw [map_adel]; exact mem_sdel _ x y

theorem nodup_adel {β : Type} (l : List (Nat × β)) (x : Nat) (h : (l.map (·.1)).Nodup) :
    ((adel l x).map (·.1)).Nodup := by
  rw [map_adel]; exact nodup_sdel _ x h

theorem nodup_aset {β : Type} (l : List (Nat × β)) (x : Nat) (v : β) (h : (l.map (·.1)).Nodup) :
    ((aset l x v).map (·.1)).Nodup := by
  simp only [aset, List.map_cons, List.nodup_cons]
  refine ⟨?_, nodup_adel l x h⟩
  intro hm
  exact ((keys_adel l x x).mp hm).2 rfl

theorem adel_absent {β : Type} (l : List (Nat × β)) (x : Nat) (h : aget l x = none) : adel l x = l := by
  induction l with
  | nil => rfl
  | cons p r ih =>
    obtain ⟨k, v⟩ := p
    by_cases hk : k = x
    · simp [aget, hk] at h
    · simp only [aget, hk, if_false] at h
      simp [adel, hk, ih h]

theorem length_adel_present {β : Type} (l : List (Nat × β)) (x : Nat) (v : β)
    (hn : (l.map (·.1)).Nodup) (h : aget l x = some v) : (adel l x).length + 1 = l.length := by
  induction l with
  | nil => simp [aget] at h
  | cons p r ih =>
    obtain ⟨k, w⟩ := p
    simp only [List.map_cons, List.nodup_cons] at hn
    by_cases hk : k = x
    · subst hk
      have : aget r k = none := (aget_none_iff r k).mpr hn.1
      simp [adel, adel_absent r k this]
    · simp only [aget, hk, if_false] at h
      simp [adel, hk, ih hn.2 h]

theorem aget_adel {β : Type} (l : List (Nat × β)) (x y : Nat) :
    aget (adel l x) y = if x = y then none else aget l y := by
  induction l with
  | nil => simp [adel, aget]
  | cons p r ih =>
    obtain ⟨k, w⟩ := p
    by_cases hk : k = x
    · subst hk
      by_cases hky : k = y
      · subst hky
        simp only [adel, if_true, ih]
      · simp only [adel, if_true, ih, aget, hky, if_false]
    · by_cases hxy : x = y
      · subst hxy
        simp only [adel, hk, if_false, aget, ih, if_true]
      · simp only [adel, hk, if_false, aget, ih, hxy]

theorem aget_aset {β : Type} (l : List (Nat × β)) (x y : Nat) (v : β) :
    aget (aset l x v) y = if x = y then some v else aget l y := by
  by_cases hxy : x = y
  · simp only [aset, aget, hxy, if_true]
  · simp only [aset, aget, aget_adel, hxy, if_false]

theorem aget_mem {β : Type} (l : List (Nat × β)) (x : Nat) (v : β) (h : aget l x = some v) : (x, v) ∈ l := by
  induction l with
  | nil => simp [aget] at h
  | cons p r ih =>
    obtain ⟨k, w⟩ := p
    by_cases hk : k = x
    · subst hk; simp [aget] at h; subst h; simp
    · simp only [aget, hk, if_false] at h
      exact List.mem_cons_of_mem _ (ih h)

theorem aget_key_mem {β : Type} (l : List (Nat × β)) (x : Nat) (v : β) (h : aget l x = some v) : x ∈ l.map (·.1) :=
  List.mem_map_of_mem (f := (·.1)) (aget_mem l x v h)

theorem aget_append_some {β : Type} (l r : List (Nat × β)) (x : Nat) (v : β) (h : aget l x = some v) :
    aget (l ++ r) x = some v := by
  induction l with
  | nil => simp [aget] at h
  | cons p q ih =>
    obtain ⟨k, w⟩ := p
    by_cases hk : k = x
    · simp_all [aget]
    · simp_all [aget]

theorem aget_append_singleton {β : Type} {l : List (Nat × β)} {k x : Nat} {u v : β}
    (h : aget (l ++ [(k, u)]) x = some v) : aget l x = some v ∨ v = u := by
  cases hs : aget l x with
  | some w => rw [aget_append_some _ _ _ _ hs] at h; exact Or.inl h
  | none =>
    have hm := aget_mem _ _ _ h
    simp only [List.mem_append, List.mem_singleton] at hm
    rcases hm with hm | hm
    · exact absurd (List.mem_map_of_mem (f := (·.1)) hm) ((aget_none_iff _ _).mp hs)
    · cases hm; exact Or.inr rfl

theorem alist_nil_of_aget_none {β : Type} (l : List (Nat × β)) (h : ∀ x, aget l x = none) : l = [] := by
  cases l with
  | nil => rfl
  | cons p r =>
    obtain ⟨k, v⟩ := p
    have := h k
    simp [aget] at this

/-! A program-counter class takes the value `b` at a continuation if it does at each pc the continuation can be. -/

theorem pc_afterCmdFail {C : Pc → Bool} {b : Bool} (t : Thread) (h1 : C .sDeferPres = b) (h2 : C .sErrDel = b) :
    C (afterCmdFail t) = b := by
  unfold afterCmdFail; split <;> assumption

theorem pc_afterChecks {C : Pc → Bool} {b : Bool} (t : Thread) (h1 : C .sPresAdd = b) (h2 : C .sReply = b)
    (h3 : C .sCommit = b) : C (afterChecks t) = b := by
  unfold afterChecks; split <;> (try split) <;> assumption

theorem pc_afterPres {C : Pc → Bool} {b : Bool} (t : Thread) (h1 : C .sReply = b) (h2 : C .sCommit = b) :
    C (afterPres t) = b := by
  unfold afterPres; split <;> assumption

theorem pc_afterRemove {C : Pc → Bool} {b : Bool} (c : Entry) (h1 : C .uPresRm = b) (h2 : C .uLeave = b)
    (h3 : C .uHubRm = b) : C (afterRemove c) = b := by
  unfold afterRemove; split <;> (try split) <;> assumption

/-- Go-map well-formedness of the model state plus the gauge/hub lockstep:
`c.channels`, the hub (per client) and the presence set have no duplicate keys; the
subscriptions-inflight gauge counts exactly the hub entries. -/
structure Struct (s : State) : Prop where
  hubNodup : (s.hub.map (·.1)).Nodup
  chanNodup : (s.channels.map (·.1)).Nodup
  presNodup : s.presence.Nodup
  gauge : s.subGauge = s.hub.length

theorem Struct.init : Struct State.init := by
  constructor <;> simp [State.init]

theorem applyEff_struct (s : State) (e : Eff) (h : Struct s) : Struct (applyEff s e) := by
  cases e with
  | chanSet ch en => exact ⟨h.1, nodup_aset _ _ _ h.2, h.3, h.4⟩
  | chanDel ch => exact ⟨h.1, nodup_adel _ _ h.2, h.3, h.4⟩
  | hubSet ch g =>
    simp only [applyEff]
    cases hg : aget s.hub ch with
    | none =>
      refine ⟨nodup_aset _ _ _ h.1, h.2, h.3, ?_⟩
      simp [aset, adel_absent _ _ hg, h.4]
    | some g' =>
      refine ⟨nodup_aset _ _ _ h.1, h.2, h.3, ?_⟩
      have := length_adel_present _ _ _ h.1 hg
      simp [aset, h.4]; omega
  | hubDelIf ch g =>
    simp only [applyEff]
    cases hg : aget s.hub ch with
    | none => exact h
    | some g' =>
      by_cases hgg : g' = g
      · simp only [hgg, if_true]
        refine ⟨nodup_adel _ _ h.1, h.2, h.3, ?_⟩
        have := length_adel_present _ _ _ h.1 hg
        simp [h.4]; omega
      · simp only [hgg, if_false]; exact h
  | presAdd ch => exact ⟨h.1, h.2, nodup_sadd _ _ h.3, h.4⟩
  | presDel ch => exact ⟨h.1, h.2, nodup_sdel _ _ h.3, h.4⟩
  | closeGate g =>
    simp only [applyEff]
    split <;> exact ⟨h.1, h.2, h.3, h.4⟩
  | unregister =>
    simp only [applyEff]
    split <;> exact ⟨h.1, h.2, h.3, h.4⟩
  | _ => exact ⟨h.1, h.2, h.3, h.4⟩

theorem applyEffs_struct (es : List Eff) (s : State) (h : Struct s) : Struct (applyEffs s es) := by
  induction es generalizing s with
  | nil => exact h
  | cons e r ih => exact ih _ (applyEff_struct s e h)

theorem next_struct (s s' : State) (l : Label) (h : Struct s) (hn : next s l = some s') : Struct s' := by
  cases l with
  | spawn k ch o =>
    simp only [next, Option.some.injEq] at hn
    subst hn
    exact ⟨h.1, h.2, h.3, h.4⟩
  | step tid o =>
    simp only [next] at hn
    split at hn
    · cases hn
    · split at hn
      · cases hn
      · simp only [Option.some.injEq] at hn
        subst hn
        exact applyEffs_struct _ _ ⟨h.1, h.2, h.3, h.4⟩

theorem run_invariant (P : State → Prop) (L : Label → Prop)
    (hstep : ∀ s s' l, P s → L l → next s l = some s' → P s')
    (ls : List Label) (s s' : State) (hs : P s) (hl : ∀ l ∈ ls, L l) (hr : run s ls = some s') : P s' := by
  induction ls generalizing s with
  | nil => simp only [run, Option.some.injEq] at hr; exact hr ▸ hs
  | cons l r ih =>
    simp only [run] at hr
    split at hr
    · cases hr
    · rename_i s1 h1
      exact ih s1 (hstep s s1 l hs (hl l (by simp)) h1) (fun x hx => hl x (by simp [hx])) hr

theorem reachable_invariant (P : State → Prop) (h0 : P State.init)
    (hstep : ∀ s s' l, P s → next s l = some s' → P s') (s : State) (hr : Reachable s) : P s := by
  obtain ⟨ls, hl⟩ := hr
  exact run_invariant P (fun _ => True) (fun s s' l hs _ => hstep s s' l hs) ls _ _ h0 (fun _ _ => trivial) hl

theorem reachable_struct (s : State) (hr : Reachable s) : Struct s :=
  reachable_invariant Struct Struct.init next_struct s hr

end CentrifugeVerif.SubProto
