import CentrifugeVerif.Model.MapExpiry
import CentrifugeVerif.Proofs.MapHub
import CentrifugeVerif.Proofs.MapPhase1
/-!
For `Props/C24.lean`: the sweeper invariant on the hub (`HInv`), kept by every operation and by both phases of the
sweep; an uninterrupted sweep is complete; the fuel of phase 1 suffices.
-/
namespace CentrifugeVerif.MapExpiry
open CentrifugeVerif.MapHub

theorem stateOf_eq_some_iff {h : Hub} {ch : Nat} {key : Key} {e : Entry} :
    stateOf h ch key = some e ↔ ∃ c, aget h.chans ch = some c ∧ aget c.state key = some e := by
  unfold stateOf
  cases aget h.chans ch <;> simp

theorem stateOf_eq_none_iff {h : Hub} {ch : Nat} {key : Key} :
    stateOf h ch key = none ↔ ∀ c, aget h.chans ch = some c → aget c.state key = none := by
  unfold stateOf
  cases aget h.chans ch <;> simp

theorem stateOf_of_chan {h : Hub} {ch : Nat} {c : Chan} (hc : aget h.chans ch = some c) (key : Key) :
    stateOf h ch key = aget c.state key := by
  simp [stateOf, hc]

theorem stateOf_congr {h h' : Hub} (hc : h'.chans = h.chans) (ch : Nat) (key : Key) :
    stateOf h' ch key = stateOf h ch key := by
  simp [stateOf, hc]

theorem stateOf_aset {h h' : Hub} {ch : Nat} {c : Chan} (hh : h'.chans = aset h.chans ch c) (ch' : Nat)
    (key : Key) : stateOf h' ch' key = if ch' = ch then aget c.state key else stateOf h ch' key := by
  simp only [stateOf, hh, aget_aset]
  split <;> rfl

theorem stateOf_setChan (h : Hub) (ch : Nat) (c : Chan) (ch' : Nat) (key : Key) :
    stateOf (h.setChan ch c) ch' key = if ch' = ch then aget c.state key else stateOf h ch' key :=
  stateOf_aset rfl ch' key

/-- a channel is replaced by one whose state differs at `key` only, where it now holds `v` -/
theorem stateOf_upd {h h' : Hub} {ch : Nat} {c c' : Chan} {key : Key} {v : Option Entry}
    (hc : aget h.chans ch = some c) (hh : h'.chans = aset h.chans ch c')
    (hs : ∀ k, aget c'.state k = if k = key then v else aget c.state k) (ch' : Nat) (k : Key) :
    stateOf h' ch' k = if (ch', k) = (ch, key) then v else stateOf h ch' k := by
  rw [stateOf_aset hh]
  by_cases h1 : ch' = ch
  · subst h1
    rw [if_pos rfl, hs, stateOf_of_chan hc]
    simp only [Prod.mk.injEq, true_and]
  · rw [if_neg h1, if_neg (fun h2 => h1 (Prod.mk.inj h2).1)]

theorem streamOf_setChan (h : Hub) (ch : Nat) (c : Chan) : streamOf (h.setChan ch c) ch = some c.stream := by
  simp [streamOf, Hub.setChan, aget_aset_same]

def rmPub (ev : ExpEvent) (now2 : Nat) : Pub :=
  { key := ev.key, data := 0, tag := ev.tag, score := 0, offset := 0, removed := true, time := now2 }

section Phase2
variable {h : Hub} {now1 now2 : Nat} {ev : ExpEvent} {c : Chan} {e : Entry}

theorem phase2_remove_stream (hc : aget h.chans ev.ch = some c) (he : aget c.state ev.key = some e)
    (hd : e.expireAt = ev.expireAt) (hs : 0 < ev.streamSize) :
    phase2 h now1 now2 ev =
      (({ h with keyExpires := adel h.keyExpires (ev.ch, ev.key) } : Hub).setChan ev.ch
          { rmChan c ev.key with stream := (c.stream.add (rmPub ev now2) ev.streamSize).1 },
       [⟨ev.ch, (c.stream.add (rmPub ev now2) ev.streamSize).2,
         ⟨(c.stream.add (rmPub ev now2) ev.streamSize).2.offset, c.stream.epoch⟩, false, none⟩]) := by
  unfold phase2; simp [hc, he, hd, hs, rmPub, rmChan]

theorem phase2_remove_nostream (hc : aget h.chans ev.ch = some c) (he : aget c.state ev.key = some e)
    (hd : e.expireAt = ev.expireAt) (hs : ev.streamSize = 0) :
    phase2 h now1 now2 ev =
      (({ h with keyExpires := adel h.keyExpires (ev.ch, ev.key) } : Hub).setChan ev.ch (rmChan c ev.key),
       [⟨ev.ch, rmPub ev now2, c.stream.pos, false, none⟩]) := by
  unfold phase2; simp [hc, he, hd, hs, rmPub, rmChan]

/-- the re-queue of phase 2 is the registration `add` makes -/
theorem phase2_requeue (hc : aget h.chans ev.ch = some c) (he : aget c.state ev.key = some e)
    (hd : e.expireAt ≠ ev.expireAt) (hn : now1 < e.expireAt) :
    phase2 h now1 now2 ev = (h.trackTTL (ev.ch, ev.key) e.expireAt, []) := by
  unfold phase2; simp [hc, he, hd, hn, Hub.trackTTL]

theorem phase2_stale (hc : aget h.chans ev.ch = some c) (he : aget c.state ev.key = some e)
    (hd : e.expireAt ≠ ev.expireAt) (hn : e.expireAt ≤ now1) :
    phase2 h now1 now2 ev = (h, []) := by
  unfold phase2
  simp [hc, he, hd, Nat.not_lt.mpr hn]

theorem phase2_remove (now1 now2 : Nat) (hc : aget h.chans ev.ch = some c) (he : aget c.state ev.key = some e)
    (hd : e.expireAt = ev.expireAt) :
    ∃ c' b, c'.state = adel c.state ev.key ∧
      phase2 h now1 now2 ev =
        (({ h with keyExpires := adel h.keyExpires (ev.ch, ev.key) } : Hub).setChan ev.ch c', [b]) := by
  by_cases hs : 0 < ev.streamSize
  · exact ⟨_, _, rfl, phase2_remove_stream hc he hd hs⟩
  · exact ⟨_, _, rfl, phase2_remove_nostream hc he hd (by omega)⟩

end Phase2

/-- a phase-2 region removes the key and broadcasts once, or queues the entry's later deadline again, or does nothing -/
theorem phase2_cases (h : Hub) (now1 now2 : Nat) (ev : ExpEvent) :
    (∃ c c' b, aget h.chans ev.ch = some c ∧ c'.state = adel c.state ev.key ∧
      phase2 h now1 now2 ev =
        (({ h with keyExpires := adel h.keyExpires (ev.ch, ev.key) } : Hub).setChan ev.ch c', [b])) ∨
    (∃ e, stateOf h ev.ch ev.key = some e ∧ e.expireAt ≠ ev.expireAt ∧ now1 < e.expireAt ∧
      phase2 h now1 now2 ev = (h.trackTTL (ev.ch, ev.key) e.expireAt, [])) ∨
    ((∀ e, stateOf h ev.ch ev.key = some e → e.expireAt ≠ ev.expireAt) ∧ phase2 h now1 now2 ev = (h, [])) := by
  cases hc : aget h.chans ev.ch with
  | none => exact .inr (.inr ⟨fun e hs => by simp [stateOf, hc] at hs, by simp [phase2, hc]⟩)
  | some c =>
    cases he : aget c.state ev.key with
    | none => exact .inr (.inr ⟨fun e hs => by simp [stateOf, hc, he] at hs, by simp [phase2, hc, he]⟩)
    | some e =>
      have hs : stateOf h ev.ch ev.key = some e := (stateOf_of_chan hc _).trans he
      by_cases hd : e.expireAt = ev.expireAt
      · obtain ⟨c', b, h1, h2⟩ := phase2_remove now1 now2 hc he hd
        exact .inl ⟨c, c', b, rfl, h1, h2⟩
      · by_cases hn : now1 < e.expireAt
        · exact .inr (.inl ⟨e, hs, hd, hn, phase2_requeue hc he hd hn⟩)
        · refine .inr (.inr ⟨fun e' hs' => ?_, phase2_stale hc he hd (by omega)⟩)
          rw [hs] at hs'
          cases hs'
          exact hd

theorem minPrio_none {q : List (ChKey × Nat)} (h : minPrio q = none) : q = [] := by
  unfold minPrio at h
  cases hp : popMin q with
  | none => exact popMin_none hp
  | some x => simp [hp] at h

/-- a heap item for `(ch, key)` with priority ≤ `d` -/
def QW (q : List (ChKey × Nat)) (ch : Nat) (key : Key) (d : Nat) : Prop := ∃ p, ((ch, key), p) ∈ q ∧ p ≤ d

/-- a pending event for `(ch, key)` with deadline exactly `d` -/
def EW (pend : List ExpEvent) (ch : Nat) (key : Key) (d : Nat) : Prop :=
  ∃ ev ∈ pend, ev.ch = ch ∧ ev.key = key ∧ ev.expireAt = d

theorem qw_mono {q q' : List (ChKey × Nat)} {ch : Nat} {key : Key} {d : Nat} (hs : ∀ it ∈ q, it ∈ q')
    (hw : QW q ch key d) : QW q' ch key d := by
  obtain ⟨p, h1, h2⟩ := hw
  exact ⟨p, hs _ h1, h2⟩

theorem ew_mono {l l' : List ExpEvent} {ch : Nat} {key : Key} {d : Nat} (hs : ∀ ev ∈ l, ev ∈ l')
    (hw : EW l ch key d) : EW l' ch key d := by
  obtain ⟨ev, h1, h2⟩ := hw
  exact ⟨ev, hs _ h1, h2⟩

/-- first conjunct of `ExpInv`, over `stateOf` -/
def AInv (h : Hub) (pend : List ExpEvent) : Prop :=
  ∀ ch key e, stateOf h ch key = some e → 0 < e.expireAt →
    aget h.keyExpires (ch, key) = some e.expireAt ∧ (QW h.queue ch key e.expireAt ∨ EW pend ch key e.expireAt)

/-- the wake-up time `n` is non-zero while the heap `q` is non-empty, and a lower bound of it -/
def QInv (q : List (ChKey × Nat)) (n : Nat) : Prop := (q ≠ [] → n ≠ 0) ∧ ∀ it ∈ q, n ≤ it.2

/-- `ExpInv ∧ ExpAux` in the form the proofs work with -/
structure HInv (h : Hub) (pend : List ExpEvent) : Prop where
  ainv : AInv h pend
  qinv : QInv h.queue h.nextKeyCheck
  kinv : ∀ it ∈ h.keyExpires, 0 < it.2
  einv : ∀ ch, stateOf h ch [] = none

theorem hinv_iff (s : Sys) : HInv s.hub s.pending ↔ ExpInv s ∧ ExpAux s := by
  constructor
  · intro hi
    refine ⟨⟨?_, hi.qinv.1, hi.qinv.2⟩, hi.kinv, ?_⟩
    · intro ch c key e hc he hd
      exact hi.ainv ch key e (stateOf_eq_some_iff.mpr ⟨c, hc, he⟩) hd
    · intro ch c hc
      exact stateOf_eq_none_iff.mp (hi.einv ch) c hc
  · rintro ⟨⟨h1, h2, h3⟩, h4, h5⟩
    refine ⟨?_, ⟨h2, h3⟩, h4, ?_⟩
    · intro ch key e hs hd
      obtain ⟨c, hc, he⟩ := stateOf_eq_some_iff.mp hs
      exact h1 ch c key e hc he hd
    · intro ch
      exact stateOf_eq_none_iff.mpr (h5 ch)

theorem qinv_push {q : List (ChKey × Nat)} {n : Nat} (hq : QInv q n) (ck : ChKey) {d : Nat} (hd : 0 < d) :
    QInv (q ++ [(ck, d)]) (if n = 0 ∨ d < n then d else n) := by
  obtain ⟨h1, h2⟩ := hq
  constructor
  · intro _
    split <;> omega
  · intro it hit
    rcases List.mem_append.mp hit with hit | hit
    · have := h2 it hit
      have := h1 (List.ne_nil_of_mem hit)
      split <;> omega
    · rw [List.mem_singleton.mp hit]
      split <;> simp <;> omega

theorem kinv_aset {l : List (ChKey × Nat)} (hl : ∀ it ∈ l, 0 < it.2) (ck : ChKey) {d : Nat} (hd : 0 < d) :
    ∀ it ∈ aset l ck d, 0 < it.2 := by
  intro it hit
  rcases mem_aset hit with h | h
  · exact hl it h
  · subst h; exact hd

theorem kinv_adel {l : List (ChKey × Nat)} (hl : ∀ it ∈ l, 0 < it.2) (ck : ChKey) :
    ∀ it ∈ adel l ck, 0 < it.2 := fun it hit => hl it (mem_adel hit)

/-- The master lemma: only the bookkeeping of one `(channel, key)` pair `ck` is touched. -/
theorem ainv_transfer {h h' : Hub} {pend pend' : List ExpEvent} (ck : ChKey) (hA : AInv h pend)
    (hst : ∀ ch key, (ch, key) ≠ ck → stateOf h' ch key = stateOf h ch key)
    (hke : ∀ ck', ck' ≠ ck → aget h'.keyExpires ck' = aget h.keyExpires ck')
    (hq : ∀ it ∈ h.queue, it.1 ≠ ck → it ∈ h'.queue)
    (hp : ∀ ev ∈ pend, (ev.ch, ev.key) ≠ ck → ev ∈ pend')
    (hck : ∀ e, stateOf h' ck.1 ck.2 = some e → 0 < e.expireAt →
      aget h'.keyExpires ck = some e.expireAt ∧
        (QW h'.queue ck.1 ck.2 e.expireAt ∨ EW pend' ck.1 ck.2 e.expireAt)) :
    AInv h' pend' := by
  intro ch key e hs hd
  by_cases hc : (ch, key) = ck
  · subst hc; exact hck e hs hd
  · rw [hst ch key hc] at hs
    obtain ⟨h1, h2⟩ := hA ch key e hs hd
    refine ⟨by rw [hke _ hc]; exact h1, ?_⟩
    rcases h2 with ⟨p, hp1, hp2⟩ | ⟨ev, hev, h3, h4, h5⟩
    · exact Or.inl ⟨p, hq _ hp1 hc, hp2⟩
    · refine Or.inr ⟨ev, hp ev hev ?_, h3, h4, h5⟩
      rw [h3, h4]; exact hc

section
variable {now : Nat} {h : Hub} {evs : List ExpEvent} {ch : Nat} {key : Key} {p : Nat}
    {rest : List (ChKey × Nat)} {h2 : Hub} {evs2 : List ExpEvent}

def Elapsed (now : Nat) (h : Hub) (ev : ExpEvent) : Prop :=
  ev.expireAt ≤ now ∧ ∃ e, stateOf h ev.ch ev.key = some e ∧ e.expireAt = ev.expireAt

/-- needs no invariant -/
theorem phase1Loop_col {cfg : Nat → RawCfg} {now fuel : Nat} {h : Hub} {evs : List ExpEvent}
    {r : Hub × Nat × List ExpEvent} (hl : phase1Loop cfg now fuel h evs = some r) :
    r.1.chans = h.chans ∧ ∀ ev ∈ r.2.2, ev ∈ evs ∨ Elapsed now h ev := by
  refine phase1Loop_induct
    (P := fun h evs r => r.1.chans = h.chans ∧ ∀ ev ∈ r.2.2, ev ∈ evs ∨ Elapsed now h ev)
    (fun _ _ _ => ⟨rfl, fun _ hev => .inl hev⟩) (fun _ _ _ _ _ _ => ⟨rfl, fun _ hev => .inl hev⟩) ?_ hl
  intro h evs ch key p rest h2 evs2 r _ hle hs ⟨ih1, ih2⟩
  refine ⟨ih1.trans hs.chans, fun ev hev => ?_⟩
  rcases ih2 ev hev with h3 | ⟨h3, e, h4, h5⟩
  · -- only the `due` step adds an event
    cases hs with
    | due ss hs0 heq =>
      rcases List.mem_append.mp h3 with h3 | h3
      · exact .inl h3
      · rw [List.mem_singleton.mp h3]
        exact .inr ⟨hle, _, hs0, heq⟩
    | _ => exact .inl h3
  · exact .inr ⟨h3, e, by rw [← stateOf_congr hs.chans]; exact h4, h5⟩

theorem ainv_transfer_pop {h : Hub} {evs : List ExpEvent} {ch : Nat} {key : Key} {p : Nat}
    {rest : List (ChKey × Nat)} (hp : popMin h.queue = some (((ch, key), p), rest)) (hA : AInv h evs)
    {h2 : Hub} {evs2 : List ExpEvent} (hc : h2.chans = h.chans)
    (hke : ∀ ck', ck' ≠ (ch, key) → aget h2.keyExpires ck' = aget h.keyExpires ck')
    (hq : ∀ it ∈ rest, it ∈ h2.queue)
    (hev : ∀ ev ∈ evs, ev ∈ evs2)
    (hck : ∀ e, stateOf h ch key = some e → 0 < e.expireAt →
      aget h2.keyExpires (ch, key) = some e.expireAt ∧
        (QW h2.queue ch key e.expireAt ∨ EW evs2 ch key e.expireAt)) : AInv h2 evs2 := by
  refine ainv_transfer (ch, key) hA (fun c k _ => stateOf_congr hc c k) hke ?_ (fun ev h _ => hev ev h) ?_
  · intro it hit hne
    rcases List.mem_cons.mp ((popMin_some hp).1.mem_iff.mp hit) with h3 | h3
    · exact absurd (by rw [h3]) hne
    · exact hq it h3
  · intro e hs hd
    rw [stateOf_congr hc] at hs
    exact hck e hs hd

theorem LoopStep.ainv (hs : LoopStep now h evs ch key p rest h2 evs2)
    (hp : popMin h.queue = some (((ch, key), p), rest)) (hA : AInv h evs) (hE : ∀ ch, stateOf h ch [] = none) :
    AInv h2 evs2 := by
  have requeued : ∀ d, QW (rest ++ [((ch, key), d)]) ch key d :=
    fun d => ⟨d, List.mem_append_right _ (List.mem_singleton.mpr rfl), Nat.le_refl _⟩
  cases hs with
  | dropped hdrop =>
    refine ainv_transfer_pop hp hA rfl (fun _ _ => rfl) (fun _ hit => hit) (fun _ hev => hev) ?_
    intro e hs hd
    obtain ⟨h3, h4⟩ := hA ch key e hs hd
    refine ⟨h3, h4.imp_left ?_⟩
    rintro ⟨q, hq1, hq2⟩
    rcases List.mem_cons.mp ((popMin_some hp).1.mem_iff.mp hq1) with h5 | h5
    · -- the popped item is not the witness: the entry's deadline lies before its priority
      cases h5
      exact absurd hq2 (Nat.not_le.mpr (hdrop e hs h3))
    · exact ⟨q, h5, hq2⟩
  | later hke hlt =>
    refine ainv_transfer_pop hp hA rfl (fun _ _ => rfl) (fun _ hit => List.mem_append_left _ hit)
      (fun _ hev => hev) ?_
    intro e hs hd
    have h3 := (hA ch key e hs hd).1
    rw [hke] at h3
    cases h3
    exact ⟨hke, .inl (requeued _)⟩
  | gone hg =>
    refine ainv_transfer_pop hp hA rfl (fun _ hne => aget_adel_ne _ _ _ hne) (fun _ hit => hit)
      (fun _ hev => hev) ?_
    intro e hs hd
    rcases hg with hk | hn
    · rw [hk, hE ch] at hs; cases hs
    · rw [hn] at hs; cases hs
  | refreshed hs0 hfut =>
    refine ainv_transfer_pop hp hA rfl (fun _ hne => aget_aset_ne _ _ _ _ hne)
      (fun _ hit => List.mem_append_left _ hit) (fun _ hev => hev) ?_
    intro e hs hd
    rw [hs0] at hs
    cases hs
    exact ⟨aget_aset_same _ _ _, .inl (requeued _)⟩
  | due ss hs0 heq =>
    refine ainv_transfer_pop hp hA rfl (fun _ _ => rfl) (fun _ hit => hit)
      (fun _ hev => List.mem_append_left _ hev) ?_
    intro e hs hd
    rw [hs0] at hs
    cases hs
    exact ⟨(hA ch key _ hs0 hd).1,
      .inr ⟨_, List.mem_append_right _ (List.mem_singleton.mpr rfl), rfl, rfl, heq.symm⟩⟩

theorem LoopStep.kinv (hs : LoopStep now h evs ch key p rest h2 evs2) (hK : ∀ it ∈ h.keyExpires, 0 < it.2) :
    ∀ it ∈ h2.keyExpires, 0 < it.2 := by
  cases hs with
  | gone => exact kinv_adel hK _
  | refreshed _ hfut => exact kinv_aset hK _ (by omega)
  | _ => exact hK

end

theorem phase1Loop_post {cfg : Nat → RawCfg} {now fuel : Nat} {h : Hub} {evs : List ExpEvent}
    {r : Hub × Nat × List ExpEvent} (hl : phase1Loop cfg now fuel h evs = some r) (hA : AInv h evs)
    (hK : ∀ it ∈ h.keyExpires, 0 < it.2) (hE : ∀ ch, stateOf h ch [] = none) :
    HInv { r.1 with nextKeyCheck := r.2.1 } r.2.2 ∧ ∀ it ∈ r.1.queue, now < it.2 := by
  revert hA hK hE
  refine phase1Loop_induct (P := fun h evs r => AInv h evs → (∀ it ∈ h.keyExpires, 0 < it.2) →
    (∀ ch, stateOf h ch [] = none) →
    HInv { r.1 with nextKeyCheck := r.2.1 } r.2.2 ∧ ∀ it ∈ r.1.queue, now < it.2) ?_ ?_ ?_ hl
  · intro h evs hq hA hK hE
    exact ⟨⟨hA, ⟨fun hne => absurd hq hne, by simp [hq]⟩, hK, hE⟩, by simp [hq]⟩
  · intro h evs m rest hp hlt hA hK hE
    have hmin := (popMin_some hp).2
    exact ⟨⟨hA, ⟨fun _ => Nat.ne_of_gt (Nat.zero_lt_of_lt hlt), hmin⟩, hK, hE⟩,
      fun it hit => Nat.lt_of_lt_of_le hlt (hmin it hit)⟩
  · intro h evs ch key p rest h2 evs2 r hp _ hs ih hA hK hE
    exact ih (hs.ainv hp hA hE) (hs.kinv hK) (fun c => by rw [stateOf_congr hs.chans]; exact hE c)

theorem phase1_cases {cfg : Nat → RawCfg} {h : Hub} {now : Nat} {h' : Hub} {evs : List ExpEvent}
    (hp : phase1 cfg h now = some (h', evs)) :
    ((h.nextKeyCheck = 0 ∨ h.nextKeyCheck > now) ∧ h' = h ∧ evs = []) ∨
    ∃ h1 next, phase1Loop cfg now (3 * h.queue.length + 3) h [] = some (h1, next, evs) ∧
      (h' = { h1 with nextKeyCheck := next } ∨
       h' = { h1 with queue := h1.keyExpires,
                      nextKeyCheck := match minPrio h1.keyExpires with | some p => p | none => next }) := by
  unfold phase1 at hp
  split at hp
  · rename_i hn
    cases hp
    exact .inl ⟨hn, rfl, rfl⟩
  · split at hp
    · cases hp
    · rename_i h1 next evs1 hl
      split at hp <;> cases hp
      · exact .inr ⟨h1, next, hl, .inr rfl⟩
      · exact .inr ⟨h1, next, hl, .inl rfl⟩

theorem due_of_fut {h : Hub} {evs : List ExpEvent} {now : Nat} (hA : AInv h evs)
    (hfut : ∀ it ∈ h.queue, now < it.2) (ch : Nat) (key : Key) (e : Entry) (hs : stateOf h ch key = some e)
    (hd : 0 < e.expireAt) (hle : e.expireAt ≤ now) : EW evs ch key e.expireAt := by
  rcases (hA ch key e hs hd).2 with ⟨p, h3, h4⟩ | h3
  · have := hfut _ h3
    simp only at this
    omega
  · exact h3

structure Phase1Post (now : Nat) (h' : Hub) (evs : List ExpEvent) : Prop where
  inv : HInv h' evs
  /-- every key whose (positive) deadline has elapsed has an event -/
  due : ∀ ch key e, stateOf h' ch key = some e → 0 < e.expireAt → e.expireAt ≤ now →
    EW evs ch key e.expireAt

theorem phase1_post {cfg : Nat → RawCfg} {h : Hub} {now : Nat} {h' : Hub} {evs : List ExpEvent}
    (hp : phase1 cfg h now = some (h', evs)) (hi : HInv h []) : Phase1Post now h' evs := by
  rcases phase1_cases hp with ⟨hn, rfl, rfl⟩ | ⟨h1, next, hl, hh⟩
  · -- the sweeper's wake-up time, a lower bound of the heap, has not come
    refine ⟨hi, due_of_fut hi.ainv fun it hit => ?_⟩
    have := hi.qinv.2 it hit
    have := hi.qinv.1 (List.ne_nil_of_mem hit)
    omega
  · obtain ⟨P, hfut⟩ := phase1Loop_post hl hi.ainv hi.kinv hi.einv
    have hdue := due_of_fut P.ainv hfut
    rcases hh with rfl | rfl
    · exact ⟨P, hdue⟩
    · -- heap compaction: the heap becomes `keyExpires`, every deadline its own item
      refine ⟨⟨?_, ?_, P.kinv, P.einv⟩, hdue⟩
      · intro ch key e hs hd
        have h3 := (P.ainv ch key e hs hd).1
        exact ⟨h3, Or.inl ⟨e.expireAt, aget_some_mem h3, Nat.le_refl _⟩⟩
      · show QInv h1.keyExpires _
        cases hm : popMin h1.keyExpires with
        | none => rw [popMin_none hm]; exact ⟨fun h => absurd rfl h, by simp⟩
        | some mr =>
          obtain ⟨m, r⟩ := mr
          have hpm := popMin_some hm
          simp only [minPrio, hm, Option.map_some]
          exact ⟨fun _ => Nat.ne_of_gt (P.kinv m (hpm.1.mem_iff.mpr List.mem_cons_self)), hpm.2⟩

theorem hinv_eqv {h h' : Hub} {pend : List ExpEvent} (hi : HInv h pend)
    (hk : h'.keyExpires = h.keyExpires) (hq : h'.queue = h.queue) (hn : h'.nextKeyCheck = h.nextKeyCheck)
    (hst : ∀ ch key, stateOf h' ch key = stateOf h ch key) : HInv h' pend := by
  refine ⟨fun ch key e hs hd => ?_, by rw [hq, hn]; exact hi.qinv, by rw [hk]; exact hi.kinv,
    fun ch => by rw [hst]; exact hi.einv ch⟩
  rw [hst] at hs
  rw [hk, hq]
  exact hi.ainv ch key e hs hd

/-- the frame lemma for a change at `(ch, key)` only -/
theorem hinv_upd {h h' : Hub} {pend pend' : List ExpEvent} {ch : Nat} {key : Key} {v : Option Entry}
    (hi : HInv h pend)
    (hst : ∀ ch' k, stateOf h' ch' k = if (ch', k) = (ch, key) then v else stateOf h ch' k)
    (hv : key = [] → v = none)
    (hke : ∀ ck', ck' ≠ (ch, key) → aget h'.keyExpires ck' = aget h.keyExpires ck')
    (hq : ∀ it ∈ h.queue, it ∈ h'.queue)
    (hp : ∀ ev ∈ pend, (ev.ch, ev.key) ≠ (ch, key) → ev ∈ pend')
    (hQ : QInv h'.queue h'.nextKeyCheck) (hK : ∀ it ∈ h'.keyExpires, 0 < it.2)
    (hck : ∀ e, v = some e → 0 < e.expireAt →
      aget h'.keyExpires (ch, key) = some e.expireAt ∧ QW h'.queue ch key e.expireAt) :
    HInv h' pend' := by
  refine ⟨?_, hQ, hK, fun ch' => ?_⟩
  · refine ainv_transfer (ch, key) hi.ainv (fun ch' k h1 => (hst ch' k).trans (if_neg h1)) hke
      (fun it hit _ => hq it hit) hp ?_
    intro e hs hd
    rw [hst, if_pos rfl] at hs
    exact (hck e hs hd).imp_right .inl
  · rw [hst]
    split
    · rename_i h1
      exact hv (Prod.mk.inj h1).2.symm
    · exact hi.einv ch'

theorem hinv_track {h h' : Hub} {pend pend' : List ExpEvent} {ch : Nat} {key : Key} {d : Nat} {en : Entry}
    (hi : HInv h pend) (hd : 0 < d) (hkey : key ≠ []) (hen : en.expireAt = d)
    (hk : h'.keyExpires = aset h.keyExpires (ch, key) d)
    (hq : h'.queue = h.queue ++ [((ch, key), d)])
    (hn : h'.nextKeyCheck = if h.nextKeyCheck = 0 ∨ d < h.nextKeyCheck then d else h.nextKeyCheck)
    (hst : ∀ ch' k, stateOf h' ch' k = if (ch', k) = (ch, key) then some en else stateOf h ch' k)
    (hp : ∀ ev ∈ pend, (ev.ch, ev.key) ≠ (ch, key) → ev ∈ pend') :
    HInv h' pend' := by
  refine hinv_upd hi hst (fun hk => absurd hk hkey) (fun ck' hne => by rw [hk]; exact aget_aset_ne _ _ _ _ hne)
    (fun it hit => by rw [hq]; exact List.mem_append_left _ hit) hp
    (by rw [hq, hn]; exact qinv_push hi.qinv _ hd) (by rw [hk]; exact kinv_aset hi.kinv _ hd) ?_
  intro e he _
  cases he
  rw [hen, hk, hq]
  exact ⟨aget_aset_same _ _ _, d, by simp, Nat.le_refl _⟩

/-- what `remove` and the removing branch of phase 2 do -/
theorem hinv_del {h : Hub} {pend pend' : List ExpEvent} {ch : Nat} {key : Key} {c c' : Chan}
    (hi : HInv h pend) (hc : aget h.chans ch = some c) (hs : c'.state = adel c.state key)
    (hp : ∀ ev ∈ pend, (ev.ch, ev.key) ≠ (ch, key) → ev ∈ pend') :
    HInv (({ h with keyExpires := adel h.keyExpires (ch, key) } : Hub).setChan ch c') pend' :=
  hinv_upd hi (stateOf_upd hc rfl (fun k => by rw [hs]; exact aget_adel _ _ _)) (fun _ => rfl)
    (fun ck' hne => aget_adel_ne _ _ _ hne) (fun _ hit => hit) hp hi.qinv (kinv_adel hi.kinv _)
    (fun e he => by cases he)

theorem mem_tail_of_ne {ev : ExpEvent} {rest : List ExpEvent} :
    ∀ ev' ∈ ev :: rest, (ev'.ch, ev'.key) ≠ (ev.ch, ev.key) → ev' ∈ rest := by
  intro ev' hev' hne
  rcases List.mem_cons.mp hev' with h1 | h1
  · subst h1; exact absurd rfl hne
  · exact h1

theorem hinv_drop {h : Hub} {ev : ExpEvent} {rest : List ExpEvent} (hi : HInv h (ev :: rest))
    (hne : ∀ e, stateOf h ev.ch ev.key = some e → e.expireAt ≠ ev.expireAt) : HInv h rest := by
  refine ⟨?_, hi.qinv, hi.kinv, hi.einv⟩
  refine ainv_transfer (ev.ch, ev.key) hi.ainv (fun _ _ _ => rfl) (fun _ _ => rfl) (fun it hit _ => hit)
    mem_tail_of_ne ?_
  intro e hs hd
  obtain ⟨h1, h2⟩ := hi.ainv _ _ e hs hd
  refine ⟨h1, h2.imp_right ?_⟩
  rintro ⟨ev', hev', h3, h4, h5⟩
  rcases List.mem_cons.mp hev' with h6 | h6
  · subst h6; exact absurd h5.symm (hne e hs)
  · exact ⟨ev', h6, h3, h4, h5⟩

theorem phase2_hinv {h : Hub} {now1 now2 : Nat} {ev : ExpEvent} {rest : List ExpEvent}
    (hi : HInv h (ev :: rest)) : HInv (phase2 h now1 now2 ev).1 rest := by
  rcases phase2_cases h now1 now2 ev with ⟨c, c', b, hc, hs', heq⟩ | ⟨e, hs, _, hn, heq⟩ | ⟨hne, heq⟩
  · rw [heq]
    exact hinv_del hi hc hs' mem_tail_of_ne
  · rw [heq]
    have hkey : ev.key ≠ [] := fun hk => by rw [hk, hi.einv] at hs; cases hs
    refine hinv_track hi (by omega) hkey rfl rfl rfl rfl (fun ch' k => ?_) mem_tail_of_ne
    split
    · rename_i h1
      cases h1
      exact hs
    · rfl
  · rw [heq]
    exact hinv_drop hi hne

theorem stateOf_hubFor (cfg : Cfg) (h : Hub) (ch ch' : Nat) (key : Key) :
    stateOf (hubFor cfg h ch) ch' key = stateOf h ch' key := by
  unfold stateOf
  by_cases hne : ch' = ch
  · subst hne
    rw [hubFor_get]
    cases hq : aget h.chans ch' with
    | none => simp only [chanFor, hq]; rfl
    | some c => simp only [chanFor, hq, Option.bind_some]; split <;> rfl
  · rw [hubFor_get_ne cfg h ch ch' hne]

theorem add_hinv {cfg : Cfg} {h : Hub} {now ch : Nat} {key : Key} {o : PubOpts} {pend : List ExpEvent}
    (hi : HInv h pend) : HInv (add cfg h now ch key o).1 pend := by
  have hc := hubFor_get cfg h ch
  have hi1 : HInv (hubFor cfg h ch) pend :=
    hinv_eqv hi (hubFor_keyExpires ..) (hubFor_queue ..) (hubFor_nextKeyCheck ..) (stateOf_hubFor cfg h ch)
  rw [add_eq]
  refine addCore_elim cfg _ _ now ch key o _ (motive := fun r => HInv r.1 pend)
    (fun _ => hi1) ?_ (fun _ _ => hi1) (fun _ _ _ _ _ => hi1) ?_
  · -- suppressed `KeyModeIfNew` publish, with the optional TTL refresh
    intro _ hk
    obtain ⟨hkey, _, e, he⟩ := keyModeBlocked_keyExists hk
    show HInv (if _ then _ else _) pend
    split
    · rename_i hr
      simp only [Bool.and_eq_true, decide_eq_true_eq] at hr
      simp only [refreshHub, he]
      exact hinv_track (d := now + cfg.keyTTL) hi1 (by omega) hkey rfl rfl rfl rfl
        (stateOf_upd hc (by rfl) (fun k => aget_aset _ _ _ _)) (fun _ hev _ => hev)
    · exact hi1
  · intro _ _ _
    unfold addOk
    split
    · -- empty key: only the stream changes
      refine hinv_eqv hi1 rfl rfl rfl (fun ch' key' => ?_)
      rw [stateOf_setChan]
      split
      · rename_i h1
        rw [h1, stateOf_of_chan hc]
      · rfl
    · rename_i hkey
      have hkey : key ≠ [] := by simpa using hkey
      show HInv (if _ then _ else _) pend
      split
      · rename_i httl
        exact hinv_track (d := now + cfg.keyTTL) hi1 (by omega) hkey (if_pos httl) rfl rfl rfl
          (stateOf_upd hc (by rfl) (fun k => aget_aset _ _ _ _)) (fun _ hev _ => hev)
      · rename_i httl
        -- no TTL: the new entry has no deadline, the bookkeeping is untouched
        refine hinv_upd hi1 (stateOf_upd hc (by rfl) (fun k => aget_aset _ _ _ _)) (fun hk => absurd hk hkey)
          (fun _ _ => rfl) (fun _ hit => hit) (fun _ hev _ => hev) hi1.qinv hi1.kinv (fun e he hd => ?_)
        cases he
        rw [show (entryOf cfg (chanFor cfg h ch) now key o).expireAt = 0 from if_neg httl] at hd
        cases hd

theorem cachePut_hinv {h : Hub} {pend : List ExpEvent} (hi : HInv h pend) (b : Prop) [Decidable b]
    (now ch idem : Nat) (p : Pos) (ittl : Nat) :
    HInv (if b then cachePut h now ch idem p ittl else h) pend := by
  split
  · exact hinv_eqv hi rfl rfl rfl (fun _ _ => rfl)
  · exact hi

theorem publish_hinv {rc : RawCfg} {h : Hub} {now ch : Nat} {key : Key} {o : PubOpts} {pend : List ExpEvent}
    (hi : HInv h pend) : HInv (publish rc h now ch key o).1 pend :=
  publish_elim rc h now ch key o (motive := fun r => HInv r.1 pend) (fun _ => hi) (fun _ => hi)
    (fun _ _ _ _ => add_hinv hi) (fun _ _ _ => cachePut_hinv (add_hinv hi) ..)

theorem remove_hinv {cfg : Cfg} {h : Hub} {now ch : Nat} {key : Key} {o : RmOpts} {pend : List ExpEvent}
    (hi : HInv h pend) : HInv (remove cfg h now ch key o).1 pend :=
  remove_elim cfg h now ch key o (motive := fun r => HInv r.1 pend) (fun _ _ _ => hi) (fun _ _ _ _ => hi)
    (fun _ _ _ _ => hi) (fun _ _ hc _ _ _ => hinv_del hi hc rfl (fun _ hev _ => hev))
    (fun _ _ hc _ _ _ => hinv_del hi hc rfl (fun _ hev _ => hev))

theorem removeOp_hinv {rc : RawCfg} {h : Hub} {now ch : Nat} {key : Key} {o : RmOpts} {pend : List ExpEvent}
    (hi : HInv h pend) : HInv (removeOp rc h now ch key o).1 pend :=
  removeOp_elim rc h now ch key o (motive := fun r => HInv r.1 pend) (fun _ => hi) (fun _ => hi)
    (fun _ _ _ _ => remove_hinv hi) (fun _ _ _ => cachePut_hinv (remove_hinv hi) ..)

theorem foldl_adel_spec (ch : Nat) (st : List (Key × Entry)) :
    ∀ (ke : List (ChKey × Nat)),
      (∀ it ∈ st.foldl (fun ke kv => adel ke (ch, kv.1)) ke, it ∈ ke) ∧
      (∀ ch' key', ch' ≠ ch →
        aget (st.foldl (fun ke kv => adel ke (ch, kv.1)) ke) (ch', key') = aget ke (ch', key')) := by
  induction st with
  | nil => intro ke; exact ⟨fun _ h => h, fun _ _ _ => rfl⟩
  | cons kv t ih =>
    intro ke
    simp only [List.foldl_cons]
    obtain ⟨h1, h2⟩ := ih (adel ke (ch, kv.1))
    refine ⟨fun it hit => mem_adel (h1 it hit), ?_⟩
    intro ch' key' hne
    rw [h2 ch' key' hne]
    exact aget_adel_ne _ _ _ (fun hc => hne (Prod.mk.inj hc).1)

theorem clear_hinv {h : Hub} {ch : Nat} {pend : List ExpEvent} (hi : HInv h pend) :
    HInv (clear h ch) pend := by
  unfold clear
  split
  · exact hinv_eqv hi rfl rfl rfl (fun _ _ => rfl)
  · rename_i c hc
    obtain ⟨f1, f2⟩ := foldl_adel_spec ch c.state h.keyExpires
    have hst : ∀ ch' key', stateOf ({ h with
        keyExpires := c.state.foldl (fun ke kv => adel ke (ch, kv.1)) h.keyExpires,
        chans := adel h.chans ch, cache := h.cache.filter (fun e => e.1.1 != ch) } : Hub) ch' key' =
        if ch' = ch then none else stateOf h ch' key' := by
      intro ch' key'
      simp only [stateOf, aget_adel]
      split <;> rfl
    refine ⟨?_, hi.qinv, fun it hit => hi.kinv it (f1 it hit), ?_⟩
    · intro ch' key' e hs hd
      rw [hst] at hs
      split at hs
      · cases hs
      · rename_i hne
        obtain ⟨h1, h2⟩ := hi.ainv ch' key' e hs hd
        exact ⟨by rw [← h1]; exact f2 ch' key' hne, h2⟩
    · intro ch'
      rw [hst]
      split
      · rfl
      · exact hi.einv ch'

theorem hinv_init : HInv Sys.init.hub Sys.init.pending := by
  refine ⟨?_, ⟨fun h => absurd rfl h, ?_⟩, ?_, ?_⟩
  · intro ch key e hs; simp [Sys.init, Hub.init, stateOf] at hs
  · intro it hit; simp [Sys.init, Hub.init] at hit
  · intro it hit; simp [Sys.init, Hub.init] at hit
  · intro ch; simp [Sys.init, Hub.init, stateOf]

theorem step_hinv {cfg : Nat → RawCfg} {s s' : Sys} {l : Label} (hi : HInv s.hub s.pending)
    (hs : s.step cfg l = some s') : HInv s'.hub s'.pending := by
  cases l with
  | pub ch key o => cases hs; exact publish_hinv hi
  | rm ch key o => cases hs; exact removeOp_hinv hi
  | clear ch => cases hs; exact clear_hinv hi
  | tick d => cases hs; exact hi
  | phase1 =>
    simp only [Sys.step] at hs
    split at hs
    · rename_i hpend
      split at hs
      · cases hs
      · rename_i h' evs hp
        cases hs
        rw [hpend] at hi
        exact (phase1_post hp hi).inv
    · cases hs
  | phase2 =>
    simp only [Sys.step] at hs
    split at hs
    · cases hs
    · rename_i ev rest hpend
      cases hs
      rw [hpend] at hi
      exact phase2_hinv hi

theorem run_hinv {cfg : Nat → RawCfg} : ∀ (ls : List Label) (s s' : Sys), HInv s.hub s.pending →
    Sys.run cfg s ls = some s' → HInv s'.hub s'.pending
  | [], _, _, hi, hr => by
    cases hr
    exact hi
  | l :: ls, s, s', hi, hr => by
    simp only [Sys.run] at hr
    split at hr
    · cases hr
    · rename_i s1 hs
      exact run_hinv ls s1 s' (step_hinv hi hs) hr

theorem phase2_state_some {h : Hub} {now1 now2 : Nat} {ev : ExpEvent} {ch : Nat} {key : Key} {e : Entry}
    (hs : stateOf (phase2 h now1 now2 ev).1 ch key = some e) :
    stateOf h ch key = some e ∧ ¬ ((ch, key) = (ev.ch, ev.key) ∧ e.expireAt = ev.expireAt) := by
  rcases phase2_cases h now1 now2 ev with ⟨c, c', b, hc, hs', heq⟩ | ⟨e0, hs0, hne, _, heq⟩ | ⟨hne, heq⟩
  · rw [heq, stateOf_upd hc rfl (fun k => by rw [hs']; exact aget_adel _ _ _)] at hs
    split at hs
    · cases hs
    · rename_i hck
      exact ⟨hs, fun h1 => hck h1.1⟩
  · rw [heq] at hs
    refine ⟨hs, ?_⟩
    rintro ⟨h1, h2⟩
    cases h1
    rw [show stateOf h ev.ch ev.key = some e from hs] at hs0
    cases hs0
    exact hne h2
  · rw [heq] at hs
    refine ⟨hs, ?_⟩
    rintro ⟨h1, h2⟩
    cases h1
    exact hne e hs h2

theorem phase2All_complete (now now1 now2 : Nat) (evs : List ExpEvent) : ∀ (h : Hub),
    (∀ ch key e, stateOf h ch key = some e → 0 < e.expireAt → e.expireAt ≤ now → EW evs ch key e.expireAt) →
    ∀ ch key e, stateOf (phase2All now1 now2 h evs).1 ch key = some e →
      ¬ (0 < e.expireAt ∧ e.expireAt ≤ now) := by
  induction evs with
  | nil =>
    intro h hdue ch key e hs hd
    obtain ⟨ev, hev, _⟩ := hdue ch key e hs hd.1 hd.2
    cases hev
  | cons ev evs ih =>
    intro h hdue ch key e hs
    simp only [phase2All] at hs
    refine ih (phase2 h now1 now2 ev).1 ?_ ch key e hs
    intro ch' key' e' hs' hd' hle'
    obtain ⟨h1, h2⟩ := phase2_state_some hs'
    obtain ⟨ev', hev', h3, h4, h5⟩ := hdue ch' key' e' h1 hd' hle'
    rcases List.mem_cons.mp hev' with h6 | h6
    · subst h6
      exact absurd ⟨by rw [h3, h4], h5.symm⟩ h2
    · exact ⟨ev', h6, h3, h4, h5⟩

/-- how many more loop iterations a heap item can cause: none if its priority is in the future (popping it
ends the loop); two if it will be re-queued with a recorded deadline that has elapsed too; one otherwise. -/
def wt (now : Nat) (ke : List (ChKey × Nat)) (it : ChKey × Nat) : Nat :=
  if it.2 > now then 0
  else match aget ke it.1 with
    | some stored => if it.2 < stored ∧ stored ≤ now then 2 else 1
    | none => 1

def wsum (now : Nat) (ke q : List (ChKey × Nat)) : Nat := (q.map (wt now ke)).sum

theorem wsum_push (now : Nat) (ke q : List (ChKey × Nat)) (it : ChKey × Nat) :
    wsum now ke (q ++ [it]) = wsum now ke q + wt now ke it := by
  simp [wsum]

theorem wsum_popMin (now : Nat) (ke : List (ChKey × Nat)) {q : List (ChKey × Nat)} {m : ChKey × Nat}
    {r : List (ChKey × Nat)} (hp : popMin q = some (m, r)) : wsum now ke q = wt now ke m + wsum now ke r :=
  ((popMin_some hp).1.map _).sum_nat

theorem wsum_mono (now : Nat) {ke ke' : List (ChKey × Nat)} (hw : ∀ it, wt now ke' it ≤ wt now ke it)
    (q : List (ChKey × Nat)) : wsum now ke' q ≤ wsum now ke q := by
  induction q with
  | nil => exact Nat.le_refl _
  | cons x t ih => simp only [wsum, List.map_cons, List.sum_cons] at ih ⊢; have := hw x; omega

theorem wt_le_two (now : Nat) (ke : List (ChKey × Nat)) (it : ChKey × Nat) : wt now ke it ≤ 2 := by
  unfold wt
  split
  · omega
  · split
    · split <;> omega
    · omega

theorem wt_pos {now : Nat} (ke : List (ChKey × Nat)) {it : ChKey × Nat} (h : it.2 ≤ now) :
    1 ≤ wt now ke it := by
  unfold wt
  rw [if_neg (Nat.not_lt.mpr h)]
  split
  · split <;> omega
  · omega

theorem wsum_le (now : Nat) (ke q : List (ChKey × Nat)) : wsum now ke q ≤ 2 * q.length := by
  induction q with
  | nil => exact Nat.le_refl _
  | cons x t ih =>
    simp only [wsum, List.map_cons, List.sum_cons, List.length_cons] at ih ⊢
    have := wt_le_two now ke x
    omega

/-- forgetting the deadline of `ck`, or recording one still ahead, makes no item heavier -/
theorem wt_le_of_upd {now : Nat} {ke ke' : List (ChKey × Nat)} {ck : ChKey}
    (hne : ∀ ck', ck' ≠ ck → aget ke' ck' = aget ke ck') (hck : ∀ v, aget ke' ck = some v → now < v)
    (it : ChKey × Nat) : wt now ke' it ≤ wt now ke it := by
  by_cases hk : it.1 = ck
  · by_cases hn : it.2 > now
    · simp only [wt, if_pos hn]
      exact Nat.le_refl _
    · refine Nat.le_trans (Nat.le_of_eq ?_) (wt_pos ke (Nat.not_lt.mp hn))
      unfold wt
      rw [if_neg hn, hk]
      split
      · rename_i v hv
        have := hck v hv
        rw [if_neg (by omega)]
      · rfl
  · unfold wt
    rw [hne _ hk]
    exact Nat.le_refl _

theorem LoopStep.wsum_lt {now : Nat} {h : Hub} {evs : List ExpEvent} {ch : Nat} {key : Key} {p : Nat}
    {rest : List (ChKey × Nat)} {h2 : Hub} {evs2 : List ExpEvent}
    (hs : LoopStep now h evs ch key p rest h2 evs2) (hp : popMin h.queue = some (((ch, key), p), rest))
    (hle : p ≤ now) : wsum now h2.keyExpires h2.queue < wsum now h.keyExpires h.queue := by
  rw [wsum_popMin now h.keyExpires hp]
  have h1 := wt_pos h.keyExpires (it := ((ch, key), p)) hle
  have hpn : ¬ p > now := Nat.not_lt.mpr hle
  cases hs with
  | dropped | due => exact Nat.lt_add_of_pos_left h1
  | @later stored hke hlt =>
    show wsum now h.keyExpires (rest ++ [((ch, key), stored)]) < _
    rw [wsum_push]
    by_cases hsn : stored ≤ now
    · have h2 : wt now h.keyExpires ((ch, key), p) = 2 := by simp [wt, hpn, hke, hlt, hsn]
      have h3 : wt now h.keyExpires ((ch, key), stored) = 1 := by simp [wt, Nat.not_lt.mpr hsn, hke]
      omega
    · have h3 : wt now h.keyExpires ((ch, key), stored) = 0 := by simp [wt, Nat.lt_of_not_le hsn]
      omega
  | gone =>
    show wsum now (adel h.keyExpires (ch, key)) rest < _
    have := wsum_mono now (wt_le_of_upd (fun _ hne => aget_adel_ne h.keyExpires (ch, key) _ hne)
      (fun v hv => by rw [aget_adel_same] at hv; cases hv)) rest
    omega
  | @refreshed e _ hfut =>
    show wsum now (aset h.keyExpires (ch, key) e.expireAt) (rest ++ [((ch, key), e.expireAt)]) < _
    rw [wsum_push]
    have h3 : wt now (aset h.keyExpires (ch, key) e.expireAt) ((ch, key), e.expireAt) = 0 := by simp [wt, hfut]
    have := wsum_mono now (wt_le_of_upd (fun _ hne => aget_aset_ne h.keyExpires (ch, key) _ e.expireAt hne)
      (fun v hv => by rw [aget_aset_same] at hv; cases hv; exact hfut)) rest
    omega

theorem phase1Loop_fuel (cfg : Nat → RawCfg) (now fuel : Nat) : ∀ (h : Hub) (evs : List ExpEvent),
    wsum now h.keyExpires h.queue < fuel → phase1Loop cfg now fuel h evs ≠ none := by
  induction fuel with
  | zero => intro h evs hlt; omega
  | succ n ih =>
    intro h evs hlt
    cases hp : popMin h.queue with
    | none => simp [phase1Loop, hp]
    | some mr =>
      obtain ⟨⟨⟨ch, key⟩, p⟩, rest⟩ := mr
      by_cases hpn : now < p
      · simp [phase1Loop, hp, hpn]
      · obtain ⟨h2, evs2, hs, heq⟩ := phase1Loop_step (cfg := cfg) (n := n) (evs := evs) hp hpn
        rw [heq]
        have := hs.wsum_lt hp (Nat.le_of_not_lt hpn)
        exact ih h2 evs2 (by omega)

end CentrifugeVerif.MapExpiry
