import CentrifugeVerif.Model.Delta
/-!
Helper lemmas for C14 (Props/C14.lean): one wire publication produced by `encodeAgainst` is
reconstructed by a client that holds the base; `recvAll` over appended lists; finite-map lemmas for
the per-key (map subscription) client.
-/
namespace CentrifugeVerif.Delta

variable {B : Type}

theorem recv_encodeAgainst (c : Codec B) (hc : c.RoundTrip) (he : c.EscOK)
    (held prev : Option B) (p : Pub B) (hbase : ∀ b, prev = some b → held = some b) :
    Client.recv c { held := held } (encodeAgainst c prev p) = some p.data := by
  cases prev with
  | none => simp [encodeAgainst, Client.recv, he p.data]
  | some b =>
    have hh : held = some b := hbase b rfl
    subst hh
    unfold encodeAgainst
    by_cases hlen : c.len (c.create b p.data) ≥ c.len p.data
    · simp [hlen, Client.recv, he p.data]
    · simp [hlen, Client.recv, he (c.create b p.data), hc b p.data]

theorem recv_encodeFull (c : Codec B) (he : c.EscOK) (held : Option B) (p : Pub B) :
    Client.recv c { held := held } (encodeFull c p) = some p.data := by
  simp [encodeFull, encodeAgainst, Client.recv, he p.data]

/-- the payload the client holds after reconstructing `ts` in order -/
def lastOr (h : Option B) : List B → Option B
  | [] => h
  | t :: ts => lastOr (some t) ts

theorem Client.recvAll_cons {c : Codec B} {cl : Client B} {w : WPub B} {ws : List (WPub B)} {t : B}
    {ts : List B} (h : cl.recv c w = some t) (hs : Client.recvAll c { held := some t } ws = some ts) :
    Client.recvAll c cl (w :: ws) = some (t :: ts) := by
  simp only [Client.recvAll, h, hs]

theorem MapClient.recvAll_cons {c : Codec B} {cl cl1 cl2 : MapClient B} {w : WPub B} {ws : List (WPub B)}
    {t : B} {ts : List B} (h : cl.recv c w = some (cl1, t)) (hs : MapClient.recvAll c cl1 ws = some (cl2, ts)) :
    MapClient.recvAll c cl (w :: ws) = some (cl2, t :: ts) := by
  simp only [MapClient.recvAll, h, hs]

theorem recvAll_append (c : Codec B) {w1 w2 : List (WPub B)} {held : Option B} {t1 t2 : List B}
    (h1 : Client.recvAll c { held := held } w1 = some t1)
    (h2 : Client.recvAll c { held := lastOr held t1 } w2 = some t2) :
    Client.recvAll c { held := held } (w1 ++ w2) = some (t1 ++ t2) := by
  induction w1 generalizing held t1 with
  | nil => cases h1; exact h2
  | cons w ws ih =>
    cases hr : Client.recv c { held := held } w with
    | none => simp only [Client.recvAll, hr] at h1; cases h1
    | some t =>
      cases hrest : Client.recvAll c { held := some t } ws with
      | none => simp only [Client.recvAll, hr, hrest] at h1; cases h1
      | some ts =>
        simp only [Client.recvAll, hr, hrest, Option.some.injEq] at h1
        subst h1
        exact Client.recvAll_cons hr (ih hrest h2)

theorem lookup_erase_same (m : List (Nat × B)) (k : Nat) : lookup (erase m k) k = none := by
  induction m with
  | nil => rfl
  | cons e rest ih =>
    obtain ⟨a, b⟩ := e
    by_cases hak : a = k <;> simp [erase, hak, lookup, ih]

theorem lookup_erase_ne (m : List (Nat × B)) (k k' : Nat) (h : k' ≠ k) : lookup (erase m k) k' = lookup m k' := by
  induction m with
  | nil => rfl
  | cons e rest ih =>
    obtain ⟨a, b⟩ := e
    by_cases hak : a = k
    · subst hak
      simp [erase, lookup, Ne.symm h, ih]
    · simp [erase, lookup, hak, ih]

theorem lookup_insert_same (m : List (Nat × B)) (k : Nat) (v : B) : lookup (insert m k v) k = some v := by
  simp [insert, lookup]

theorem lookup_insert_ne (m : List (Nat × B)) (k k' : Nat) (v : B) (h : k' ≠ k) :
    lookup (insert m k v) k' = lookup m k' := by
  have : ¬ k = k' := fun h' => h h'.symm
  simp [insert, lookup, this, lookup_erase_ne m k k' h]

end CentrifugeVerif.Delta

namespace CentrifugeVerif.C14
open CentrifugeVerif.Delta

variable {B : Type}

/-- server-side `prevByKey` is contained in what the client holds -/
def Sub (srv cl : List (Nat × B)) : Prop := ∀ k b, lookup srv k = some b → lookup cl k = some b

theorem sub_insert (srv cl : List (Nat × B)) (k : Nat) (v : B) (h : Sub srv cl) :
    Sub (insert srv k v) (insert cl k v) := by
  intro k' b hb
  by_cases hk : k' = k
  · subst hk
    rw [lookup_insert_same] at hb ⊢
    exact hb
  · rw [lookup_insert_ne _ _ _ _ hk] at hb ⊢
    exact h k' b hb

theorem sub_erase (srv cl : List (Nat × B)) (k : Nat) (h : Sub srv cl) : Sub (erase srv k) (erase cl k) := by
  intro k' b hb
  by_cases hk : k' = k
  · subst hk
    rw [lookup_erase_same] at hb
    cases hb
  · rw [lookup_erase_ne _ _ _ hk] at hb ⊢
    exact h k' b hb

theorem mapRecv_encodeAgainst (c : Codec B) (hc : c.RoundTrip) (he : c.EscOK)
    (cl : MapClient B) (prev : Option B) (p : Pub B) (hrm : p.removed = false)
    (hbase : ∀ b, prev = some b → lookup cl.vals p.key = some b) :
    MapClient.recv c cl (encodeAgainst c prev p) = some ({ vals := insert cl.vals p.key p.data }, p.data) := by
  cases prev with
  | none => simp [encodeAgainst, MapClient.recv, he p.data, hrm]
  | some b =>
    have hh := hbase b rfl
    unfold encodeAgainst
    by_cases hlen : c.len (c.create b p.data) ≥ c.len p.data
    · simp [hlen, MapClient.recv, he p.data, hrm]
    · simp [hlen, MapClient.recv, he (c.create b p.data), hc b p.data, hrm, hh]

theorem mapRecv_removed (c : Codec B) (he : c.EscOK) (cl : MapClient B) (w : WPub B) (d : B)
    (hrm : w.removed = true) (hd : w.data = c.escape d) :
    MapClient.recv c cl w = some ({ vals := erase cl.vals w.key }, d) := by
  unfold MapClient.recv
  rw [if_pos hrm, hd, he]

end CentrifugeVerif.C14
