import CentrifugeVerif.Model.HTTPStream
/-!
LF-terminated records and varint length prefixes.
-/
namespace CentrifugeVerif.C32
open CentrifugeVerif.EventSource CentrifugeVerif.HTTPStream

/-- no message contains a raw LF byte -/
def NoRawLF (msgs : List Bytes) : Prop := ∀ m ∈ msgs, ∀ b ∈ m, b ≠ 10

theorem splitAcc_plain (m rest acc : Bytes) (hm : ∀ b ∈ m, b ≠ 10) :
    Lines.splitAcc (m ++ 10 :: rest) acc = (acc.reverse ++ m) :: Lines.splitAcc rest [] := by
  induction m generalizing acc with
  | nil => simp [Lines.splitAcc]
  | cons x xs ih =>
    have hx : x ≠ 10 := hm x (by simp)
    simp only [List.cons_append, Lines.splitAcc]
    simp only [beq_iff_eq, hx, if_false]
    rw [ih _ (fun b hb => hm b (by simp [hb]))]
    simp

theorem readUvarint_uvarintAux (f n mult acc : Nat) (rest : Bytes) (h : n ≤ f) :
    Varint.readUvarint (uvarintAux f n ++ rest) mult acc = some (acc + n * mult, rest) := by
  induction f generalizing n mult acc with
  | zero =>
    obtain rfl : n = 0 := by omega
    simp [uvarintAux, Varint.readUvarint]
  | succ f ih =>
    unfold uvarintAux
    by_cases hn : n < 128
    · have h256 : n % 256 = n := Nat.mod_eq_of_lt (by omega)
      simp [hn, Varint.readUvarint, h256]
    · have h256 : (n % 128 + 128) % 256 = n % 128 + 128 := Nat.mod_eq_of_lt (by omega)
      have hlt : ¬ (n % 128 + 128 < 128) := by omega
      simp only [hn, if_false, List.cons_append, Varint.readUvarint, UInt8.toNat_ofNat', h256, hlt]
      rw [ih (n / 128) (mult * 128) _ (by omega)]
      congr 2
      -- `n % 128 + 128 * (n / 128) = n`
      rw [Nat.add_sub_cancel, Nat.add_assoc, Nat.mul_comm mult, ← Nat.mul_assoc, ← Nat.add_mul,
        Nat.mul_comm _ 128, Nat.mod_add_div]

theorem readUvarint_uvarint (n : Nat) (rest : Bytes) :
    Varint.readUvarint (uvarint n ++ rest) 1 0 = some (n, rest) := by
  unfold uvarint
  rw [readUvarint_uvarintAux n n 1 0 rest (Nat.le_refl n)]
  simp

theorem uvarintAux_ne_nil (f n : Nat) : uvarintAux f n ≠ [] := by
  cases f <;> simp [uvarintAux] <;> split <;> simp

theorem decodeFramesAux_frame (f : Nat) (m rest : Bytes) :
    Varint.decodeFramesAux (f + 1) (uvarint m.length ++ (m ++ rest)) =
      (Varint.decodeFramesAux f rest).map (m :: ·) := by
  have hr := readUvarint_uvarint m.length (m ++ rest)
  cases hu : uvarint m.length with
  | nil => exact absurd hu (uvarintAux_ne_nil _ _)
  | cons b bs =>
    rw [hu] at hr
    rw [List.cons_append, Varint.decodeFramesAux, ← List.cons_append, hr]
    simp only [List.length_append, Nat.not_lt.mpr (Nat.le_add_right _ _), if_false, List.drop_left',
      List.take_left']

theorem decodeFramesAux_body (msgs : List Bytes) : ∀ f, (protoBody msgs).length ≤ f →
    Varint.decodeFramesAux f (protoBody msgs) = some msgs := by
  induction msgs with
  | nil => intro f _; cases f <;> rfl
  | cons m ms ih =>
    intro f hf
    have hbody : protoBody (m :: ms) = uvarint m.length ++ (m ++ protoBody ms) := by
      simp [protoBody]
    rw [hbody] at hf ⊢
    have hpos := List.length_pos_iff.mpr (uvarintAux_ne_nil m.length m.length)
    simp only [List.length_append, uvarint] at hf
    obtain ⟨f, rfl⟩ : ∃ f', f = f' + 1 := ⟨f - 1, by omega⟩
    rw [decodeFramesAux_frame, ih f (by omega)]
    rfl

end CentrifugeVerif.C32
