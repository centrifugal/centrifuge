import CentrifugeVerif.Model.WS.Reader
import CentrifugeVerif.Spec.WSSpec
/-! Invariants of the reader model: which frames are written back on which error, no panics,
fuel suffices. -/
namespace CentrifugeVerif.WS

/-! The message under reassembly (`none` = between messages): payload so far; type and compression
flag, which the first frame sets. -/
def accOf (frag : Option Frag) : Bytes := match frag with | some f => f.acc | none => []
def typOf (frag : Option Frag) (op : Nat) : Nat := match frag with | some f => f.typ | none => op
def compOf (frag : Option Frag) (rsv1 : Bool) : Bool := match frag with | some f => f.compressed | none => rsv1

namespace Reader

/-- the last frame written is a Close frame whose body starts with the 2-byte code -/
def LastClose (code : Nat) (st : RState) : Prop :=
  ∃ pre payload, st.written = pre ++ [⟨opClose, payload⟩] ∧ payload.take 2 = toBE 2 code

theorem writeControl_close (st : RState) (data : Bytes) (h : st.closeSent = false)
    (hl : data.length ≤ 125) :
    (writeControl st opClose data).1 =
      { st with written := st.written ++ [⟨opClose, data⟩], closeSent := true } := by
  unfold writeControl
  have : ¬ data.length > 125 := by omega
  simp [this, h, opClose]

theorem writeControl_lastClose (st : RState) (code : Nat) (text : Bytes) (h : st.closeSent = false)
    (hc : code ≠ 1005) (hl : text.length ≤ 123) :
    LastClose code (writeControl st opClose (formatClose code text)).1 := by
  have hf : formatClose code text = toBE 2 code ++ text := by simp [formatClose, hc]
  rw [writeControl_close st _ h (by simp [hf, toBE]; omega)]
  exact ⟨st.written, _, rfl, by simp [hf, toBE]⟩

theorem writeControl_pong (st : RState) (data : Bytes) :
    ∃ w, (writeControl st opPong data).1 = { st with written := w } := by
  unfold writeControl
  split
  · exact ⟨_, rfl⟩
  · split
    · exact ⟨_, rfl⟩
    · exact ⟨st.written ++ [⟨opPong, data⟩], by simp [opPong, opClose]⟩

/-- carried from the start `st0` of `advanceFrame` through its steps: no close frame written, no
result yet, the two header bytes consumed -/
def Carry (st0 st : RState) : Prop :=
  st.closeSent = false ∧ st.result = st0.result ∧ st.input.length + 2 ≤ st0.input.length

theorem Carry.step {st0 st st' : RState} (h : Carry st0 st) (hc : st'.closeSent = st.closeSent)
    (hr : st'.result = st.result) (hl : st'.input.length ≤ st.input.length) : Carry st0 st' :=
  ⟨hc.trans h.1, hr.trans h.2.1, Nat.le_trans (Nat.add_le_add_right hl 2) h.2.2⟩

/-- what one `advanceFrame` call guarantees when no close frame was written before -/
def AdvInv (st : RState) : Adv → Prop
  | .ok _ st' => Carry st st'
  | .err (.proto _) st' => LastClose 1002 st'
  | .err .readLimit st' => LastClose 1009 st' ∨ Dev.len64Msb ∈ st'.devs
  | .err (.panic _) _ => False
  | .err .fuel _ => False
  | .err .unexpectedData _ => False
  | .err _ _ => True

theorem handleProtocolError_inv (st0 st : RState) (msg : String) (h : st.closeSent = false) :
    AdvInv st0 (handleProtocolError st msg) := by
  have hl : ((formatClose 1002 msg.toUTF8.toList).take 125).length ≤ 125 := by
    simp [List.length_take]; omega
  simp only [handleProtocolError, AdvInv]
  rw [writeControl_close st _ h hl]
  exact ⟨st.written, _, rfl, by simp [formatClose, List.take_take, toBE]⟩

theorem dataFrame_eq (cfg : Cfg) (op : Nat) (st : RState) :
    dataFrame cfg op st =
      if Spec.overLimit cfg (st.readLength + st.readRemaining) then
        .err .readLimit (writeControl { st with readLength := st.readLength + st.readRemaining }
          opClose (formatClose 1009 [])).1
      else .ok op { st with readLength := st.readLength + st.readRemaining } := by
  unfold dataFrame Spec.overLimit
  dsimp only
  by_cases h63 : st.readLength + st.readRemaining ≥ two63
  · simp only [h63, decide_true, Bool.or_true, if_true]
  · simp only [h63, decide_false, Bool.or_false, if_false]

theorem dataFrame_inv (cfg : Cfg) (ft : Nat) {st0 st : RState} (h : Carry st0 st) :
    AdvInv st0 (dataFrame cfg ft st) := by
  rw [dataFrame_eq]
  split
  · exact Or.inl (writeControl_lastClose _ _ _ h.1 (by decide) (by decide))
  · exact h.step rfl rfl (Nat.le_refl _)

theorem readN_some {st : RState} {n : Nat} {p : Bytes} {st' : RState} (h : readN st n = some (p, st')) :
    st' = { st with input := st.input.drop n } ∧ p = st.input.take n ∧ n ≤ st.input.length := by
  unfold readN at h
  split at h
  · cases h
  · simp only [Option.some.injEq, Prod.mk.injEq] at h
    exact ⟨h.2.symm, h.1.symm, by omega⟩

theorem processControl_inv (ft : Nat) (payload : Bytes) {st0 st : RState} (h : Carry st0 st) :
    AdvInv st0 (processControl ft payload st) := by
  unfold processControl
  split
  · exact h.step rfl rfl (Nat.le_refl _)
  · split
    · obtain ⟨w, hw⟩ := writeControl_pong { st with events := st.events ++ [Event.ping payload] } payload
      simp only [AdvInv, hw]
      exact h.step rfl rfl (Nat.le_refl _)
    · match payload with
      | [] => trivial
      | [_] => exact handleProtocolError_inv _ _ _ h.1
      | a :: b :: text =>
        dsimp only
        split
        · exact handleProtocolError_inv _ _ _ h.1
        · split
          · exact handleProtocolError_inv _ _ _ h.1
          · trivial

theorem controlFrame_eq (cfg : Cfg) (op : Nat) (st : RState) :
    controlFrame cfg op st =
      if st.input.length < st.readRemaining then .err .eof { st with input := [], readRemaining := 0 }
      else processControl op
        (if cfg.server then xorMask st.maskKey 0 (st.input.take st.readRemaining)
         else st.input.take st.readRemaining)
        { st with input := st.input.drop st.readRemaining, readRemaining := 0 } := by
  unfold controlFrame readN
  by_cases h0 : st.readRemaining > 0
  · by_cases hl : st.input.length < st.readRemaining <;> simp [h0, hl]
  · have hz : st.readRemaining = 0 := by omega
    simp only [hz, Nat.lt_irrefl, if_false, Nat.not_lt_zero, List.take_zero, List.drop_zero, xorMask,
      ite_self]
    cases st
    cases hz
    rfl

theorem controlFrame_inv (cfg : Cfg) (ft : Nat) {st0 st : RState} (h : Carry st0 st) :
    AdvInv st0 (controlFrame cfg ft st) := by
  rw [controlFrame_eq]
  split
  · trivial
  · exact processControl_inv ft _ (h.step rfl rfl (by simp))

theorem readLen_inv {st0 st : RState} (h : Carry st0 st) :
    match readLen st with
    | .ok st' => Carry st0 st'
    | .error (e, st') => e = .eof ∨ (e = .readLimit ∧ Dev.len64Msb ∈ st'.devs) := by
  unfold readLen
  by_cases h6 : (st.readRemaining == 126) = true
  · rw [if_pos h6]
    match hrd : readN st 2 with
    | none => exact Or.inl rfl
    | some (p, st1) =>
      rw [(readN_some hrd).1]
      exact h.step rfl rfl (by simp)
  · rw [if_neg h6]
    by_cases h7 : (st.readRemaining == 127) = true
    · rw [if_pos h7]
      match hrd : readN st 8 with
      | none => exact Or.inl rfl
      | some (p, st1) =>
        rw [(readN_some hrd).1]
        dsimp only
        by_cases hb : beVal p ≥ two63
        · rw [if_pos hb]
          exact Or.inr ⟨rfl, by simp⟩
        · rw [if_neg hb]
          exact h.step rfl rfl (by simp)
    · rw [if_neg h7]
      exact h

theorem readMask_some {m : Bool} {st0 st st' : RState} (h : Carry st0 st) (hm : readMask m st = some st') :
    Carry st0 st' := by
  unfold readMask at hm
  split at hm
  · split at hm
    · rename_i a b c d st1 hrd
      simp only [Option.some.injEq] at hm
      rw [← hm, (readN_some hrd).1]
      exact h.step rfl rfl (by simp)
    · cases hm
  · simp only [Option.some.injEq] at hm
    rw [← hm]; exact h

theorem frameBody_inv (cfg : Cfg) (hd : Hdr) {st0 st : RState} (h : Carry st0 st) :
    AdvInv st0 (frameBody cfg hd st) := by
  unfold frameBody
  have hl := readLen_inv h
  split
  · rename_i e st1 heq
    rw [heq] at hl
    rcases hl with rfl | ⟨rfl, hm⟩
    · trivial
    · exact Or.inr hm
  · rename_i st1 heq
    rw [heq] at hl
    split
    · trivial
    · rename_i st2 hmk
      have h2 := readMask_some hl hmk
      split
      · exact dataFrame_inv cfg _ h2
      · exact controlFrame_inv cfg _ h2

theorem advanceFrame_inv (cfg : Cfg) (st : RState) (h : st.closeSent = false) :
    AdvInv st (advanceFrame cfg st) := by
  unfold advanceFrame
  dsimp only
  split
  · trivial
  · rename_i st1 hsk
    have h1 : st1.closeSent = false ∧ st1.result = st.result ∧ st1.input.length ≤ st.input.length := by
      split at hsk
      · split at hsk
        · cases hsk
        · simp only [Option.some.injEq] at hsk
          rw [← hsk]; exact ⟨h, rfl, by simp⟩
      · simp only [Option.some.injEq] at hsk
        rw [← hsk]; exact ⟨h, rfl, Nat.le_refl _⟩
    split
    · trivial
    · rename_i p st2 hrd
      obtain ⟨hst, hp, hlen⟩ := readN_some hrd
      have h2 : Carry st st2 := by
        rw [hst]; exact ⟨h1.1, h1.2.1, by simp only [List.length_drop]; omega⟩
      split
      · split
        · exact handleProtocolError_inv _ _ _ h2.1
        · exact frameBody_inv cfg _ (h2.step rfl rfl (Nat.le_refl _))
      · -- p has exactly two bytes
        rename_i hne
        have h2 : p.length = 2 := by rw [hp]; simp; omega
        match p, h2 with
        | [a, b], _ => exact absurd rfl (hne a b)

def RunGood (r : RState) : Prop :=
  (∀ msg, r.result = some (.proto msg) → LastClose 1002 r) ∧
  (r.result = some .readLimit → LastClose 1009 r ∨ Dev.len64Msb ∈ r.devs) ∧
  (∀ w, r.result ≠ some (.panic w)) ∧ r.result ≠ none ∧ r.result ≠ some .fuel

theorem runGood_finish_of_adv {st0 : RState} {e : RErr} {st' : RState}
    (h : AdvInv st0 (.err e st')) : RunGood (finish e st') := by
  refine ⟨fun msg hm => ?_, fun hr => ?_, fun w hw => ?_, fun hn => ?_, fun hf => ?_⟩
  · cases hm; exact h
  · cases hr; exact h
  · cases hw; exact h.elim
  · cases hn
  · cases hf; exact h.elim

theorem readPayload_some {cfg : Cfg} {st st2 : RState} {chunk : Bytes}
    (h : readPayload cfg st = some (chunk, st2)) :
    st2.closeSent = st.closeSent ∧ st2.result = st.result ∧ st2.input.length ≤ st.input.length := by
  unfold readPayload at h
  split at h
  · cases h
  · simp only [Option.some.injEq, Prod.mk.injEq] at h
    rw [← h.2]
    exact ⟨rfl, rfl, by simp⟩

theorem deliver_inv {cfg : Cfg} {typ : Nat} {dec : Bool} {acc : Bytes} {st : RState}
    (hc : st.closeSent = false) :
    (∀ r, deliver cfg typ dec acc st = .error r → RunGood r) ∧
    (∀ st3, deliver cfg typ dec acc st = .ok st3 → ∃ evs, st3 = { st with events := evs }) := by
  unfold deliver
  split
  · split
    · exact ⟨fun r h => (by cases h; exact runGood_finish_of_adv (st0 := st) trivial),
        fun _ h => (by cases h)⟩
    · split
      · have h1009 := writeControl_lastClose st 1009 tooBigReason hc (by decide) (by decide)
        exact ⟨fun r h => (by cases h; exact runGood_finish_of_adv (st0 := st) (Or.inl h1009)),
          fun _ h => (by cases h)⟩
      · exact ⟨fun _ h => (by cases h), fun _ h => (by cases h; exact ⟨_, rfl⟩)⟩
  · exact ⟨fun _ h => (by cases h), fun _ h => (by cases h; exact ⟨_, rfl⟩)⟩

/-- one unit of fuel per two bytes of input suffices: the loop never ends for lack of fuel -/
theorem run_good (cfg : Cfg) : ∀ (fuel : Nat) (frag : Option Frag) (st : RState),
    st.closeSent = false → st.result = none → st.input.length < 2 * fuel →
    RunGood (run cfg fuel frag st) := by
  intro fuel
  induction fuel with
  | zero => intro frag st _ _ h; omega
  | succ n ih =>
    intro frag st hc hr hl
    unfold run
    have hinv := advanceFrame_inv cfg st hc
    split
    · rename_i e st' heq
      rw [heq] at hinv
      exact runGood_finish_of_adv hinv
    · rename_i ft st' heq
      rw [heq] at hinv
      obtain ⟨hc', hr', hl'⟩ := hinv
      rw [hr] at hr'
      split
      · exact ih _ _ hc' hr' (by omega)
      · split
        · exact ih _ _ hc' hr' (by omega)
        · split
          · simp [RunGood, finish]
          · dsimp only
            split
            · simp [RunGood, finish]
            · rename_i chunk st2 hpay
              obtain ⟨h2c, h2r, h2l⟩ := readPayload_some hpay
              split
              · exact ih _ _ (h2c.trans hc') (h2r.trans hr') (by omega)
              · split
                · rename_i r hdel
                  exact (deliver_inv (st := { st2 with readLength := 0 }) (h2c.trans hc')).1 r hdel
                · rename_i st3 hdel
                  obtain ⟨evs, rfl⟩ := (deliver_inv (st := { st2 with readLength := 0 }) (h2c.trans hc')).2 st3 hdel
                  exact ih _ _ (h2c.trans hc') (h2r.trans hr') (by dsimp only; omega)

theorem runReader_good (cfg : Cfg) (input : Bytes) : RunGood (runReader cfg input) :=
  run_good cfg _ none { input := input } rfl rfl (by simp only [fuelFor]; omega)

theorem run_err {cfg : Cfg} {n : Nat} {frag : Option Frag} {st st' : RState} {e : RErr}
    (h : advanceFrame cfg st = .err e st') : run cfg (n + 1) frag st = finish e st' := by
  rw [run, h]

theorem run_ctl {cfg : Cfg} {n : Nat} {frag : Option Frag} {st st' : RState} {ft : Nat}
    (h : advanceFrame cfg st = .ok ft st') (hc : (isDataOp ft || ft == 0) = false) :
    run cfg (n + 1) frag st = run cfg n frag st' := by
  rw [run, h]
  simp only [hc, Bool.not_false, if_true]

theorem run_data {cfg : Cfg} {n : Nat} {frag : Option Frag} {st st' : RState} {ft : Nat}
    (h : advanceFrame cfg st = .ok ft st') (hd : (isDataOp ft || ft == 0) = true)
    (hc : isDataOp ft = !frag.isSome) :
    run cfg (n + 1) frag st =
      match readPayload cfg st' with
      | none => finish .eof { st' with input := [] }
      | some (chunk, st2) =>
        if !st2.readFinal then
          run cfg n (some ⟨typOf frag ft, compOf frag st'.readDecompress, accOf frag ++ chunk⟩) st2
        else
          match deliver cfg (typOf frag ft) (compOf frag st'.readDecompress) (accOf frag ++ chunk)
              { st2 with readLength := 0 } with
          | .error r => r
          | .ok st3 => run cfg n none st3 := by
  rw [run, h]
  cases frag <;> simp only [Option.isSome, Bool.not_true, Bool.not_false] at hc <;> rw [hc] at hd <;>
    simp only [hd, hc, Option.isNone, Option.isSome, Bool.not_true, Bool.not_false, Bool.and_false,
      Bool.false_and, Bool.false_eq_true, if_false] <;> rfl

end Reader

end CentrifugeVerif.WS
