import CentrifugeVerif.Model.WS.Writer
import CentrifugeVerif.Spec.WSSpec
/-! Frame header: what `flushFrame` encodes is what the receiver parses. -/
namespace CentrifugeVerif.WS
open Writer

theorem foldl_toBE (w n a : Nat) :
    (toBE w n).foldl (fun acc b => acc * 256 + b.toNat) a = a * 256 ^ w + n % 256 ^ w := by
  induction w generalizing a with
  | zero => simp [toBE, Nat.mod_one]
  | succ w ih =>
    rw [toBE, List.foldl_cons, ih, UInt8.toNat_ofNat', @Nat.mod_pow_succ n 256 w, Nat.pow_succ 256 w]
    generalize 256 ^ w = p
    generalize n / p % 2 ^ 8 = c
    rw [Nat.add_mul, Nat.mul_assoc, Nat.mul_comm 256 p, Nat.mul_comm p c]
    omega

theorem beVal_toBE (w n : Nat) : beVal (toBE w n) = n % 256 ^ w := by
  rw [beVal, foldl_toBE, Nat.zero_mul, Nat.zero_add]

theorem toBE_length (w n : Nat) : (toBE w n).length = w := by
  induction w with
  | zero => rfl
  | succ w ih => simp [toBE, ih]

/-- bits of the first header byte, for all 64 combinations -/
theorem parse_firstByte : ∀ (final rsv1 : Bool) (op : Fin 16) (b1 : UInt8),
    (parseHdr (firstByte final rsv1 op.val) b1).fin = final ∧
    (parseHdr (firstByte final rsv1 op.val) b1).rsv1 = rsv1 ∧
    (parseHdr (firstByte final rsv1 op.val) b1).rsv2 = false ∧
    (parseHdr (firstByte final rsv1 op.val) b1).rsv3 = false ∧
    (parseHdr (firstByte final rsv1 op.val) b1).opcode = op.val := by
  intro final rsv1 op b1
  simp only [parseHdr]
  revert final rsv1 op
  decide

/-- second header byte for the 7-bit length form -/
theorem parse_len7 : ∀ (masked : Bool) (len : Fin 128) (b0 : UInt8),
    (parseHdr b0 ((if masked then 0x80 else 0) ||| UInt8.ofNat len.val)).masked = masked ∧
    (parseHdr b0 ((if masked then 0x80 else 0) ||| UInt8.ofNat len.val)).len7 = len.val := by
  intro masked len b0
  simp only [parseHdr]
  revert masked len
  decide

theorem encHeader_parse (final rsv1 masked : Bool) (op : Nat) (hop : op < 16) (len : Nat)
    (hlen : len < 2 ^ 63) (rest : Bytes) :
    ∃ b0 b1 ext, encHeader (firstByte final rsv1 op) masked len = b0 :: b1 :: ext ∧
      (parseHdr b0 b1).fin = final ∧ (parseHdr b0 b1).rsv1 = rsv1 ∧ (parseHdr b0 b1).rsv2 = false ∧
      (parseHdr b0 b1).rsv3 = false ∧ (parseHdr b0 b1).opcode = op ∧ (parseHdr b0 b1).masked = masked ∧
      Spec.extLen (parseHdr b0 b1).len7 (ext ++ rest) = some (len, rest) := by
  have fields : ∀ (l7 : Nat) (_ : l7 < 128) (ext : Bytes),
      Spec.extLen l7 (ext ++ rest) = some (len, rest) →
      ∃ b0 b1 ext', firstByte final rsv1 op :: ((if masked then 0x80 else 0) ||| UInt8.ofNat l7) :: ext
          = b0 :: b1 :: ext' ∧
        (parseHdr b0 b1).fin = final ∧ (parseHdr b0 b1).rsv1 = rsv1 ∧ (parseHdr b0 b1).rsv2 = false ∧
        (parseHdr b0 b1).rsv3 = false ∧ (parseHdr b0 b1).opcode = op ∧ (parseHdr b0 b1).masked = masked ∧
        Spec.extLen (parseHdr b0 b1).len7 (ext' ++ rest) = some (len, rest) := by
    intro l7 hl ext hext
    obtain ⟨h1, h2, h3, h4, h5⟩ := parse_firstByte final rsv1 ⟨op, hop⟩
      ((if masked then 0x80 else 0) ||| UInt8.ofNat l7)
    obtain ⟨h6, h7⟩ := parse_len7 masked ⟨l7, hl⟩ (firstByte final rsv1 op)
    exact ⟨_, _, ext, rfl, h1, h2, h3, h4, h5, h6, by rw [h7]; exact hext⟩
  simp only [encHeader]
  split
  · exact fields 127 (by omega) (toBE 8 len) (by
      simp [Spec.extLen, toBE_length, beVal_toBE, Nat.mod_eq_of_lt (show len < 256 ^ 8 by omega)])
  · split
    · exact fields 126 (by omega) (toBE 2 len) (by
        simp [Spec.extLen, toBE_length, beVal_toBE, Nat.mod_eq_of_lt (show len < 256 ^ 2 by omega)])
    · exact fields len (by omega) [] (by simp [Spec.extLen, show len < 126 by omega])

end CentrifugeVerif.WS
