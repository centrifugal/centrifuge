import CentrifugeVerif.Proofs.HistoryHub
/-!
`MemoryBroker`-level lemmas over `Model/HistoryHub.lean`: case analysis of `Publish`, the result
cache, invariants along arbitrary runs.
-/
namespace CentrifugeVerif.HistoryHub
open CentrifugeVerif.MemStream CentrifugeVerif.AbsStream

/-- the idempotency lookup at the start of `Publish` -/
def Broker.idemHit (b : Broker) (ch : String) (o : PubOpts) (now : Nat) : Option Pos :=
  if o.idemKey ≠ "" then b.cacheGet ch o.idemKey now else none

/-- `HistorySize > 0 && HistoryTTL > 0` -/
def PubOpts.history (o : PubOpts) : Prop := o.size > 0 ∧ o.ttl > 0

instance (o : PubOpts) : Decidable o.history := by unfold PubOpts.history; exact inferInstance

/-- the broker after a keyed, stored publish saved its result -/
def Broker.saved (b : Broker) (ch : String) (o : PubOpts) (p : Pos) (now : Nat) : Broker :=
  if o.idemKey ≠ "" then b.cacheSave ch o.idemKey p (idemSeconds o) now else b

@[simp] theorem saved_hub (b : Broker) (ch : String) (o : PubOpts) (p : Pos) (now : Nat) :
    (b.saved ch o p now).hub = b.hub := by
  unfold Broker.saved; split <;> rfl

theorem saved_cache (b : Broker) (ch : String) (o : PubOpts) (p : Pos) (now : Nat) (k : String) :
    (b.saved ch o p now).cache k =
      if o.idemKey ≠ "" ∧ k = cacheKey ch o.idemKey then some (p, now + idemSeconds o * 1000)
      else b.cache k := by
  by_cases hk : o.idemKey = "" <;> simp [Broker.saved, Broker.cacheSave, hk]

theorem cacheGet_some_iff (b : Broker) (ch key : String) (now : Nat) (p : Pos) :
    b.cacheGet ch key now = some p ↔ ∃ e, b.cache (cacheKey ch key) = some (p, e) ∧ now < e := by
  unfold Broker.cacheGet
  cases hc : b.cache (cacheKey ch key) with
  | none => simp
  | some pe =>
    obtain ⟨q, e⟩ := pe
    by_cases hle : e ≤ now
    · simp only [if_pos hle, Option.some.injEq, Prod.mk.injEq]
      exact ⟨nofun, fun ⟨e', ⟨_, he⟩, hl⟩ => by omega⟩
    · simp only [if_neg hle, Option.some.injEq, Prod.mk.injEq]
      exact ⟨fun h => ⟨e, ⟨h, rfl⟩, by omega⟩, fun ⟨_, ⟨h, _⟩, _⟩ => h⟩

theorem idemHit_eq_some_iff (b : Broker) (ch : String) (o : PubOpts) (now : Nat) (p : Pos) :
    b.idemHit ch o now = some p ↔
      o.idemKey ≠ "" ∧ ∃ e, b.cache (cacheKey ch o.idemKey) = some (p, e) ∧ now < e := by
  unfold Broker.idemHit
  split
  · next hk => rw [cacheGet_some_iff]; exact ⟨fun h => ⟨hk, h⟩, fun h => h.2⟩
  · next hk => exact ⟨nofun, fun h => absurd h.1 hk⟩

theorem sweepCache_unobservable (b : Broker) (t : Nat) (ch key : String) (now : Nat) (h : t ≤ now) :
    (b.sweepCache t).cacheGet ch key now = b.cacheGet ch key now := by
  unfold Broker.cacheGet Broker.sweepCache
  simp only
  cases hc : b.cache (cacheKey ch key) with
  | none => rfl
  | some pe =>
    obtain ⟨p, e⟩ := pe
    simp only
    by_cases hle : e ≤ t
    · have : e ≤ now := by omega
      simp [hle, this]
    · simp [hle]

theorem publish_hit (b : Broker) (ch data : String) (o : PubOpts) (now : Nat) (p : Pos)
    (h : b.idemHit ch o now = some p) : b.publish ch data o now = (b, ⟨p, .idempotency, none⟩) := by
  unfold Broker.idemHit at h
  simp only [Broker.publish, h]

/-- the four outcomes of `Publish` (a version skip leaves the hub, hence the broker, unchanged) -/
inductive PublishCase (b : Broker) (ch data : String) (o : PubOpts) (now : Nat) : Prop
  | hit (p : Pos) (h : b.idemHit ch o now = some p)
      (he : b.publish ch data o now = (b, ⟨p, .idempotency, none⟩))
  | skip (hm : b.idemHit ch o now = none) (hh : o.history) (s : MStream Pub)
      (hst : (b.hub.chans ch).stream = some s) (hv : VersionSkip o s)
      (he : b.publish ch data o now = (b, ⟨⟨s.top, s.epoch⟩, .version, none⟩))
  | store (hm : b.idemHit ch o now = none) (hh : o.history) (r : Hub × AddOut)
      (hr : r = b.hub.add ch ⟨data, o.version⟩ o (now / 1000)) (hs : r.2.skip = false)
      (he : b.publish ch data o now =
        (({ b with hub := r.1 } : Broker).saved ch o r.2.pos now,
          ⟨r.2.pos, .none, some ⟨ch, ⟨r.2.pos.offset, ⟨data, o.version⟩⟩, r.2.pos, o.useDelta, r.2.prev⟩⟩))
  | nohistory (hm : b.idemHit ch o now = none) (hh : ¬ o.history)
      (he : b.publish ch data o now =
        (b.saved ch o {} now, ⟨{}, .none, some ⟨ch, ⟨0, ⟨data, o.version⟩⟩, {}, o.useDelta, none⟩⟩))

theorem publish_cases (b : Broker) (ch data : String) (o : PubOpts) (now : Nat) :
    PublishCase b ch data o now := by
  cases hm : b.idemHit ch o now with
  | some p => exact .hit p hm (publish_hit b ch data o now p hm)
  | none =>
    have hm' : (if o.idemKey ≠ "" then b.cacheGet ch o.idemKey now else none) = none := hm
    by_cases hh : o.history
    · have hh' : o.size > 0 ∧ o.ttl > 0 := hh
      cases hs : (b.hub.add ch ⟨data, o.version⟩ o (now / 1000)).2.skip with
      | true =>
        obtain ⟨s, hst, hv, he⟩ := add_skip_spec _ _ _ _ _ hs
        refine .skip hm hh s hst hv ?_
        simp only [Broker.publish, hm', hh', hs, if_true, and_self]
        rw [he]
      | false =>
        refine .store hm hh _ rfl hs ?_
        simp only [Broker.publish, Broker.saved, hm', hh', hs, if_true, and_self]
        rfl
    · have hh' : ¬ (o.size > 0 ∧ o.ttl > 0) := hh
      refine .nohistory hm hh ?_
      simp only [Broker.publish, Broker.saved, hm', hh', if_false]

theorem step_stream (b : Broker) (op : Op) (x : String) (s : MStream Pub)
    (hst : (b.hub.chans x).stream = some s) :
    ((step b op).1.hub.chans x).stream = some s ∨
    ((step b op).1.hub.chans x).stream = some s.clear ∨
    (∃ data o now, op = .publish x data o now ∧ (b.publish x data o now).2.suppress = .none ∧
        ((step b op).1.hub.chans x).stream =
          some (s.add ⟨data, o.version⟩ o.size o.version o.versionEpoch).1) ∨
    (((step b op).1.hub.chans x).stream = none ∧ ∃ n, op = .tick n) := by
  cases op with
  | publish ch data o now =>
    simp only [step]
    rcases publish_cases b ch data o now with ⟨p, h, he⟩ | ⟨hm, hh, t, ht, hv, he⟩ | ⟨hm, hh, r, hr, hs, he⟩ | ⟨hm, hh, he⟩
    · rw [he]; exact .inl hst
    · rw [he]; exact .inl hst
    · by_cases hx : x = ch
      · subst hx hr
        have hv := versionSkip_none_of_store hs
        refine .inr (.inr (.inl ⟨data, o, now, rfl, by rw [he], ?_⟩))
        rw [he, saved_hub, (add_store _ _ hv (s0 := s) (by rw [hst]; rfl)).1, if_pos rfl]
      · rw [he, saved_hub, hr, add_stream_other _ _ _ _ _ _ hx]; exact .inl hst
    · rw [he, saved_hub]; exact .inl hst
  | history ch f m now => exact .inl (get_keeps_stream _ _ _ _ _ _ _ hst)
  | remove ch =>
    simp only [step, Broker.removeHistory, remove_stream]
    split
    · next hx => subst hx; rw [hst]; exact .inr (.inl rfl)
    · exact .inl hst
  | tick n =>
    simp only [step, Broker.tick, Broker.sweepCache]
    rcases tick_stream b.hub n x with e | e | ⟨e, _⟩ <;> rw [e]
    · exact .inl hst
    · rw [hst]; exact .inr (.inl rfl)
    · exact .inr (.inr (.inr ⟨rfl, n, rfl⟩))

theorem publish_inv (b : Broker) (hi : b.hub.Inv) (ch data : String) (o : PubOpts) (now : Nat) :
    (b.publish ch data o now).1.hub.Inv := by
  rcases publish_cases b ch data o now with ⟨p, h, he⟩ | ⟨hm, hh, s, hst, hv, he⟩ | ⟨hm, hh, r, hr, hs, he⟩ | ⟨hm, hh, he⟩
  · rw [he]; exact hi
  · rw [he]; exact hi
  · rw [he, saved_hub, hr]; exact add_inv _ hi _ _ _ _
  · rw [he, saved_hub]; exact hi

theorem step_inv (b : Broker) (hi : b.hub.Inv) (op : Op) : (step b op).1.hub.Inv := by
  cases op with
  | publish ch data o now => exact publish_inv b hi ch data o now
  | history ch f m now => exact get_inv _ hi _ _ _ _
  | remove ch => exact remove_inv _ hi _
  | tick n => exact tick_hub_inv _ hi _

theorem run_inv_from (b : Broker) (hi : b.hub.Inv) (ops : List Op) : (run b ops).hub.Inv := by
  induction ops generalizing b with
  | nil => exact hi
  | cons op ops ih => exact ih _ (step_inv b hi op)

/-- the time (ms) an operation happens at, as far as the result cache is concerned -/
def opTimeMs : Op → Nat
  | .publish _ _ _ now => now
  | .history _ _ _ now => now
  | .remove _ => 0
  | .tick n => n * 1000

/-- a publish under the same cache key before `ExpireAt` is a hit and saves nothing -/
theorem step_keeps_entry (b : Broker) (op : Op) (ck : String) (p : Pos) (e : Nat)
    (hc : b.cache ck = some (p, e)) (ht : opTimeMs op < e) : (step b op).1.cache ck = some (p, e) := by
  cases op with
  | publish ch data o now =>
    have hsave : ∀ (b' : Broker) (q : Pos), b'.cache = b.cache → b.idemHit ch o now = none →
        (b'.saved ch o q now).cache ck = some (p, e) := by
      intro b' q hb' hm
      have hne : ¬ (o.idemKey ≠ "" ∧ ck = cacheKey ch o.idemKey) := by
        rintro ⟨hk, rfl⟩
        rw [(idemHit_eq_some_iff b ch o now p).mpr ⟨hk, e, hc, ht⟩] at hm
        cases hm
      rw [saved_cache, if_neg hne, hb', hc]
    show (b.publish ch data o now).1.cache ck = _
    rcases publish_cases b ch data o now with ⟨q, h, he⟩ | ⟨hm, hh, s, hst, hv, he⟩ | ⟨hm, hh, r, hr, hs, he⟩ | ⟨hm, hh, he⟩
    · rw [he]; exact hc
    · rw [he]; exact hc
    · rw [he]; exact hsave _ _ rfl hm
    · rw [he]; exact hsave _ _ rfl hm
  | history ch f m now => exact hc
  | remove ch => exact hc
  | tick n =>
    simp only [step, opTimeMs, Broker.tick, Broker.sweepCache] at ht ⊢
    simp only [hc]
    rw [if_neg (by omega)]

theorem run_keeps_entry (b : Broker) (ops : List Op) (ck : String) (p : Pos) (e : Nat)
    (hc : b.cache ck = some (p, e)) (ht : ∀ op ∈ ops, opTimeMs op < e) : (run b ops).cache ck = some (p, e) := by
  induction ops generalizing b with
  | nil => exact hc
  | cons op ops ih =>
    exact ih _ (step_keeps_entry b op ck p e hc (ht op (List.mem_cons_self ..)))
      fun op' hop' => ht op' (List.mem_cons_of_mem _ hop')

end CentrifugeVerif.HistoryHub
