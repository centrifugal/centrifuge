import CentrifugeVerif.Proofs.SubProtoStep
/-!
Inductive invariants of the subscription-protocol LTS that hold in **every** reachable state (all
labels, including failures and the wait-gate timeout):

* `Ghost`  — generations are non-zero; a subscribed `c.channels` entry, a thread past its commit and
  an unsubscribe working on a subscribed context all have the ghost `commit` event of their
  generation in the log; every `join` / `leave` in the log is preceded by the `commit` of its
  generation (`LogOk`).
* `RegOk`  — the connections gauge is 1 exactly while the connection is registered; once the status
  is closed the connection is unregistered or the closing thread stands right before `removeClient`.
-/
namespace CentrifugeVerif.SubProto

/-- `cmdGen` has been set by `sReadGen` -/
def postReadGen : Pc → Bool
  | .sCheck1 | .sHubAdd | .sCheck2 | .sPresAdd | .sReply | .sCommit | .sRbHub | .sRbPres | .sRbClose
  | .sCloseGate | .sDpf | .sPush | .sJoin => true
  | _ => false

/-- the attempt's `commitSubscription` installed its context -/
def postCommit : Pc → Bool
  | .sCloseGate | .sDpf | .sPush | .sJoin => true
  | _ => false

@[simp] theorem postReadGen_sReserve : postReadGen .sReserve = false := rfl
@[simp] theorem postCommit_sReserve : postCommit .sReserve = false := rfl
@[simp] theorem postReadGen_sOnSub : postReadGen .sOnSub = false := rfl
@[simp] theorem postCommit_sOnSub : postCommit .sOnSub = false := rfl
@[simp] theorem postReadGen_sReadGen : postReadGen .sReadGen = false := rfl
@[simp] theorem postCommit_sReadGen : postCommit .sReadGen = false := rfl
@[simp] theorem postReadGen_sCheck1 : postReadGen .sCheck1 = true := rfl
@[simp] theorem postCommit_sCheck1 : postCommit .sCheck1 = false := rfl
@[simp] theorem postReadGen_sHubAdd : postReadGen .sHubAdd = true := rfl
@[simp] theorem postCommit_sHubAdd : postCommit .sHubAdd = false := rfl
@[simp] theorem postReadGen_sCheck2 : postReadGen .sCheck2 = true := rfl
@[simp] theorem postCommit_sCheck2 : postCommit .sCheck2 = false := rfl
@[simp] theorem postReadGen_sPresAdd : postReadGen .sPresAdd = true := rfl
@[simp] theorem postCommit_sPresAdd : postCommit .sPresAdd = false := rfl
@[simp] theorem postReadGen_sReply : postReadGen .sReply = true := rfl
@[simp] theorem postCommit_sReply : postCommit .sReply = false := rfl
@[simp] theorem postReadGen_sCommit : postReadGen .sCommit = true := rfl
@[simp] theorem postCommit_sCommit : postCommit .sCommit = false := rfl
@[simp] theorem postReadGen_sRbHub : postReadGen .sRbHub = true := rfl
@[simp] theorem postCommit_sRbHub : postCommit .sRbHub = false := rfl
@[simp] theorem postReadGen_sRbPres : postReadGen .sRbPres = true := rfl
@[simp] theorem postCommit_sRbPres : postCommit .sRbPres = false := rfl
@[simp] theorem postReadGen_sRbClose : postReadGen .sRbClose = true := rfl
@[simp] theorem postCommit_sRbClose : postCommit .sRbClose = false := rfl
@[simp] theorem postReadGen_sCloseGate : postReadGen .sCloseGate = true := rfl
@[simp] theorem postCommit_sCloseGate : postCommit .sCloseGate = true := rfl
@[simp] theorem postReadGen_sDpf : postReadGen .sDpf = true := rfl
@[simp] theorem postCommit_sDpf : postCommit .sDpf = true := rfl
@[simp] theorem postReadGen_sPush : postReadGen .sPush = true := rfl
@[simp] theorem postCommit_sPush : postCommit .sPush = true := rfl
@[simp] theorem postReadGen_sJoin : postReadGen .sJoin = true := rfl
@[simp] theorem postCommit_sJoin : postCommit .sJoin = true := rfl
@[simp] theorem postReadGen_sDeferPres : postReadGen .sDeferPres = false := rfl
@[simp] theorem postCommit_sDeferPres : postCommit .sDeferPres = false := rfl
@[simp] theorem postReadGen_sErrDel : postReadGen .sErrDel = false := rfl
@[simp] theorem postCommit_sErrDel : postCommit .sErrDel = false := rfl
@[simp] theorem postReadGen_sErrHub : postReadGen .sErrHub = false := rfl
@[simp] theorem postCommit_sErrHub : postCommit .sErrHub = false := rfl
@[simp] theorem postReadGen_sErrClose : postReadGen .sErrClose = false := rfl
@[simp] theorem postCommit_sErrClose : postCommit .sErrClose = false := rfl
@[simp] theorem postReadGen_sErrOut : postReadGen .sErrOut = false := rfl
@[simp] theorem postCommit_sErrOut : postCommit .sErrOut = false := rfl
@[simp] theorem postReadGen_uStatus : postReadGen .uStatus = false := rfl
@[simp] theorem postCommit_uStatus : postCommit .uStatus = false := rfl
@[simp] theorem postReadGen_uSnap : postReadGen .uSnap = false := rfl
@[simp] theorem postCommit_uSnap : postCommit .uSnap = false := rfl
@[simp] theorem postReadGen_uWait : postReadGen .uWait = false := rfl
@[simp] theorem postCommit_uWait : postCommit .uWait = false := rfl
@[simp] theorem postReadGen_uTmoLog : postReadGen .uTmoLog = false := rfl
@[simp] theorem postCommit_uTmoLog : postCommit .uTmoLog = false := rfl
@[simp] theorem postReadGen_uRemove : postReadGen .uRemove = false := rfl
@[simp] theorem postCommit_uRemove : postCommit .uRemove = false := rfl
@[simp] theorem postReadGen_uPresRm : postReadGen .uPresRm = false := rfl
@[simp] theorem postCommit_uPresRm : postCommit .uPresRm = false := rfl
@[simp] theorem postReadGen_uLeave : postReadGen .uLeave = false := rfl
@[simp] theorem postCommit_uLeave : postCommit .uLeave = false := rfl
@[simp] theorem postReadGen_uHubRm : postReadGen .uHubRm = false := rfl
@[simp] theorem postCommit_uHubRm : postCommit .uHubRm = false := rfl
@[simp] theorem postReadGen_uOnUnsub : postReadGen .uOnUnsub = false := rfl
@[simp] theorem postCommit_uOnUnsub : postCommit .uOnUnsub = false := rfl
@[simp] theorem postReadGen_uOut : postReadGen .uOut = false := rfl
@[simp] theorem postCommit_uOut : postCommit .uOut = false := rfl
@[simp] theorem postReadGen_cEnter : postReadGen .cEnter = false := rfl
@[simp] theorem postCommit_cEnter : postCommit .cEnter = false := rfl
@[simp] theorem postReadGen_cRemoveClient : postReadGen .cRemoveClient = false := rfl
@[simp] theorem postCommit_cRemoveClient : postCommit .cRemoveClient = false := rfl
@[simp] theorem postReadGen_cDpf : postReadGen .cDpf = false := rfl
@[simp] theorem postCommit_cDpf : postCommit .cDpf = false := rfl
@[simp] theorem postReadGen_cWriter : postReadGen .cWriter = false := rfl
@[simp] theorem postCommit_cWriter : postCommit .cWriter = false := rfl
@[simp] theorem postReadGen_cTClose : postReadGen .cTClose = false := rfl
@[simp] theorem postCommit_cTClose : postCommit .cTClose = false := rfl
@[simp] theorem postReadGen_cLoop : postReadGen .cLoop = false := rfl
@[simp] theorem postCommit_cLoop : postCommit .cLoop = false := rfl
@[simp] theorem postReadGen_cOnDisc : postReadGen .cOnDisc = false := rfl
@[simp] theorem postCommit_cOnDisc : postCommit .cOnDisc = false := rfl
@[simp] theorem postReadGen_cExit : postReadGen .cExit = false := rfl
@[simp] theorem postCommit_cExit : postCommit .cExit = false := rfl
@[simp] theorem postReadGen_done : postReadGen .done = false := rfl
@[simp] theorem postCommit_done : postCommit .done = false := rfl
@[simp] theorem postReadGen_ite (c : Prop) [Decidable c] (a b : Pc) :
    postReadGen (if c then a else b) = if c then postReadGen a else postReadGen b := apply_ite postReadGen c a b
@[simp] theorem postCommit_ite (c : Prop) [Decidable c] (a b : Pc) :
    postCommit (if c then a else b) = if c then postCommit a else postCommit b := apply_ite postCommit c a b
@[simp] theorem postReadGen_unsubRetPc (k : Kind) : postReadGen (unsubRetPc k) = false := by cases k <;> rfl
@[simp] theorem postCommit_unsubRetPc (k : Kind) : postCommit (unsubRetPc k) = false := by cases k <;> rfl
@[simp] theorem postReadGen_afterRemove (c : Entry) : postReadGen (afterRemove c) = false :=
  pc_afterRemove c rfl rfl rfl
@[simp] theorem postCommit_afterRemove (c : Entry) : postCommit (afterRemove c) = false :=
  pc_afterRemove c rfl rfl rfl
@[simp] theorem postReadGen_afterCmdFail (t : Thread) : postReadGen (afterCmdFail t) = false :=
  pc_afterCmdFail t rfl rfl
@[simp] theorem postCommit_afterCmdFail (t : Thread) : postCommit (afterCmdFail t) = false :=
  pc_afterCmdFail t rfl rfl
@[simp] theorem postCommit_afterChecks (t : Thread) : postCommit (afterChecks t) = false :=
  pc_afterChecks t rfl rfl rfl
@[simp] theorem postCommit_afterPres (t : Thread) : postCommit (afterPres t) = false :=
  pc_afterPres t rfl rfl
@[simp] theorem postReadGen_afterChecks (t : Thread) : postReadGen (afterChecks t) = true :=
  pc_afterChecks t rfl rfl rfl
@[simp] theorem postReadGen_afterPres (t : Thread) : postReadGen (afterPres t) = true :=
  pc_afterPres t rfl rfl
@[simp] theorem afterCmdFail_ne_uLeave (t : Thread) : (afterCmdFail t = .uLeave) = False := by
  unfold afterCmdFail; split <;> simp
@[simp] theorem afterChecks_ne_uLeave (t : Thread) : (afterChecks t = .uLeave) = False := by
  unfold afterChecks; split <;> (try split) <;> simp
@[simp] theorem afterPres_ne_uLeave (t : Thread) : (afterPres t = .uLeave) = False := by
  unfold afterPres; split <;> simp
@[simp] theorem unsubRetPc_ne_uLeave (k : Kind) : (unsubRetPc k = .uLeave) = False := by
  cases k <;> simp [unsubRetPc]

/-- `M ev` = "event `ev` is in the log" (kept abstract so that the step lemma is monotone in the log) -/
structure ThrOk (M : Ev → Prop) (t : Thread) : Prop where
  cmdGen : postReadGen t.pc = true → t.cmdGen ≠ 0
  committed : postCommit t.pc = true → M (.commit t.ch t.cmdGen)
  ctxCommitted : ∀ c, t.ctx = some c → c.subscribed = true → M (.commit t.ch c.gen)
  /-- a leave is only published for a subscribed context -/
  leaveSub : t.pc = .uLeave → ∀ c, t.ctx = some c → c.subscribed = true

theorem afterRemove_uLeave (c : Entry) (h : afterRemove c = .uLeave) : c.subscribed = true := by
  unfold afterRemove at h
  split at h
  · cases h
  · split at h
    · simp_all
    · cases h

theorem ThrOk.mono {M M' : Ev → Prop} {t : Thread} (h : ThrOk M t) (hm : ∀ ev, M ev → M' ev) : ThrOk M' t :=
  ⟨h.cmdGen, fun hp => hm _ (h.committed hp), fun c hc hs => hm _ (h.ctxCommitted c hc hs), h.leaveSub⟩

theorem ThrOk.autoClose (M : Ev → Prop) : ThrOk M autoClose := by
  refine ⟨?_, ?_, ?_, ?_⟩ <;> simp [SubProto.autoClose]

theorem step_thrOk {s : State} {tid : Tid} {t t' : Thread} {o : Outcome} {effs : List Eff} {M M' : Ev → Prop}
    (h : ThreadStep s tid t o effs t')
    (hent : ∀ e, aget s.channels t.ch = some e → e.gen ≠ 0)
    (hec : ∀ e, aget s.channels t.ch = some e → e.subscribed = true → M (.commit t.ch e.gen))
    (ht : ThrOk M t) (hmono : ∀ ev, M ev → M' ev) (hnew : ∀ ev, Eff.log ev ∈ effs → M' ev) : ThrOk M' t' := by
  obtain ⟨h1, h2, h3, h4⟩ := ht
  have h3' : ∀ c, t.ctx = some c → c.subscribed = true → M' (.commit t.ch c.gen) :=
    fun c hc hsub => hmono _ (h3 c hc hsub)
  refine ⟨fun hp => ?_, fun hp => ?_, ?_, fun hp => ?_⟩
  · cases h <;> simp at hp <;> simp_all
  · cases h <;> simp at hp <;> simp_all
  · cases h <;> (try exact h3') <;> simp_all
  · cases h <;> simp [apply_ite (· = Pc.uLeave)] at hp
    case remove hc _ _ _ => intro c' hc'; cases hc.symm.trans hc'; exact afterRemove_uLeave _ hp
    case presRm hc => intro c' hc'; cases hc.symm.trans hc'; exact hp.2

/-! ### `LogOk`: joins and leaves come after the commit of their generation -/

def LogOk (l : List Ev) : Prop :=
  ∀ pre ev suf, l = pre ++ ev :: suf → ∀ ch g, (ev = .join ch g ∨ ev = .leave ch g) → Ev.commit ch g ∈ pre

theorem LogOk.nil : LogOk [] := by
  intro pre ev suf h; simp at h

theorem LogOk.append {l add : List Ev} (h : LogOk l)
    (hadd : ∀ ev ∈ add, ∀ ch g, (ev = .join ch g ∨ ev = .leave ch g) → Ev.commit ch g ∈ l) : LogOk (l ++ add) := by
  intro pre ev suf heq ch g hev
  rcases List.append_eq_append_iff.mp heq with ⟨a', h1, h2⟩ | ⟨c', h1, h2⟩
  · -- pre = l ++ a', add = a' ++ ev :: suf
    have : ev ∈ add := by rw [h2]; simp
    have := hadd ev this ch g hev
    rw [h1]; exact List.mem_append_left _ this
  · -- l = pre ++ c', ev :: suf = c' ++ add
    cases c' with
    | nil =>
      simp only [List.nil_append] at h2
      have : ev ∈ add := by rw [← h2]; simp
      have := hadd ev this ch g hev
      simp only [List.append_nil] at h1
      rw [← h1]; exact this
    | cons x r =>
      simp only [List.cons_append, List.cons.injEq] at h2
      obtain ⟨rfl, _⟩ := h2
      exact h pre ev r h1 ch g hev

structure Ghost (s : State) : Prop where
  entGen : ∀ ch e, aget s.channels ch = some e → e.gen ≠ 0
  entCommit : ∀ ch e, aget s.channels ch = some e → e.subscribed = true → Ev.commit ch e.gen ∈ s.log
  thr : ∀ x t, aget s.threads x = some t → ThrOk (· ∈ s.log) t
  logOk : LogOk s.log

theorem Ghost.init : Ghost State.init := by
  refine ⟨?_, ?_, ?_, LogOk.nil⟩ <;> simp [State.init, aget]

theorem next_ghost (s s' : State) (l : Label) (h : Ghost s) (hn : next s l = some s') : Ghost s' := by
  cases l with
  | spawn k ch o =>
    simp only [next, Option.some.injEq] at hn
    subst hn
    refine ⟨h.entGen, h.entCommit, ?_, h.logOk⟩
    intro x u hx
    rcases aget_append_singleton hx with h1 | rfl
    · exact h.thr x u h1
    · refine ⟨?_, ?_, ?_, ?_⟩ <;> cases k <;> simp [initPc]
  | step tid o =>
    obtain ⟨t, effs, t', hget, hst, rfl⟩ := next_step_some hn
    have htok := h.thr tid t hget
    have hlogmono : ∀ ev, ev ∈ s.log → ev ∈ (after s tid t' effs).log :=
      fun ev hev => (log_applyEffs _ _ _).mpr (Or.inl hev)
    have hlognew : ∀ ev, Eff.log ev ∈ effs → ev ∈ (after s tid t' effs).log :=
      fun ev hev => (log_applyEffs _ _ _).mpr (Or.inr hev)
    have hcmd : t.pc = .sCommit → t.cmdGen ≠ 0 := fun hp => htok.cmdGen (by simp [hp])
    refine ⟨?_, ?_, ?_, ?_⟩
    · -- generations of entries
      intro ch e he
      rcases channels_applyEffs _ _ _ _ he with h1 | h1
      · exact h.entGen ch e h1
      · obtain ⟨rfl, hc⟩ := step_chanSet hst h1
        rcases hc with ⟨_, rfl, _⟩ | ⟨_, e0, he0, hz, _⟩ | ⟨hp, _, _, hg, _⟩ | ⟨_, e0, he0, rfl⟩
        · simp [Entry.reservation]
        · exact absurd hz (h.entGen _ _ he0)
        · rw [hg]; exact hcmd hp
        · exact h.entGen _ e0 he0
    · -- subscribed entries carry their commit event
      intro ch e he hsub
      rcases channels_applyEffs _ _ _ _ he with h1 | h1
      · exact hlogmono _ (h.entCommit ch e h1 hsub)
      · obtain ⟨rfl, hc⟩ := step_chanSet hst h1
        rcases hc with ⟨_, rfl, _⟩ | ⟨_, e0, he0, hz, _⟩ | ⟨_, _, hl, hg, _⟩ | ⟨_, e0, he0, rfl⟩
        · simp [Entry.reservation] at hsub
        · exact absurd hz (h.entGen _ _ he0)
        · rw [hg]; exact hlognew _ (by rw [hl]; simp)
        · exact hlogmono _ (h.entCommit _ e0 he0 hsub)
    · -- threads
      intro x u hx
      rcases aget_threads_after hget hx with ⟨_, h1⟩ | ⟨_, rfl⟩ | rfl
      · exact (h.thr x u h1).mono hlogmono
      · exact step_thrOk hst (h.entGen _) (h.entCommit _) htok hlogmono hlognew
      · exact ThrOk.autoClose _
    · -- log order
      rw [log_applyEffs_eq]
      apply h.logOk.append
      intro ev hev ch g hjl
      rcases step_logged hst with h0 | ⟨ev', h1, hc⟩
      · rw [h0] at hev; cases hev
      rw [h1, List.mem_singleton] at hev; subst hev
      rcases hc with ⟨rfl, _⟩ | ⟨rfl, hp, _⟩ | ⟨c, rfl, hp, hc, _⟩ | rfl | rfl | rfl | rfl
      · rcases hjl with hjl | hjl <;> cases hjl
      · rcases hjl with hjl | hjl
        · cases hjl; exact htok.committed (by simp [hp])
        · cases hjl
      · rcases hjl with hjl | hjl
        · cases hjl
        · cases hjl
          exact htok.ctxCommitted c hc (htok.leaveSub hp c hc)
      all_goals (rcases hjl with hjl | hjl <;> cases hjl)

structure RegOk (s : State) : Prop where
  gauge : s.connGauge = if s.registered then 1 else 0
  closedReg : s.status = .closed →
    s.registered = false ∨ ∃ tid t, aget s.threads tid = some t ∧ t.pc = .cRemoveClient

theorem applyEff_regGauge (s : State) (e : Eff) (h : s.connGauge = if s.registered then 1 else 0) :
    (applyEff s e).connGauge = if (applyEff s e).registered then 1 else 0 := by
  cases e <;> simp_all [applyEff_unregister_connGauge]

theorem applyEffs_regGauge (es : List Eff) (s : State) (h : s.connGauge = if s.registered then 1 else 0) :
    (applyEffs s es).connGauge = if (applyEffs s es).registered then 1 else 0 := by
  induction es generalizing s with
  | nil => exact h
  | cons e r ih => exact ih _ (applyEff_regGauge s e h)

theorem RegOk.init : RegOk State.init := by
  constructor <;> simp [State.init]

theorem next_regOk (s s' : State) (l : Label) (h : RegOk s) (hn : next s l = some s') : RegOk s' := by
  cases l with
  | spawn k ch o =>
    simp only [next, Option.some.injEq] at hn
    subst hn
    refine ⟨h.gauge, ?_⟩
    intro hc
    rcases h.closedReg hc with h1 | ⟨tid, t, h1, h2⟩
    · exact Or.inl h1
    · exact Or.inr ⟨tid, t, aget_append_some _ _ _ _ h1, h2⟩
  | step tid o =>
    obtain ⟨t, effs, t', hget, hst, rfl⟩ := next_step_some hn
    refine ⟨applyEffs_regGauge _ _ h.gauge, ?_⟩
    intro hc
    rcases (status_applyEffs _ _).mp hc with hc1 | ⟨x, hx⟩
    · rcases h.closedReg hc1 with h1 | ⟨w, tw, h1, h2⟩
      · left
        cases hr : (after s tid t' effs).registered with
        | false => rfl
        | true => have := ((registered_applyEffs _ _).mp hr).1; simp_all
      · by_cases hw : w = tid
        · subst hw
          rw [hget] at h1; cases h1
          left
          have hu := step_cRemoveClient hst h2
          cases hr : (after s w t' effs).registered with
          | false => rfl
          | true => exact absurd hu ((registered_applyEffs _ _).mp hr).2
        · right
          exact ⟨w, tw, aget_threads_after_other hw h1, h2⟩
    · exact Or.inr ⟨tid, t', aget_threads_after_self hget, (step_markClosed hst hx).2.2.2.2.1⟩

/-! ### after close no new subscription appears -/

theorem next_closed_reports (s s' : State) (l : Label) (hc : s.status = .closed) (hn : next s l = some s')
    (ch : Chan) (e : Entry) (he : aget s'.channels ch = some e) (hsub : e.subscribed = true) :
    ∃ e0, aget s.channels ch = some e0 ∧ e0.subscribed = true := by
  cases l with
  | spawn k c o =>
    simp only [next, Option.some.injEq] at hn
    subst hn; exact ⟨e, he, hsub⟩
  | step tid o =>
    obtain ⟨t, effs, t', hget, hst, rfl⟩ := next_step_some hn
    rcases channels_applyEffs _ _ _ _ he with h1 | h1
    · exact ⟨e, h1, hsub⟩
    · obtain ⟨rfl, hcs⟩ := step_chanSet hst h1
      rcases hcs with ⟨_, rfl, _⟩ | ⟨_, e0, he0, _, rfl⟩ | ⟨_, hnc, _⟩ | ⟨_, e0, he0, rfl⟩
      · simp [Entry.reservation] at hsub
      · exact ⟨e0, he0, hsub⟩
      · exact absurd hc hnc
      · exact ⟨e0, he0, hsub⟩

theorem applyEffs_closed (es : List Eff) (s : State) (h : s.status = .closed) : (applyEffs s es).status = .closed :=
  (status_applyEffs es s).mpr (Or.inl h)

theorem log_prefix_after (s : State) (tid : Tid) (t' : Thread) (effs : List Eff) :
    s.log <+: (after s tid t' effs).log := by
  rw [log_applyEffs_eq]; exact List.prefix_append _ _

theorem reachable_ghost (s : State) (h : Reachable s) : Ghost s :=
  reachable_invariant Ghost Ghost.init next_ghost s h

theorem reachable_regOk (s : State) (h : Reachable s) : RegOk s :=
  reachable_invariant RegOk RegOk.init next_regOk s h

end CentrifugeVerif.SubProto
