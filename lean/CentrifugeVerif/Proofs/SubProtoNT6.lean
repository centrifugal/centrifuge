import CentrifugeVerif.Proofs.SubProtoNT5
/-!
Layer 3 of the no-timeout invariants (`L3`): the hub.
-/
namespace CentrifugeVerif.SubProto

structure L3 (s : State) : Prop where
  /-- once an unsubscribe deleted its target entry, no entry carries that generation again -/
  Hd : ∀ x t, aget s.threads x = some t → postDelPc t.pc = true →
    ∀ e, aget s.channels t.ch = some e → e.gen ≠ t.target
  /-- between its hub add and its commit a subscribe attempt finds its generation in the hub -/
  HubHeld : ∀ x t, aget s.threads x = some t → hubHeldPc t.pc = true → aget s.hub t.ch = some t.cmdGen
  /-- `gen_consistency`: a hub entry `(ch, g)` exists only if `c.channels[ch]` carries `g` or a live
  rollback / unsubscribe still owes the removal of `g` -/
  B : ∀ ch g, aget s.hub ch = some g →
    (∃ e, aget s.channels ch = some e ∧ e.gen = g) ∨ ∃ x t, aget s.threads x = some t ∧ t.ch = ch ∧ owesP t g
  /-- a subscribed `c.channels` entry has its hub entry, with the same generation -/
  C : ∀ ch e, aget s.channels ch = some e → e.subscribed = true → aget s.hub ch = some e.gen

theorem L3.init : L3 State.init := by
  constructor <;> simp [State.init, aget]

theorem holdPc_of_hubHeldPc (pc : Pc) (h : hubHeldPc pc = true) : holdPc pc = true := by
  cases pc <;> simp_all
theorem cmdPc_of_hubHeldPc (pc : Pc) (h : hubHeldPc pc = true) : cmdPc pc = true := by
  cases pc <;> simp_all
theorem postDelPc_of_owesHubPc (pc : Pc) (h : owesHubPc pc = true) : postDelPc pc = true := by
  cases pc <;> simp_all
theorem rbPc_of_rbHubPc (pc : Pc) (h : rbHubPc pc = true) : rbPc pc = true := by
  cases pc <;> simp_all
theorem errPc_of_errHubPc (pc : Pc) (h : errHubPc pc = true) : errPc pc = true := by
  cases pc <;> simp_all

variable {s : State} {tid : Tid} {t t' : Thread} {o : Outcome} {effs : List Eff}

/-- A step touches the hub entry of a generation that `c.channels` still carries only between the hub add and
the commit of the attempt that reserved it: the other removals come after the entry is gone (`K2`, `K3`, `Hd`). -/
theorem hub_touch_own (h2 : L2 s) (h3 : L3 s) (hget : aget s.threads tid = some t)
    (hst : ThreadStep s tid t o effs t') {c : Chan} {e : Entry} (he : aget s.channels c = some e)
    (hm : (∃ g', Eff.hubSet c g' ∈ effs) ∨ Eff.hubDelIf c e.gen ∈ effs) :
    c = t.ch ∧ e.gen = t.resGen ∧ e.subscribed = false := by
  have hadd : c = t.ch → t.pc = .sHubAdd → c = t.ch ∧ e.gen = t.resGen ∧ e.subscribed = false := by
    intro hch hp
    obtain ⟨e1, he1, hg1, hs1, _⟩ := h2.D tid t hget (by simp [hp])
    rw [hch, he1] at he; cases he
    exact ⟨hch, hg1, hs1⟩
  rcases hm with ⟨g', hm⟩ | hm
  · obtain ⟨hch, _, hp⟩ := step_hubSet hst hm
    exact hadd hch hp
  · obtain ⟨hch, hc⟩ := step_hubDel hst hm
    rcases hc with ⟨hp, _⟩ | ⟨hp, hgq⟩ | ⟨hp, hgq⟩ | ⟨hp, hgq⟩
    · exact hadd hch hp
    · obtain ⟨hk, _, ke⟩ := h2.K2 tid t hget (by simp [hp])
      exact absurd (hgq.trans hk) (ke e (hch ▸ he))
    · exact absurd hgq ((h2.K3 tid t hget (by simp [hp])).2 e (hch ▸ he))
    · exact absurd hgq (h3.Hd tid t hget (by simp [hp]) e (hch ▸ he))

/-- A thread other than the stepping one keeps the hub entry of its own reservation / generation:
no step of another thread sets or removes the hub entry `(ch, g)` when `g` is the generation of a
reservation held by `x` in `c.channels`. -/
theorem hub_of_reservation_stable (hg : Ghost s) (h1 : L1 s) (h2 : L2 s) (h3 : L3 s)
    (hget : aget s.threads tid = some t) (hst : ThreadStep s tid t o effs t') {x : Tid} {tx : Thread}
    (hx : aget s.threads x = some tx) (hne : x ≠ tid) {e : Entry} (he : aget s.channels tx.ch = some e)
    (hgen : e.gen = tx.resGen) (hhub : aget s.hub tx.ch = some tx.resGen) :
    aget (after s tid t' effs).hub tx.ch = some tx.resGen := by
  have hnz : tx.resGen ≠ 0 := by rw [← hgen]; exact hg.entGen _ _ he
  -- the reservation would be the stepping thread's own
  have hown : e.gen = t.resGen → False :=
    fun hr => hne (h1.uniq x tid tx t hx hget hnz (by rw [← hgen, hr]))
  refine (hub_applyEffs_frame effs _ _ _ ?_).mpr ⟨hhub, ?_⟩
  · intro g' hm
    exact hown (hub_touch_own h2 h3 hget hst he (Or.inl ⟨g', hm⟩)).2.1
  · intro hm
    exact hown (hub_touch_own h2 h3 hget hst he (Or.inr (hgen ▸ hm))).2.1

theorem next_L3 {s s' : State} {l : Label} (hg : Ghost s) (h1 : L1 s) (h2 : L2 s) (h3 : L3 s)
    (hl : l.noTmo = true) (hn : next s l = some s') : L3 s' := by
  cases l with
  | spawn k ch o =>
    simp only [next, Option.some.injEq] at hn
    subst hn
    refine ⟨spawn_clause h3.Hd, spawn_clause h3.HubHeld, fun c g hh => ?_, h3.C⟩
    rcases h3.B c g hh with h | ⟨x, u, hx, hr⟩
    · exact Or.inl h
    · exact Or.inr ⟨x, u, aget_append_some _ _ _ _ hx, hr⟩
  | step tid o =>
    have hnt := Label.noTmo_step hl
    obtain ⟨t, effs, t', hget, hst, rfl⟩ := next_step_some hn
    refine ⟨?_, ?_, ?_, ?_⟩
    · -- Hd
      intro x u hx hp e he hgen
      rcases aget_threads_after hget hx with ⟨_, hxo⟩ | ⟨_, rfl⟩ | rfl
      · rcases entry_after_known hg hst hnt he (hgen ▸ (h1.thrBound x u hxo).2.2.1) with h | ⟨_, _, _, e0, he0, hg0⟩
        · exact h3.Hd x u hxo hp e h hgen
        · exact h3.Hd x u hxo hp e0 he0 (hg0.trans hgen)
      · exact step_Hd_self hst (h3.Hd tid t hget) hp e he hgen
      · cases hp
    · -- HubHeld
      intro x u hx hp
      rcases aget_threads_after hget hx with ⟨hne, hxo⟩ | ⟨_, rfl⟩ | rfl
      · obtain ⟨e, he, hgen, _, hc⟩ := h2.D x u hxo (holdPc_of_hubHeldPc _ hp)
        have hcm := hc (cmdPc_of_hubHeldPc _ hp)
        rw [hcm]
        exact hub_of_reservation_stable hg h1 h2 h3 hget hst hxo hne he hgen (hcm ▸ h3.HubHeld x u hxo hp)
      · exact step_HubHeld_self hst (h3.HubHeld tid t hget) hp
      · cases hp
    · -- B (gen_consistency)
      intro c g hh
      -- the thread that deletes an entry of generation `g` owes the hub removal afterwards
      have hdeleter : ∀ e0, aget s.channels c = some e0 → e0.gen = g → Eff.chanDel c ∈ effs →
          ∃ x u, aget (after s tid t' effs).threads x = some u ∧ u.ch = c ∧ owesP u g := by
        intro e0 he0 hg0 hm
        obtain ⟨hch, r1, r2, r3, e1, he1, hc⟩ := step_chanDel hst hm
        rw [hch] at he0; rw [he0] at he1; cases he1
        refine ⟨tid, t', aget_threads_after_self hget, by rw [r1, hch], ?_⟩
        rcases hc with ⟨hp, hgq, hn⟩ | ⟨hp, hgq, hn⟩ | ⟨hp, hgq, hn⟩
        · obtain ⟨e2, he2, hg2, _⟩ := h2.D tid t hget (by simp [hp])
          rw [he0] at he2; cases he2
          exact Or.inl ⟨hn, by rw [r2, ← hg2, hg0]⟩
        · exact Or.inr (Or.inl ⟨hn, by rw [r2, ← hgq, hg0]⟩)
        · exact Or.inr (Or.inr ⟨hn, by rw [r3, ← hgq, hg0]⟩)
      -- an old justification by a `c.channels` entry of generation `g`
      have hentry : ∀ e0, aget s.channels c = some e0 → e0.gen = g →
          (∃ e, aget (after s tid t' effs).channels c = some e ∧ e.gen = g) ∨
          ∃ x u, aget (after s tid t' effs).threads x = some u ∧ u.ch = c ∧ owesP u g := by
        intro e0 he0 hg0
        by_cases hdel : Eff.chanDel c ∈ effs
        · exact Or.inr (hdeleter e0 he0 hg0 hdel)
        · by_cases hset : ∃ e2, Eff.chanSet c e2 ∈ effs
          · obtain ⟨e2, hm⟩ := hset
            obtain ⟨hch, hc⟩ := step_chanSet hst hm
            rw [hch] at he0
            rcases hc with ⟨_, _, hnone, _⟩ | ⟨_, e1, he1, hz, _⟩ | ⟨_, _, heff, hgc, _, _, e1, he1, hg1⟩ | ⟨ho, _⟩
            · rw [hnone] at he0; cases he0
            · exact absurd hz (hg.entGen _ _ he1)
            · -- commit over the entry of the same generation
              rw [he0] at he1; cases he1
              exact Or.inl ⟨e2, hch ▸ commit_writes heff, by rw [hgc, ← hg1, hg0]⟩
            · exact absurd ho hnt
          · left
            refine ⟨e0, ?_, hg0⟩
            rw [← he0]
            exact channels_applyEffs_frame _ _ _ (fun e2 hm => hset ⟨e2, hm⟩) hdel
      rcases hub_applyEffs _ _ _ _ hh with hold | hnew
      · -- an old hub entry
        rcases h3.B c g hold with ⟨e0, he0, hg0⟩ | ⟨w, tw, hw, hwch, hwo⟩
        · exact hentry e0 he0 hg0
        · by_cases hwt : w = tid
          · subst hwt
            rw [hget] at hw; cases hw
            rcases step_owes_self hst hwo (fun hp => (h2.K2 w t hget hp).1) with ⟨ho', hch'⟩ | ⟨hdel, hnoset⟩
            · exact Or.inr ⟨w, t', aget_threads_after_self hget, by rw [hch', hwch], ho'⟩
            · -- the step removed the hub entry it owed: it cannot be there any more
              rw [hwch] at hdel hnoset
              exact absurd hdel ((hub_applyEffs_frame _ _ _ _ hnoset).mp hh).2
          · exact Or.inr ⟨w, tw, aget_threads_after_other hwt hw, hwch, hwo⟩
      · -- written by this step: the reservation of the adding thread carries the generation
        obtain ⟨hch, hgq, hp⟩ := step_hubSet hst hnew
        obtain ⟨e1, he1, hg1, _, hc1⟩ := h2.D tid t hget (by simp [hp])
        exact hentry e1 (hch ▸ he1) (by rw [hg1, ← hc1 (by simp [hp]), hgq])
    · -- C
      intro c e he hsb
      rcases entry_after hg hst hnt he with h | ⟨hch, ⟨_, hre, _⟩ | ⟨hp, _, hge, _⟩⟩
      · -- an old subscribed entry: its hub entry is not touched
        refine (hub_applyEffs_frame effs _ _ _ ?_).mpr ⟨h3.C c e h hsb, ?_⟩
        · intro g' hm
          have := (hub_touch_own h2 h3 hget hst h (Or.inl ⟨g', hm⟩)).2.2
          rw [hsb] at this; cases this
        · intro hm
          have := (hub_touch_own h2 h3 hget hst h (Or.inr hm)).2.2
          rw [hsb] at this; cases this
      · rw [hre] at hsb; simp [Entry.reservation] at hsb
      · -- committed by this step: the committing thread holds its hub entry, and the step does not touch the hub
        rw [hch, hge]
        refine (hub_applyEffs_frame effs _ _ _ ?_).mpr ⟨h3.HubHeld tid t hget (by simp [hp]), ?_⟩
        · intro g' hm
          have := (step_hubSet hst hm).2.2
          rw [hp] at this; cases this
        · intro hm
          rcases (step_hubDel hst hm).2 with ⟨hp', _⟩ | ⟨hp', _⟩ | ⟨hp', _⟩ | ⟨hp', _⟩ <;> (rw [hp] at hp'; cases hp')

end CentrifugeVerif.SubProto
