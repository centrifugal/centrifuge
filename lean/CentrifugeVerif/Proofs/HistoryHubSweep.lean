import CentrifugeVerif.Model.HistoryHub
/-!
The two sweeper goroutines of `historyHub` wake up at the same instants and serialise on the hub
lock in an unspecified order.  The model runs `expireStreams` first; this file shows the order is
irrelevant, and that one wake-up at second `n` subsumes earlier missed ones for a single channel.
-/
namespace CentrifugeVerif.HistoryHub
open CentrifugeVerif.MemStream

/-- does a sweep at second `n` act on (deadline `d`, queue item `q`)?  Same test in both sweeps. -/
def sweepFires (n : Nat) (d q : Option Nat) : Bool :=
  match q, d with
  | some q, some d => decide (q ≤ n) && decide (d ≤ q ∨ d ≤ n)
  | _, _ => false

/-- the queue item after a sweep that did not act (a due item is re-pushed at the deadline) -/
def sweepRequeue (n : Nat) (d q : Option Nat) : Option Nat :=
  match q with
  | none => none
  | some q' => if q' > n then some q' else d

theorem sweepExpChan_eq (n : Nat) (c : ChanState) :
    sweepExpChan n c =
      if sweepFires n c.expires c.expQ then
        { c with expires := none, expQ := none, stream := c.stream.map MStream.clear }
      else { c with expQ := sweepRequeue n c.expires c.expQ } := by
  obtain ⟨s, e, q, r, rq⟩ := c
  cases q with
  | none => rfl
  | some q =>
    cases e with
    | none => by_cases hq : q > n <;> simp [sweepExpChan, sweepFires, sweepRequeue, hq]
    | some e =>
      by_cases hq : q > n
      · simp [sweepExpChan, sweepFires, sweepRequeue, hq, Nat.not_le.mpr hq]
      · by_cases hf : e ≤ q ∨ e ≤ n <;> simp [sweepExpChan, sweepFires, sweepRequeue, hq, Nat.le_of_not_gt hq, hf]

theorem sweepRemChan_eq (n : Nat) (c : ChanState) :
    sweepRemChan n c =
      if sweepFires n c.removes c.remQ then { c with removes := none, remQ := none, stream := none }
      else { c with remQ := sweepRequeue n c.removes c.remQ } := by
  obtain ⟨s, e, q, r, rq⟩ := c
  cases rq with
  | none => rfl
  | some q =>
    cases r with
    | none => by_cases hq : q > n <;> simp [sweepRemChan, sweepFires, sweepRequeue, hq]
    | some r =>
      by_cases hq : q > n
      · simp [sweepRemChan, sweepFires, sweepRequeue, hq, Nat.not_le.mpr hq]
      · by_cases hf : r ≤ q ∨ r ≤ n <;> simp [sweepRemChan, sweepFires, sweepRequeue, hq, Nat.le_of_not_gt hq, hf]

theorem sweepExpChan_removes (n : Nat) (c : ChanState) :
    (sweepExpChan n c).removes = c.removes ∧ (sweepExpChan n c).remQ = c.remQ := by
  rw [sweepExpChan_eq]; split <;> exact ⟨rfl, rfl⟩

theorem sweepRemChan_expires (n : Nat) (c : ChanState) :
    (sweepRemChan n c).expires = c.expires ∧ (sweepRemChan n c).expQ = c.expQ := by
  rw [sweepRemChan_eq]; split <;> exact ⟨rfl, rfl⟩

theorem sweepFires_deadline {n : Nat} {d q : Option Nat} (h : sweepFires n d q = true) :
    ∃ r, d = some r ∧ r ≤ n := by
  cases q <;> cases d <;> simp [sweepFires] at h
  exact ⟨_, rfl, by omega⟩

/-- what a sweep at `n ≤ n'` leaves behind is treated at `n'` like the original pair -/
theorem sweep_coalesce_pair {n n' : Nat} (hn : n ≤ n') (d q : Option Nat) :
    if sweepFires n d q then sweepFires n' d q = true
    else sweepFires n' d (sweepRequeue n d q) = sweepFires n' d q ∧
      sweepRequeue n' d (sweepRequeue n d q) = sweepRequeue n' d q := by
  cases q with
  | none => simp [sweepFires, sweepRequeue]
  | some q =>
    cases d with
    | none =>
      by_cases hq : q > n
      · simp [sweepFires, sweepRequeue, hq]
      · have : ¬ q > n' := by omega
        simp [sweepFires, sweepRequeue, hq, this]
    | some d =>
      simp only [sweepFires, sweepRequeue]
      by_cases hq : q > n
      · simp [hq, Nat.not_le.mpr hq]
      · have hq' : q ≤ n' := by omega
        by_cases hf : d ≤ q ∨ d ≤ n
        · have hf' : d ≤ q ∨ d ≤ n' := hf.imp id fun h => Nat.le_trans h hn
          simp [Nat.le_of_not_gt hq, hf, hq', hf']
        · rw [not_or] at hf
          simp [hq, Nat.le_of_not_gt hq, hf.1, hf.2, hq', Nat.not_lt.mpr hq']

theorem sweepExpChan_coalesce (n n' : Nat) (hn : n ≤ n') (c : ChanState) :
    sweepExpChan n' (sweepExpChan n c) = sweepExpChan n' c := by
  have hp := sweep_coalesce_pair hn c.expires c.expQ
  rw [sweepExpChan_eq n c, sweepExpChan_eq n' c]
  split at hp
  · next hf => rw [if_pos hf, if_pos hp]; rfl
  · next hf =>
    rw [if_neg hf, sweepExpChan_eq n']
    show (if sweepFires n' c.expires (sweepRequeue n c.expires c.expQ) then _ else _) = _
    rw [hp.1]
    split
    · rfl
    · exact congrArg (fun q => { c with expQ := q }) hp.2

theorem sweepRemChan_coalesce (n n' : Nat) (hn : n ≤ n') (c : ChanState) :
    sweepRemChan n' (sweepRemChan n c) = sweepRemChan n' c := by
  have hp := sweep_coalesce_pair hn c.removes c.remQ
  rw [sweepRemChan_eq n c, sweepRemChan_eq n' c]
  split at hp
  · next hf => rw [if_pos hf, if_pos hp]; rfl
  · next hf =>
    rw [if_neg hf, sweepRemChan_eq n']
    show (if sweepFires n' c.removes (sweepRequeue n c.removes c.remQ) then _ else _) = _
    rw [hp.1]
    split
    · rfl
    · exact congrArg (fun q => { c with remQ := q }) hp.2

/-- disjoint deadline fields; on the stream "drop" absorbs "clear" in either order -/
theorem sweepChan_comm (n : Nat) (c : ChanState) :
    sweepRemChan n (sweepExpChan n c) = sweepExpChan n (sweepRemChan n c) := by
  rw [sweepExpChan_eq n c, sweepRemChan_eq n c]
  cases he : sweepFires n c.expires c.expQ <;> cases hr : sweepFires n c.removes c.remQ <;>
    simp [sweepExpChan_eq, sweepRemChan_eq, he, hr]

theorem sweeps_commute (h : Hub) (n : Nat) :
    (h.sweepExpire n).sweepRemove n = (h.sweepRemove n).sweepExpire n := by
  unfold Hub.sweepExpire Hub.sweepRemove
  by_cases g1 : h.nextExpireCheck = 0 ∨ h.nextExpireCheck > n <;>
    by_cases g2 : h.nextRemoveCheck = 0 ∨ h.nextRemoveCheck > n <;>
    simp only [g1, g2, if_true, if_false]
  have hq1 : ∀ x, (sweepExpChan n (sweepRemChan n (h.chans x))).expQ = (sweepExpChan n (h.chans x)).expQ :=
    fun x => by rw [← sweepChan_comm]; exact (sweepRemChan_expires n _).2
  have hq2 : ∀ x, (sweepRemChan n (sweepExpChan n (h.chans x))).remQ = (sweepRemChan n (h.chans x)).remQ :=
    fun x => by rw [sweepChan_comm]; exact (sweepExpChan_removes n _).2
  -- `hq1`, `hq2` first: commuting the channel functions would destroy their left sides
  simp only [hq1, hq2]
  simp only [sweepChan_comm]

theorem sweepExpire_chans (h : Hub) (n : Nat) (x : String) :
    (h.sweepExpire n).chans x = h.chans x ∨ (h.sweepExpire n).chans x = sweepExpChan n (h.chans x) := by
  unfold Hub.sweepExpire
  split
  · exact .inl rfl
  · exact .inr rfl

theorem sweepRemove_chans (h : Hub) (n : Nat) (x : String) :
    (h.sweepRemove n).chans x = h.chans x ∨ (h.sweepRemove n).chans x = sweepRemChan n (h.chans x) := by
  unfold Hub.sweepRemove
  split
  · exact .inl rfl
  · exact .inr rfl

theorem tick_stream (h : Hub) (n : Nat) (x : String) :
    ((h.tick n).chans x).stream = (h.chans x).stream ∨
    ((h.tick n).chans x).stream = (h.chans x).stream.map MStream.clear ∨
    (((h.tick n).chans x).stream = none ∧ ∃ r, (h.chans x).removes = some r ∧ r ≤ n) := by
  have hE : ((h.sweepExpire n).chans x).removes = (h.chans x).removes ∧
      (((h.sweepExpire n).chans x).stream = (h.chans x).stream ∨
        ((h.sweepExpire n).chans x).stream = (h.chans x).stream.map MStream.clear) := by
    rcases sweepExpire_chans h n x with e | e <;> rw [e]
    · exact ⟨rfl, .inl rfl⟩
    · rw [sweepExpChan_eq]
      split
      · exact ⟨rfl, .inr rfl⟩
      · exact ⟨rfl, .inl rfl⟩
  have hR : ((h.tick n).chans x).stream = ((h.sweepExpire n).chans x).stream ∨
      (((h.tick n).chans x).stream = none ∧ ∃ r, ((h.sweepExpire n).chans x).removes = some r ∧ r ≤ n) := by
    unfold Hub.tick
    rcases sweepRemove_chans (h.sweepExpire n) n x with e | e <;> rw [e]
    · exact .inl rfl
    · rw [sweepRemChan_eq]
      split
      · next hf => exact .inr ⟨rfl, sweepFires_deadline hf⟩
      · exact .inl rfl
  rcases hR with e | ⟨e, hr⟩
  · rw [e]
    exact hE.2.elim .inl (fun e' => .inr (.inl e'))
  · exact .inr (.inr ⟨e, hE.1 ▸ hr⟩)

end CentrifugeVerif.HistoryHub
