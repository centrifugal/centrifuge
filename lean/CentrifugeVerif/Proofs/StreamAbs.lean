import CentrifugeVerif.Spec.AbsStream
/-!
Lemmas about the specification `Spec/AbsStream.lean` itself: its well-formedness invariant is kept
by every abstract operation, offsets are contiguous by construction, epochs are never reused.
-/
namespace CentrifugeVerif.AbsStream
open CentrifugeVerif.MemStream

variable {α : Type}

theorem entries_length (c : AbsChan α) : c.entries.length = c.log.length := by
  simp [AbsChan.entries, List.length_zipWith]

/-- the implicit offsets are the contiguous run ending at `top` -/
theorem entries_offsets (c : AbsChan α) :
    c.entries.map (·.offset) = List.range' (c.top - c.log.length + 1) c.log.length := by
  unfold AbsChan.entries
  generalize c.top - c.log.length + 1 = a
  generalize c.log = l
  induction l generalizing a with
  | nil => simp
  | cons x xs ih => simp [List.range'_succ, ih]

theorem append_top (c : AbsChan α) (v : α) (size : Nat) : (c.append v size).top = c.top + 1 := rfl
theorem append_epoch (c : AbsChan α) (v : α) (size : Nat) : (c.append v size).epoch = c.epoch := rfl

theorem append_log_length (c : AbsChan α) (v : α) (size : Nat) :
    (c.append v size).log.length = min size (c.log.length + 1) := by
  simp only [AbsChan.append, List.length_drop, List.length_append, List.length_singleton]
  omega

/-- a stored publication is the newest retained one (for `size > 0`) -/
theorem append_log_last (c : AbsChan α) (v : α) (size : Nat) (hs : 0 < size) :
    (c.append v size).log.getLast? = some v := by
  simp only [AbsChan.append]
  rw [List.getLast?_drop, if_neg (by simp; omega), List.getLast?_concat]

theorem Abs.ext' {a b : Abs α} (h1 : a.chans = b.chans) (h2 : a.nextEpoch = b.nextEpoch) : a = b := by
  cases a; cases b; simp_all

theorem setChan_same (a : Abs α) (ch : String) (c : Option (AbsChan α)) : (a.setChan ch c).chans ch = c :=
  if_pos rfl

theorem setChan_other (a : Abs α) (ch x : String) (c : Option (AbsChan α)) (hx : x ≠ ch) :
    (a.setChan ch c).chans x = a.chans x := if_neg hx

theorem ensure_of_some {a : Abs α} {ch : String} {c : AbsChan α} (hc : a.chans ch = some c) :
    a.ensure ch = (a, c) := by
  simp only [Abs.ensure, hc]

theorem ensure_of_none {a : Abs α} {ch : String} (hc : a.chans ch = none) :
    a.ensure ch =
      ({ (a.setChan ch (some ⟨a.nextEpoch, 0, []⟩)) with nextEpoch := a.nextEpoch + 1 }, ⟨a.nextEpoch, 0, []⟩) := by
  simp only [Abs.ensure, hc]

/-- well-formedness carries over to a state in which every channel stems from the channel of the
same name (same epoch), except for at most one channel `fresh` whose epoch was handed out in between -/
theorem inv_of_stem {a a' : Abs α} (hi : a.Inv) (fresh : Option String) (hn : a.nextEpoch ≤ a'.nextEpoch)
    (key : ∀ x d, a'.chans x = some d → d.log.length ≤ d.top ∧
      ((∃ c, a.chans x = some c ∧ d.epoch = c.epoch) ∨
        (fresh = some x ∧ a.nextEpoch ≤ d.epoch ∧ d.epoch < a'.nextEpoch))) : a'.Inv := by
  obtain ⟨h1, h2, h3⟩ := hi
  refine ⟨?_, ?_, Nat.le_trans h3 hn⟩
  · intro x d hd
    obtain ⟨hl, ⟨c, hc, he⟩ | ⟨_, hlo, hhi⟩⟩ := key x d hd
    · have := h1 x c hc
      omega
    · omega
  · intro x y d e hne hd he
    obtain ⟨_, ⟨c, hc, hce⟩ | ⟨hx, hlo, _⟩⟩ := key x d hd <;>
      obtain ⟨_, ⟨c', hc', hce'⟩ | ⟨hy, hlo', _⟩⟩ := key y e he
    · rw [hce, hce']; exact h2 x y c c' hne hc hc'
    · have := h1 x c hc; omega
    · have := h1 y c' hc'; omega
    · exact absurd (Option.some.inj (hx.symm.trans hy)) hne

/-- setting one channel (and possibly advancing the counter) keeps well-formedness when the new
content keeps the channel's epoch or takes one handed out in between -/
theorem setChan_inv_of {a : Abs α} (hi : a.Inv) (ch : String) (c' : Option (AbsChan α)) {n' : Nat}
    (hn : a.nextEpoch ≤ n')
    (hc : ∀ d, c' = some d → d.log.length ≤ d.top ∧
      ((∃ c, a.chans ch = some c ∧ d.epoch = c.epoch) ∨ (a.nextEpoch ≤ d.epoch ∧ d.epoch < n'))) :
    ({ a.setChan ch c' with nextEpoch := n' } : Abs α).Inv := by
  refine inv_of_stem hi (some ch) hn fun x d hd => ?_
  replace hd : (a.setChan ch c').chans x = some d := hd
  by_cases hx : x = ch
  · subst hx
    rw [setChan_same] at hd
    exact ⟨(hc d hd).1, (hc d hd).2.imp id fun h => ⟨rfl, h⟩⟩
  · rw [setChan_other _ _ _ _ hx] at hd
    exact ⟨(hi.1 x d hd).1, .inl ⟨d, hd, rfl⟩⟩

theorem setChan_inv (a : Abs α) (hi : a.Inv) (ch : String) (c c' : AbsChan α)
    (hc : a.chans ch = some c) (he : c'.epoch = c.epoch) (hl : c'.log.length ≤ c'.top) :
    (a.setChan ch (some c')).Inv :=
  setChan_inv_of hi ch _ (Nat.le_refl _) fun d hd => by cases hd; exact ⟨hl, .inl ⟨c, hc, he⟩⟩

theorem dropChan_inv (a : Abs α) (hi : a.Inv) (ch : String) : (a.setChan ch none).Inv :=
  setChan_inv_of hi ch _ (Nat.le_refl _) nofun

theorem ensure_chans_same (a : Abs α) (ch : String) : (a.ensure ch).1.chans ch = some (a.ensure ch).2 := by
  cases hc : a.chans ch with
  | some c => rw [ensure_of_some hc]; exact hc
  | none => rw [ensure_of_none hc]; exact setChan_same _ _ _

theorem ensure_chans_other (a : Abs α) (ch x : String) (hx : x ≠ ch) :
    (a.ensure ch).1.chans x = a.chans x := by
  cases hc : a.chans ch with
  | some c => rw [ensure_of_some hc]
  | none => rw [ensure_of_none hc]; exact setChan_other _ _ _ _ hx

/-- a channel created by `ensure` gets the counter's value as its epoch, which is fresh -/
theorem ensure_inv (a : Abs α) (hi : a.Inv) (ch : String) : (a.ensure ch).1.Inv := by
  cases hc : a.chans ch with
  | some c => rw [ensure_of_some hc]; exact hi
  | none =>
    rw [ensure_of_none hc]
    exact setChan_inv_of hi ch _ (Nat.le_succ _) fun d hd => by
      cases hd; exact ⟨Nat.le_refl _, .inr ⟨Nat.le_refl _, Nat.lt_succ_self _⟩⟩

theorem read_inv (a : Abs α) (hi : a.Inv) (ch : String) (f : Filter) : (a.read ch f).1.Inv :=
  ensure_inv a hi ch

theorem append_inv (a : Abs α) (hi : a.Inv) (ch : String) (v : α) (size : Nat) :
    (a.append ch v size).1.Inv := by
  have h1 := ensure_inv a hi ch
  have h2 := ensure_chans_same a ch
  refine setChan_inv _ h1 ch _ _ h2 (append_epoch _ _ _) ?_
  have := (h1.1 _ _ h2).1
  rw [append_log_length, append_top]; omega

theorem clear_inv (a : Abs α) (hi : a.Inv) (ch : String) : (a.clear ch).Inv := by
  unfold Abs.clear
  cases hc : a.chans ch with
  | none => exact dropChan_inv a hi ch
  | some c => exact setChan_inv a hi ch c c.clear hc rfl (Nat.zero_le _)

/-- expiry keeps well-formedness (and hands out no epoch) -/
theorem tick_inv (a a' : Abs α) (hi : a.Inv) (ht : Abs.Tick a a') : a'.Inv := by
  obtain ⟨hn, hc⟩ := ht
  refine inv_of_stem hi none (Nat.le_of_eq hn.symm) fun x d hd => ?_
  rcases hc x with e | e | e <;> rw [e] at hd
  · exact ⟨(hi.1 x d hd).1, .inl ⟨d, hd, rfl⟩⟩
  · cases hx : a.chans x with
    | none => rw [hx] at hd; cases hd
    | some c => rw [hx] at hd; cases hd; exact ⟨Nat.zero_le _, .inl ⟨c, rfl, rfl⟩⟩
  · cases hd

theorem ensure_ensure (a : Abs α) (ch : String) : (a.ensure ch).1.ensure ch = a.ensure ch :=
  ensure_of_some (ensure_chans_same a ch)

end CentrifugeVerif.AbsStream
