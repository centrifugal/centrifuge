import CentrifugeVerif.Model.Dissolve
/-!
Ring-buffer invariant and FIFO refinement for `queueImpl` (`Model/Dissolve.lean`, part 1).

`QInv q` is the invariant of an *open* queue.  Its size clause `len = initCap ∨ len/2 < cnt` (with
`len = initCap·2^k`) is what makes the slice expressions in `resize` index-safe when `Remove` shrinks
the ring: a shrink to `n = len/2` happens exactly when `cnt = n`, never with an empty, wrapped ring.
-/
namespace CentrifugeVerif.Dissolve

/-- `n = c·2^k` for some `k` -/
inductive Pow2Mul (c : Nat) : Nat → Prop
  | base : Pow2Mul c c
  | dbl {n : Nat} : Pow2Mul c n → Pow2Mul c (2 * n)

theorem Pow2Mul.le {c n : Nat} (h : Pow2Mul c n) : c ≤ n := by
  induction h with
  | base => exact Nat.le_refl _
  | dbl _ ih => omega

theorem Pow2Mul.half {c n : Nat} (h : Pow2Mul c n) (hne : n ≠ c) : Pow2Mul c (n / 2) ∧ n = 2 * (n / 2) := by
  cases h with
  | base => exact absurd rfl hne
  | dbl h' =>
    rename_i m
    have : 2 * m / 2 = m := by omega
    rw [this]; exact ⟨h', rfl⟩

structure QInv (q : Queue) : Prop where
  opened : q.closed = false
  cap_pos : 0 < q.initCap
  pow : Pow2Mul q.initCap q.nodes.length
  head_lt : q.head < q.nodes.length
  tail_eq : q.tail = (q.head + q.cnt) % q.nodes.length
  cnt_le : q.cnt ≤ q.nodes.length
  size : q.nodes.length = q.initCap ∨ q.nodes.length / 2 < q.cnt
  somes : absO q = (abs q).map some

theorem mod_cases {a L : Nat} (h : a < 2 * L) : a < L ∧ a % L = a ∨ L ≤ a ∧ a % L = a - L := by
  rcases Nat.lt_or_ge a L with h1 | h1
  · exact Or.inl ⟨h1, Nat.mod_eq_of_lt h1⟩
  · exact Or.inr ⟨h1, by rw [Nat.mod_eq_sub_mod h1, Nat.mod_eq_of_lt (by omega)]⟩

/-- the `c` slots of the ring `l` from index `h` on, wrapping; `absO q = ring q.nodes q.head q.cnt` -/
def ring {α : Type} (l : List α) (h c : Nat) : List α := (l.drop h ++ l.take h).take c

section
variable {α : Type} {l : List α} {h c : Nat}

theorem ring_length (hc : c ≤ l.length) : (ring l h c).length = c := by
  simp only [ring, List.length_take, List.length_append, List.length_drop]
  omega

theorem ring_push (hh : h < l.length) (hc : c < l.length) (x : α) :
    ring (l.set ((h + c) % l.length) x) h (c + 1) = ring l h c ++ [x] := by
  have hrot : (l.set ((h + c) % l.length) x).drop h ++ (l.set ((h + c) % l.length) x).take h =
      (l.drop h ++ l.take h).set c x := by
    rw [List.set_append, List.length_drop, List.drop_set, List.take_set]
    rcases mod_cases (show h + c < 2 * l.length by omega) with ⟨h1, e⟩ | ⟨h1, e⟩
    · rw [e, if_neg (by omega), if_pos (by omega), Nat.add_sub_cancel_left,
        List.set_eq_of_length_le (l := l.take h) (by rw [List.length_take]; omega)]
    · rw [e, if_pos (by omega), if_neg (by omega)]
      congr 2; omega
  rw [ring, hrot, List.take_add_one, List.take_set_of_le (Nat.le_refl c),
    List.getElem?_set_self (by simp; omega)]
  rfl

theorem ring_pop (hh : h < l.length) (hc : c < l.length) :
    ring l h (c + 1) = l[h] :: ring l ((h + 1) % l.length) c := by
  simp only [ring]
  rw [List.drop_eq_getElem_cons hh, List.cons_append, List.take_succ_cons]
  congr 1
  rcases mod_cases (show h + 1 < 2 * l.length by omega) with ⟨h1, e⟩ | ⟨h1, e⟩
  · rw [e, List.take_succ_eq_append_getElem hh, ← List.append_assoc,
      List.take_append_of_le_length (l₂ := [l[h]]) (by simp; omega)]
  · rw [e, List.drop_of_length_le h1, show h + 1 - l.length = 0 by omega, List.nil_append, List.take_take]
    simp only [List.drop_zero, List.take_zero, List.append_nil]
    congr 1; omega

theorem ring_zero {a rest : List α} (ha : a.length = c) : ring (a ++ rest) 0 c = a := by
  simp only [ring, List.drop_zero, List.take_zero, List.append_nil]
  exact List.take_left' ha

end

theorem absO_length {q : Queue} (hc : q.cnt ≤ q.nodes.length) : (absO q).length = q.cnt :=
  ring_length hc

theorem abs_of_absO {q : Queue} {l : List Job} (h : absO q = l.map some) :
    abs q = l ∧ absO q = (abs q).map some := by
  have : abs q = l := by rw [abs, h, List.filterMap_map]; exact List.filterMap_some
  exact ⟨this, by rw [this]; exact h⟩

theorem abs_length {q : Queue} (hi : QInv q) : (abs q).length = q.cnt := by
  rw [← List.length_map (f := some), ← hi.somes, absO_length hi.cnt_le]

theorem inv_newQueue (c : Nat) (hc : 0 < c) : QInv (newQueue c) := by
  refine ⟨rfl, hc, ?_, ?_, ?_, ?_, ?_, ?_⟩
  · simp [newQueue]; exact Pow2Mul.base
  · simpa [newQueue] using hc
  · simp [newQueue]
  · simp [newQueue]
  · left; simp [newQueue]
  · simp [absO, abs, rot, newQueue]

theorem abs_newQueue (c : Nat) : abs (newQueue c) = [] := by simp [abs, absO, rot, newQueue]

theorem goCopy_replicate {α : Type} (x : α) {n : Nat} {src : List α} (h : src.length ≤ n) :
    goCopy (List.replicate n x) src = src ++ List.replicate (n - src.length) x := by
  simp only [goCopy, List.length_replicate, List.drop_replicate, List.take_of_length_le h]

theorem goCopy_wrap {α : Type} (x : α) {l : List α} {h t n : Nat} (hh : h ≤ l.length) (ht : t ≤ h)
    (hn : l.length - h + t ≤ n) :
    (goCopy (List.replicate n x) (l.drop h)).take (l.length - h) ++
      goCopy ((goCopy (List.replicate n x) (l.drop h)).drop (l.length - h)) (l.take t) =
    ring l h (l.length - h + t) ++ List.replicate (n - (l.length - h + t)) x := by
  have hk : (l.drop h).length = l.length - h := List.length_drop
  have hlen : (l.take t).length = t := by rw [List.length_take]; omega
  rw [goCopy_replicate x (by omega), List.take_left' hk, List.drop_left' hk, goCopy_replicate x (by omega),
    hk, hlen, ← List.append_assoc, Nat.sub_sub, ring, List.take_append,
    List.take_of_length_le (l := l.drop h) (by omega), hk, Nat.add_sub_cancel_left, List.take_take,
    Nat.min_eq_left ht]

/-- the effect of `resize n` on a non-empty ring that fits into `n` slots: the queued slots are laid
out from index 0, the rest is nil -/
theorem resize_spec (q : Queue) (n : Nat) (hh : q.head < q.nodes.length)
    (ht : q.tail = (q.head + q.cnt) % q.nodes.length) (hc0 : 0 < q.cnt) (hcL : q.cnt ≤ q.nodes.length)
    (hn : q.cnt ≤ n) :
    resize q n = some { q with nodes := absO q ++ List.replicate (n - q.cnt) none, head := 0,
                               tail := q.cnt % n } := by
  have hn0 : n ≠ 0 := by omega
  rcases mod_cases (show q.head + q.cnt < 2 * q.nodes.length by omega) with ⟨h1, e⟩ | ⟨h1, e⟩
  · -- no wrap: the queued slots are `nodes[head:tail]`
    rw [e] at ht
    simp only [resize, absO, rot, if_pos (show q.head < q.tail by omega),
      if_pos (show q.tail ≤ q.nodes.length by omega), if_neg hn0]
    rw [show q.tail - q.head = q.cnt by omega,
      goCopy_replicate none (by rw [List.length_take, List.length_drop]; omega),
      List.length_take, List.length_drop, Nat.min_eq_left (by omega),
      List.take_append_of_le_length (by rw [List.length_drop]; omega)]
  · -- wrapped (or full): they are `nodes[head:]` followed by `nodes[:tail]`
    rw [e] at ht
    have hcnt : q.nodes.length - q.head + q.tail = q.cnt := by omega
    have hg : q.head ≤ q.nodes.length ∧ q.nodes.length - q.head ≤ n ∧ q.tail ≤ q.nodes.length := by omega
    simp only [resize, if_neg (show ¬ q.head < q.tail by omega), if_pos hg, if_neg hn0]
    rw [goCopy_wrap none hg.1 (by omega) (by omega), hcnt]
    rfl

/-- `size` is asked of the ring after the push, so that a ring that has just been doubled qualifies -/
theorem push_spec (q : Queue) (j : Job) (l : List Job) (hopen : q.closed = false) (hcap : 0 < q.initCap)
    (hpow : Pow2Mul q.initCap q.nodes.length) (hh : q.head < q.nodes.length)
    (ht : q.tail = (q.head + q.cnt) % q.nodes.length) (hc : q.cnt < q.nodes.length)
    (hsize : q.nodes.length = q.initCap ∨ q.nodes.length / 2 < q.cnt + 1) (hl : absO q = l.map some) :
    let q' : Queue := { q with nodes := q.nodes.set q.tail (some j),
                               tail := (q.tail + 1) % q.nodes.length, cnt := q.cnt + 1 }
    q.tail < q.nodes.length ∧ QInv q' ∧ abs q' = l ++ [j] := by
  intro q'
  have hl' : absO q' = (l ++ [j]).map some := by
    show ring (q.nodes.set q.tail (some j)) q.head (q.cnt + 1) = _
    rw [ht, ring_push hh hc, List.map_append, ← hl]
    rfl
  refine ⟨by rw [ht]; exact Nat.mod_lt _ (by omega),
    ⟨hopen, hcap, ?_, ?_, ?_, ?_, ?_, (abs_of_absO hl').2⟩, (abs_of_absO hl').1⟩
  all_goals simp only [q', List.length_set]
  · exact hpow
  · exact hh
  · rw [ht, Nat.mod_add_mod, Nat.add_assoc]
  · exact hc
  · exact hsize

theorem add_open {q : Queue} (hi : QInv q) (j : Job) :
    ∃ q', add q j = some (q', true) ∧ QInv q' ∧ abs q' = abs q ++ [j] := by
  obtain ⟨hopen, hcap, hpow, hh, ht, hcL, hsize, hsomes⟩ := hi
  simp only [add, hopen, Bool.false_eq_true, if_false]
  by_cases hfull : q.cnt = q.nodes.length
  · rw [if_pos hfull, resize_spec q (q.cnt * 2) hh ht (by omega) hcL (by omega)]
    let q1 : Queue := { q with nodes := absO q ++ List.replicate (q.cnt * 2 - q.cnt) none, head := 0,
                               tail := q.cnt % (q.cnt * 2) }
    have hlen : q1.nodes.length = 2 * q.nodes.length := by
      simp only [q1, List.length_append, List.length_replicate, absO_length hcL]; omega
    have hk := push_spec q1 j (abs q) hopen hcap (by rw [hlen]; exact hpow.dbl)
      (show 0 < q1.nodes.length by omega)
      (show q.cnt % (q.cnt * 2) = (0 + q.cnt) % q1.nodes.length by rw [hlen, Nat.zero_add, hfull, Nat.mul_comm])
      (show q.cnt < q1.nodes.length by omega) (Or.inr (show q1.nodes.length / 2 < q.cnt + 1 by omega))
      ((ring_zero (absO_length hcL)).trans hsomes)
    exact ⟨_, if_pos hk.1, hk.2⟩
  · rw [if_neg hfull]
    have hk := push_spec q j (abs q) hopen hcap hpow hh ht (by omega) (by omega) hsomes
    exact ⟨_, if_pos hk.1, hk.2⟩

theorem add_closed (q : Queue) (j : Job) (h : q.closed = true) : add q j = some (q, false) := by
  simp [add, h]

theorem remove_empty (q : Queue) (h : q.cnt = 0) : remove q = some (q, none) := by simp [remove, h]

theorem remove_spec {q : Queue} (hi : QInv q) {j : Job} {rest : List Job} (habs : abs q = j :: rest) :
    ∃ q', remove q = some (q', some j) ∧ QInv q' ∧ abs q' = rest := by
  have hcnt := abs_length hi
  rw [habs, List.length_cons] at hcnt
  have hh := hi.head_lt
  have hcL := hi.cnt_le
  -- the slot at `head` holds `j`, and behind it the ring holds `rest`
  have hpop : q.nodes[q.head] :: ring q.nodes ((q.head + 1) % q.nodes.length) (q.cnt - 1) =
      some j :: rest.map some := by
    rw [← ring_pop hh (by omega), show q.cnt - 1 + 1 = q.cnt by omega, ← List.map_cons, ← habs, ← hi.somes]
    rfl
  have hhead : q.nodes[q.head]? = some (some j) := by rw [List.getElem?_eq_getElem hh, (List.cons.inj hpop).1]
  let q1 : Queue := { q with head := (q.head + 1) % q.nodes.length, cnt := q.cnt - 1 }
  have habs1 : absO q1 = rest.map some := (List.cons.inj hpop).2
  have hh1 : q1.head < q1.nodes.length := Nat.mod_lt _ (by omega)
  have ht1 : q1.tail = (q1.head + q1.cnt) % q1.nodes.length := by
    simp only [q1]; rw [hi.tail_eq, Nat.mod_add_mod]; congr 1; omega
  have hc1 : q1.cnt ≤ q1.nodes.length := by simp only [q1]; omega
  simp only [remove, if_neg (show q.cnt ≠ 0 by omega), hhead, if_neg (show q.nodes.length ≠ 0 by omega)]
  by_cases hshrink : q.nodes.length / 2 ≥ q.initCap ∧ q.cnt - 1 ≤ q.nodes.length / 2
  · -- shrink: happens exactly when cnt-1 = len/2
    have hne : q.nodes.length ≠ q.initCap := by have := hi.cap_pos; omega
    have hbig : q.nodes.length / 2 < q.cnt := hi.size.resolve_left hne
    obtain ⟨hpow', heven⟩ := hi.pow.half hne
    have hn : q1.cnt = q.nodes.length / 2 := by simp only [q1]; omega
    have hl1 : (absO q1).length = q1.cnt := absO_length hc1
    rw [if_pos hshrink, show resize { q with head := (q.head + 1) % q.nodes.length, cnt := q.cnt - 1 }
        (q.nodes.length / 2) = _ from resize_spec q1 _ hh1 ht1 (by omega) hc1 (by omega)]
    let q2 : Queue := { q1 with nodes := absO q1 ++ List.replicate (q.nodes.length / 2 - q1.cnt) none, head := 0,
                                tail := q1.cnt % (q.nodes.length / 2) }
    have hlen2 : q2.nodes.length = q.nodes.length / 2 := by
      simp only [q2, List.length_append, List.length_replicate, hl1]; omega
    have habs2 : absO q2 = rest.map some := (ring_zero hl1).trans habs1
    refine ⟨q2, rfl, ⟨hi.opened, hi.cap_pos, by rw [hlen2]; exact hpow',
      by rw [hlen2]; exact Nat.lt_of_lt_of_le hi.cap_pos hshrink.1, ?_, ?_, ?_, (abs_of_absO habs2).2⟩,
      by rw [(abs_of_absO habs2).1]⟩
    · rw [hlen2]; simp only [q2, Nat.zero_add]
    · rw [hlen2]; exact Nat.le_of_eq hn
    · right; rw [hlen2]; simp only [q2]; omega
  · rw [if_neg hshrink]
    refine ⟨q1, rfl, ⟨hi.opened, hi.cap_pos, hi.pow, hh1, ht1, hc1, ?_, (abs_of_absO habs1).2⟩,
      (abs_of_absO habs1).1⟩
    by_cases hne : q.nodes.length = q.initCap
    · exact Or.inl hne
    · right
      have := (hi.pow.half hne).1.le
      simp only [q1]
      omega

theorem remove_open {q : Queue} (hi : QInv q) :
    (abs q = [] ∧ remove q = some (q, none)) ∨
    ∃ j q', remove q = some (q', some j) ∧ QInv q' ∧ abs q = j :: abs q' := by
  cases habs : abs q with
  | nil => exact Or.inl ⟨rfl, remove_empty q (by rw [← abs_length hi, habs]; rfl)⟩
  | cons j rest =>
    obtain ⟨q', h1, h2, h3⟩ := remove_spec hi habs
    exact Or.inr ⟨j, q', h1, h2, by rw [h3]⟩

theorem resize_closed {q q' : Queue} {n : Nat} (h : resize q n = some q') :
    q'.closed = q.closed ∧ q'.initCap = q.initCap := by
  simp only [resize] at h
  split at h
  · cases h
  · split at h
    · cases h
    · cases h; exact ⟨rfl, rfl⟩

theorem add_closed_flag {q q' : Queue} {j : Job} {b : Bool} (h : add q j = some (q', b)) : q'.closed = q.closed := by
  simp only [add] at h
  split at h
  · cases h; rfl
  · split at h
    · cases h
    · rename_i q1 hq1
      split at h
      · cases h
        split at hq1
        · exact (resize_closed hq1).1
        · cases hq1; rfl
      · cases h

theorem remove_closed_flag {q q' : Queue} {o : Option Job} (h : remove q = some (q', o)) : q'.closed = q.closed := by
  simp only [remove] at h
  split at h
  · cases h; rfl
  · split at h
    · cases h
    · cases h
    · split at h
      · cases h
      · split at h
        · split at h
          · cases h
          · rename_i q2 hq2
            cases h
            exact (resize_closed hq2).1
        · cases h; rfl

theorem close_spec (q : Queue) : (close q).closed = true ∧ (close q).cnt = 0 ∧ abs (close q) = [] := by
  simp [close, abs, absO, rot]

end CentrifugeVerif.Dissolve
