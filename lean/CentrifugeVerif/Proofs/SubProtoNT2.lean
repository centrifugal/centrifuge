import CentrifugeVerif.Proofs.SubProtoNT1
/-!
Layer 1 of the no-timeout invariants: shape of `c.channels` entries, generation bounds, uniqueness of
reservation generations (`L1`).
-/
namespace CentrifugeVerif.SubProto

section
variable {s : State} {tid : Tid} {t t' : Thread} {o : Outcome} {effs : List Eff}

theorem step_closeGate (h : ThreadStep s tid t o effs t') {g : Gen} (hm : Eff.closeGate g ∈ effs) :
    (t.capGate = some g ∧ (t.pc = .sCloseGate ∨ t.pc = .sRbClose ∨ t.pc = .sErrClose)) ∨
    (t.pc = .uRemove ∧ ∃ e0, aget s.channels t.ch = some e0 ∧ e0.gen = t.target ∧ e0.gate = some g) ∨
    (o = .tmo ∧ ∃ e0, aget s.channels t.ch = some e0 ∧ e0.gate = some g) := by
  cases h <;> simp at hm <;> simp_all

/-- a step copies the thread's generations from the thread, from the entry of its channel, or mints one -/
theorem step_thrBound {n : Nat} (h : ThreadStep s tid t o effs t')
    (hn : s.genCounter ≤ n) (hmint : Eff.mint ∈ effs → s.genCounter + 1 ≤ n)
    (hent : ∀ e, aget s.channels t.ch = some e → e.gen ≤ s.genCounter ∧ ∀ g, e.gate = some g → g ≤ s.genCounter)
    (hb : t.resGen ≤ s.genCounter ∧ t.cmdGen ≤ s.genCounter ∧ t.target ≤ s.genCounter ∧ ∀ g, t.capGate = some g → g ≤ s.genCounter) :
    t'.resGen ≤ n ∧ t'.cmdGen ≤ n ∧ t'.target ≤ n ∧ ∀ g, t'.capGate = some g → g ≤ n := by
  obtain ⟨h1, h2, h3, h4⟩ := hb
  have e1 : t.resGen ≤ n := Nat.le_trans h1 hn
  have e2 : t.cmdGen ≤ n := Nat.le_trans h2 hn
  have e3 : t.target ≤ n := Nat.le_trans h3 hn
  have e4 : ∀ g, t.capGate = some g → g ≤ n := fun g hg => Nat.le_trans (h4 g hg) hn
  have e0 : ∀ g : Gen, (none : Option Gen) = some g → g ≤ n := fun _ h => nomatch h
  have ge : ∀ e, aget s.channels t.ch = some e → e.gen ≤ n ∧ ∀ g, e.gate = some g → g ≤ n :=
    fun e he => ⟨Nat.le_trans (hent e he).1 hn, fun g hg => Nat.le_trans ((hent e he).2 g hg) hn⟩
  cases h <;> (try exact ⟨e1, e2, e3, e4⟩) <;> (try exact ⟨e1, e2, e3, e0⟩)
  case reserve => exact ⟨hmint (by simp), e2, e3, e4⟩
  case readGen he _ => exact ⟨e1, (ge _ he).1, e3, e4⟩
  case readGenMint => exact ⟨e1, hmint (by simp), e3, e4⟩
  case readGenNone => exact ⟨e1, hmint (by simp), e3, e4⟩
  case commitClosed he _ _ => exact ⟨e1, e2, e3, (ge _ he).2⟩
  case commit he _ _ => exact ⟨e1, e2, e3, (ge _ he).2⟩
  case errDel he _ => exact ⟨e1, e2, e3, (ge _ he).2⟩
  case snapWait he _ => exact ⟨e1, e2, (ge _ he).1, (ge _ he).2⟩
  case snap he _ => exact ⟨e1, e2, (ge _ he).1, (ge _ he).2⟩
  case pick => exact ⟨e1, e2, Nat.zero_le _, e0⟩

end

structure L1 (s : State) : Prop where
  shape : ∀ ch e, aget s.channels ch = some e →
    (e.subscribed = true → e.gate = none) ∧ (e.subscribed = false → e.gate = some e.gen ∧ e.serverSide = false)
  entBound : ∀ ch e, aget s.channels ch = some e → e.gen ≤ s.genCounter
  thrBound : ∀ tid t, aget s.threads tid = some t →
    t.resGen ≤ s.genCounter ∧ t.cmdGen ≤ s.genCounter ∧ t.target ≤ s.genCounter ∧ ∀ g, t.capGate = some g → g ≤ s.genCounter
  gateBound : ∀ g ∈ s.closedGates, g ≤ s.genCounter
  uniq : ∀ x y tx ty, aget s.threads x = some tx → aget s.threads y = some ty →
    tx.resGen ≠ 0 → tx.resGen = ty.resGen → x = y

theorem L1.gate_gen {s : State} (h : L1 s) {ch : Chan} {e : Entry} (he : aget s.channels ch = some e)
    {g : Gen} (hg : e.gate = some g) : g = e.gen := by
  rcases Bool.eq_false_or_eq_true e.subscribed with hsb | hsb
  · rw [(h.shape ch e he).1 hsb] at hg; cases hg
  · rw [((h.shape ch e he).2 hsb).1] at hg; cases hg; rfl

theorem L1.init : L1 State.init := by
  constructor <;> simp [State.init, aget]

theorem isSub_autoClose : isSub autoClose = false := rfl

theorem next_L1 {s s' : State} {l : Label} (hg : Ghost s) (h : L1 s) (hl : l.noTmo = true)
    (hn : next s l = some s') : L1 s' := by
  cases l with
  | spawn k ch o =>
    simp only [next, Option.some.injEq] at hn
    subst hn
    refine ⟨h.shape, h.entBound, ?_, h.gateBound, ?_⟩
    · intro x u hx
      rcases aget_append_singleton hx with h1 | rfl
      · exact h.thrBound x u h1
      · simp
    · intro x y tx ty hx hy hnz heq
      rcases aget_append_singleton hx with h1 | rfl
      · rcases aget_append_singleton hy with h2 | rfl
        · exact h.uniq x y tx ty h1 h2 hnz heq
        · exact absurd heq hnz
      · exact absurd rfl hnz
  | step tid o =>
    have hnt := Label.noTmo_step hl
    obtain ⟨t, effs, t', hget, hst, rfl⟩ := next_step_some hn
    have hle := genCounter_le_after s tid t' effs
    have hmint : Eff.mint ∈ effs → s.genCounter + 1 ≤ (after s tid t' effs).genCounter := genCounter_lt_after tid t'
    have hself := step_thrBound hst hle hmint
      (fun e he => ⟨h.entBound _ e he, fun g hgate => h.gate_gen he hgate ▸ h.entBound _ e he⟩)
      (h.thrBound tid t hget)
    obtain ⟨hkind, hres⟩ := step_kind_res hst
    refine ⟨?_, ?_, ?_, ?_, ?_⟩
    · -- shape
      intro ch e he
      rcases channels_applyEffs _ _ _ _ he with h1 | h1
      · exact h.shape ch e h1
      · obtain ⟨rfl, hc⟩ := step_chanSet hst h1
        rcases hc with ⟨_, rfl, _⟩ | ⟨_, e0, he0, hz, _⟩ | ⟨_, _, _, _, hsub, hgate, _⟩ | ⟨ho, _⟩
        · simp [Entry.reservation]
        · exact absurd hz (hg.entGen _ _ he0)
        · simp [hsub, hgate]
        · exact absurd ho hnt
    · -- entry bound
      intro ch e he
      rcases channels_applyEffs _ _ _ _ he with h1 | h1
      · exact Nat.le_trans (h.entBound ch e h1) hle
      · obtain ⟨rfl, hc⟩ := step_chanSet hst h1
        rcases hc with ⟨_, rfl, _, hm, _⟩ | ⟨_, e0, he0, hz, _⟩ | ⟨_, _, _, hgen, _⟩ | ⟨ho, _⟩
        · exact hmint hm
        · exact absurd hz (hg.entGen _ _ he0)
        · rw [hgen]; exact Nat.le_trans (h.thrBound tid t hget).2.1 hle
        · exact absurd ho hnt
    · -- thread bounds
      intro x u hx
      rcases aget_threads_after hget hx with ⟨_, h1⟩ | ⟨_, hue⟩ | hue
      · obtain ⟨b1, b2, b3, b4⟩ := h.thrBound x u h1
        exact ⟨Nat.le_trans b1 hle, Nat.le_trans b2 hle, Nat.le_trans b3 hle, fun g hgate => Nat.le_trans (b4 g hgate) hle⟩
      · rw [hue]; exact hself
      · rw [hue]; simp [autoClose]
    · -- closed gates
      intro g hgm
      rcases closedGates_applyEffs _ _ _ hgm with h1 | h1
      · exact Nat.le_trans (h.gateBound g h1) hle
      · rcases step_closeGate hst h1 with ⟨h2, _⟩ | ⟨_, e, he, _, hgate⟩ | ⟨ho, _⟩
        · exact Nat.le_trans ((h.thrBound tid t hget).2.2.2 g h2) hle
        · rw [h.gate_gen he hgate]; exact Nat.le_trans (h.entBound _ e he) hle
        · exact absurd ho hnt
    · -- uniqueness of reservation generations
      intro x y tx ty hx hy hnz heq
      rcases aget_threads_after hget hx with ⟨hx1, hx2⟩ | ⟨hx1, hxe⟩ | hxe <;>
        rcases aget_threads_after hget hy with ⟨hy1, hy2⟩ | ⟨hy1, hye⟩ | hye
      · exact h.uniq x y tx ty hx2 hy2 hnz heq
      · -- x old, y = stepping thread
        rw [hye] at heq
        rcases hres with hr | ⟨_, hr, _⟩
        · rw [hy1]
          exact h.uniq x tid tx t hx2 hget hnz (by rw [heq, hr])
        · have := (h.thrBound x tx hx2).1
          rw [heq, hr] at this
          exact absurd this (Nat.not_succ_le_self _)
      · rw [hye] at heq; simp [autoClose] at heq; exact absurd heq hnz
      · rw [hxe] at heq hnz
        rcases hres with hr | ⟨_, hr, _⟩
        · rw [hx1]
          exact h.uniq tid y t ty hget hy2 (by rw [← hr]; exact hnz) (by rw [← hr, heq])
        · have := (h.thrBound y ty hy2).1
          rw [← heq, hr] at this
          exact absurd this (Nat.not_succ_le_self _)
      · rw [hx1, hy1]
      · rw [hxe] at hnz heq; rw [hye] at heq; simp [autoClose] at heq; exact absurd heq hnz
      · rw [hxe] at hnz; simp [autoClose] at hnz
      · rw [hxe] at hnz; simp [autoClose] at hnz
      · rw [hxe] at hnz; simp [autoClose] at hnz

end CentrifugeVerif.SubProto
