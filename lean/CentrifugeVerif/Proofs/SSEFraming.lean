import CentrifugeVerif.Model.SSE
/-!
How the EventSource state machine consumes the frames written by `handler_sse.go`, frame by frame.
-/
namespace CentrifugeVerif.C32
open CentrifugeVerif.EventSource

/-- no message contains a raw LF or CR byte -/
def NoRawNewline (msgs : List Bytes) : Prop := ∀ m ∈ msgs, ∀ b ∈ m, b ≠ 10 ∧ b ≠ 13

theorem ascii_data_prefix : ascii "data: " = [100, 97, 116, 97, 58, 32] := by decide
theorem ascii_data : ascii "data" = [100, 97, 116, 97] := by decide

theorem step_plain (st : St) (x : UInt8) (h1 : x ≠ 10) (h2 : x ≠ 13) :
    step st x = { st with line := x :: st.line, skipLF := false } := by
  unfold step
  simp [h1, h2]

theorem foldl_plain (xs : Bytes) (st : St) (hx : ∀ b ∈ xs, b ≠ 10 ∧ b ≠ 13) (hs : st.skipLF = false) :
    xs.foldl step st = { st with line := xs.reverse ++ st.line } := by
  induction xs generalizing st with
  | nil => simp
  | cons x xs ih =>
    obtain ⟨hx1, hxs⟩ := List.forall_mem_cons.mp hx
    rw [List.foldl_cons, step_plain st x hx1.1 hx1.2, ih _ hxs rfl]
    cases st
    simp_all

def Clean (st : St) : Prop := st.line = [] ∧ st.data = [] ∧ st.etype = [] ∧ st.skipLF = false

theorem feed_frame (m : Bytes) (st : St) (hm : ∀ b ∈ m, b ≠ 10 ∧ b ≠ 13) (hc : Clean st) :
    (SSE.rawFrame m).foldl step st = { st with out := ⟨[], m, st.lastId⟩ :: st.out } := by
  obtain ⟨h1, h2, h3, h4⟩ := hc
  have hd : ∀ b ∈ ascii "data: ", b ≠ 10 ∧ b ≠ 13 := by decide
  have hpm : ∀ b ∈ ascii "data: " ++ m, b ≠ 10 ∧ b ≠ 13 :=
    fun b hb => (List.mem_append.mp hb).elim (hd b) (hm b)
  unfold SSE.rawFrame
  rw [List.foldl_append, foldl_plain _ _ hpm h4]
  cases st with
  | mk line data etype lastId out skipLF =>
  simp only at h1 h2 h3 h4
  subst h1 h2 h3 h4
  simp [List.foldl, step, processLine, ascii_data_prefix, splitColon, processField, ascii_data, stripSpace, dispatch]

theorem feed_frames (msgs : List Bytes) (st : St) (h : NoRawNewline msgs) (hc : Clean st) :
    (msgs.flatMap SSE.rawFrame).foldl step st =
      { st with out := (msgs.map (fun m => (⟨[], m, st.lastId⟩ : Event))).reverse ++ st.out } := by
  induction msgs generalizing st with
  | nil => simp
  | cons m ms ih =>
    simp only [List.flatMap_cons, List.foldl_append]
    rw [feed_frame m st (h m (by simp)) hc]
    rw [ih _ (fun m' hm' => h m' (by simp [hm']))]
    · simp
    · exact hc

theorem preamble_noop : SSE.preamble.foldl step {} = {} := by decide

end CentrifugeVerif.C32
