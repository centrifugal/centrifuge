import CentrifugeVerif.Model.BPool
/-!
C42: the uint32 bit tricks really compute ⌈log2⌉ / ⌊log2⌋ (`le_pow_nextLogBase2`, `nextLogBase2_le`,
`prevLogBase2_cases`), and what the bucket invariant `Inv` needs to know of buffers and pools.
-/
namespace CentrifugeVerif.BPool

theorem bitLenAux_lt (f x : Nat) (h : x < 2 ^ f) : x < 2 ^ bitLenAux f x := by
  induction f generalizing x with
  | zero => simp at h; simp [bitLenAux, h]
  | succ f ih =>
    unfold bitLenAux
    split
    · next h0 => simp [h0]
    · have := ih (x / 2) (by rw [Nat.pow_succ] at h; omega)
      rw [Nat.add_comm, Nat.pow_succ]; omega

theorem bitLenAux_le_of_lt (f x k : Nat) (h : x < 2 ^ k) : bitLenAux f x ≤ k := by
  induction f generalizing x k with
  | zero => simp [bitLenAux]
  | succ f ih =>
    unfold bitLenAux
    split
    · omega
    · cases k with
      | zero => simp at h; omega
      | succ k =>
        have := ih (x / 2) k (by rw [Nat.pow_succ] at h; omega)
        omega

theorem len32_le : len32 x ≤ 32 := by
  unfold len32
  generalize 32 = f
  induction f generalizing x with
  | zero => simp [bitLenAux]
  | succ f ih => unfold bitLenAux; split; omega; have := @ih (x / 2); omega

/-- `len32 x` is the least `k` with `x < 2^k`: it is positive for `x ≠ 0`, and one less is not enough -/
theorem pow_len32_pred_le (x : Nat) (hx : x ≠ 0) (h : x < 2 ^ 32) : 0 < len32 x ∧ 2 ^ (len32 x - 1) ≤ x := by
  have hlt : x < 2 ^ len32 x := bitLenAux_lt 32 x h
  have hpos : 0 < len32 x := Nat.pos_of_ne_zero fun h0 => by rw [h0] at hlt; omega
  refine ⟨hpos, Nat.le_of_not_lt fun hc => ?_⟩
  have : len32 x ≤ len32 x - 1 := bitLenAux_le_of_lt 32 x _ hc
  omega

theorem two32_eq : two32 = 2 ^ 32 := by decide

theorem nextLogBase2_eq (n : Nat) (h0 : 0 < n) : nextLogBase2 n = len32 (n - 1) := by
  unfold nextLogBase2 dec32
  rw [if_neg (by omega)]

theorem le_pow_nextLogBase2 (n : Nat) (h0 : 0 < n) (h : n < 2 ^ 32) : n ≤ 2 ^ nextLogBase2 n := by
  have := bitLenAux_lt 32 (n - 1) (by omega)
  rw [nextLogBase2_eq n h0]
  unfold len32
  omega

theorem nextLogBase2_le (n k : Nat) (h0 : 0 < n) (h : n ≤ 2 ^ k) : nextLogBase2 n ≤ k := by
  rw [nextLogBase2_eq n h0]
  exact bitLenAux_le_of_lt 32 (n - 1) k (by omega)

theorem shl1_of_lt (n : Nat) (h : n < 32) : shl1 n = 2 ^ n := by
  unfold shl1
  rw [two32_eq]
  exact Nat.mod_eq_of_lt (Nat.pow_lt_pow_right (by omega) h)

/-- `prevLogBase2 c` is `nextLogBase2 c` when `c` is that power of two, and one less otherwise
(the uint32 wrap-arounds in `1 << next` and `next - 1` do not happen for `0 < c < 2^32`) -/
theorem prevLogBase2_cases (c : Nat) (h0 : 0 < c) (h : c < 2 ^ 32) :
    (prevLogBase2 c = nextLogBase2 c ∧ c = 2 ^ nextLogBase2 c) ∨
      (prevLogBase2 c = nextLogBase2 c - 1 ∧ 0 < nextLogBase2 c ∧ 2 ^ (nextLogBase2 c - 1) < c) := by
  have hL : nextLogBase2 c ≤ 32 := len32_le
  unfold prevLogBase2
  simp only
  split
  · next heq =>
    refine Or.inl ⟨rfl, ?_⟩
    rcases Nat.lt_or_ge (nextLogBase2 c) 32 with hl | hl
    · rwa [shl1_of_lt _ hl] at heq
    · rw [show nextLogBase2 c = 32 by omega, show shl1 32 = 0 by decide] at heq; omega
  · next hne =>
    -- `c` is not `1 = 1 << 0`, so `c - 1 ≠ 0` has a positive bit length
    have hc : c - 1 ≠ 0 := fun hc => by
      rw [show c = 1 by omega] at hne; exact hne (by decide)
    have := pow_len32_pred_le (c - 1) hc (by omega)
    rw [← nextLogBase2_eq c h0] at this
    refine Or.inr ⟨?_, this.1, by omega⟩
    unfold dec32
    rw [if_neg (by omega)]

theorem pow_prevLogBase2_le (c : Nat) (h0 : 0 < c) (h : c < 2 ^ 32) : 2 ^ prevLogBase2 c ≤ c := by
  rcases prevLogBase2_cases c h0 h with ⟨h1, h2⟩ | ⟨h1, _, h2⟩ <;> (rw [h1]; omega)

theorem prevLogBase2_le (c k : Nat) (h0 : 0 < c) (h : c ≤ 2 ^ k) (hk : k < 32) : prevLogBase2 c ≤ k := by
  have hn := nextLogBase2_le c k h0 h
  have : 2 ^ k < 2 ^ 32 := Nat.pow_lt_pow_right (by omega) hk
  rcases prevLogBase2_cases c h0 (by omega) with ⟨h1, _⟩ | ⟨h1, _⟩ <;> omega

theorem nextLogBase2G_eq (v : Nat) (h : v ≠ 0) : nextLogBase2G v = nextLogBase2 v := by
  unfold nextLogBase2G nextLogBase2
  rw [if_neg h]
  have := @len32_le (dec32 v)
  omega

theorem prevLogBase2G_eq (v : Nat) (h : v ≠ 0) : prevLogBase2G v = prevLogBase2 v := by
  unfold prevLogBase2G prevLogBase2
  rw [if_neg h]
  simp only [nextLogBase2G_eq v h]

theorem toU32_of_nonneg (l : Int) (h0 : 0 ≤ l) (h : l < (two32 : Int)) : toU32 l = l.toNat := by
  unfold toU32
  rw [Int.emod_eq_of_lt h0 h]

@[simp] theorem Buf.reslice0_len (b : Buf) : b.reslice0.len = 0 := rfl
@[simp] theorem Buf.reslice0_cap (b : Buf) : b.reslice0.cap = b.cap := by
  simp [Buf.reslice0, Buf.cap]
@[simp] theorem Buf.clearVis_cap (b : Buf) : b.clearVis.cap = b.cap := by
  simp [Buf.clearVis, Buf.cap]
@[simp] theorem Buf.clearAll_cap (b : Buf) : b.clearAll.cap = b.cap := by
  simp [Buf.clearAll, Buf.cap]
@[simp] theorem Buf.fresh_len (l c : Nat) : (Buf.fresh l c).len = l := by simp [Buf.fresh, Buf.len]
theorem Buf.fresh_cap (l c : Nat) (h : l ≤ c) : (Buf.fresh l c).cap = c := by
  simp [Buf.fresh, Buf.cap]; omega

/-- all elements of the backing array are zero -/
def Buf.clean (b : Buf) : Prop := ∀ x ∈ b.vis ++ b.hid, x = false

theorem Buf.clean.vis {b : Buf} (h : b.clean) : ∀ x ∈ b.vis, x = false :=
  fun x hx => h x (List.mem_append_left _ hx)

theorem Buf.fresh_clean (l c : Nat) : (Buf.fresh l c).clean := by
  intro x hx
  simp only [Buf.fresh, List.mem_append, List.mem_replicate] at hx
  rcases hx with h | h <;> exact h.2

theorem Buf.reslice_some (b : Buf) (n : Nat) (h : n ≤ b.cap) :
    ∃ b', b.reslice n = some b' ∧ b'.len = n ∧ b'.cap = b.cap ∧ (b.clean → b'.clean) := by
  refine ⟨⟨(b.vis ++ b.hid).take n, (b.vis ++ b.hid).drop n⟩, by simp [Buf.reslice, h], ?_, ?_, fun hc => ?_⟩
  · unfold Buf.cap at h
    simp only [Buf.len, List.length_take, List.length_append]; omega
  · simp only [Buf.cap, List.length_take, List.length_drop, List.length_append]; omega
  · show ∀ x ∈ _ ++ _, _
    rwa [List.take_append_drop]

theorem Buf.clearAll_reslice0_clean (b : Buf) : b.clearAll.reslice0.clean := by
  intro x hx
  simp only [Buf.reslice0, Buf.clearAll, List.nil_append, List.mem_append, List.mem_replicate] at hx
  rcases hx with h | h <;> exact h.2

theorem Buf.clearVis_reslice0_clean (b : Buf) (h : ∀ x ∈ b.hid, x = false) : b.clearVis.reslice0.clean := by
  intro x hx
  simp only [Buf.reslice0, Buf.clearVis, List.nil_append, List.mem_append, List.mem_replicate] at hx
  rcases hx with h' | h'
  · exact h'.2
  · exact h x h'

theorem Pools.mem_add {p : Pools} {i j : Nat} {b x : Buf} (h : x ∈ p.add i b j) :
    (j = i ∧ x = b) ∨ x ∈ p j := by
  unfold Pools.add at h
  split at h
  · next hj => exact (List.mem_cons.mp h).imp_left fun h => ⟨hj, h⟩
  · exact Or.inr h

theorem Pools.mem_remove {p : Pools} {i pos j : Nat} {x : Buf} (h : x ∈ p.remove i pos j) : x ∈ p j := by
  unfold Pools.remove at h
  split at h
  · exact List.mem_of_mem_eraseIdx h
  · exact h

theorem poolGet_some {p : Pools} {i : Nat} {c : Option Nat} {b : Buf} {p' : Pools}
    (h : poolGet p i c = some (b, p')) : b ∈ p i ∧ ∀ j x, x ∈ p' j → x ∈ p j := by
  unfold poolGet at h
  split at h
  · cases h
  · next pos =>
    split at h
    · cases h
    · next b0 hb =>
      cases h
      exact ⟨List.mem_of_getElem? hb, fun j x hx => Pools.mem_remove hx⟩

/-- bucket invariant, parametrised by what is known about a pooled buffer besides its capacity -/
def Inv (P : Buf → Prop) (p : Pools) : Prop := ∀ i b, b ∈ p i → 2 ^ i ≤ b.cap ∧ P b

theorem Inv.empty (P : Buf → Prop) : Inv P Pools.empty := by
  intro i b h; simp [Pools.empty] at h

theorem Inv.remove {P : Buf → Prop} {p : Pools} (h : Inv P p) (i pos : Nat) : Inv P (p.remove i pos) :=
  fun j b hb => h j b (Pools.mem_remove hb)

theorem Inv.add {P : Buf → Prop} {p : Pools} (h : Inv P p) (i : Nat) (b : Buf)
    (hc : 2 ^ i ≤ b.cap) (hb : P b) : Inv P (p.add i b) := by
  intro j x hx
  rcases Pools.mem_add hx with ⟨rfl, rfl⟩ | h'
  · exact ⟨hc, hb⟩
  · exact h j x h'

/-- the shape shared by the three `Put…`: capacity 0 or above the maximum is dropped, else `b'` is filed under `idx` -/
theorem Inv.put {P : Buf → Prop} {p : Pools} (h : Inv P p) {c max idx n : Nat} {b b' : Buf}
    (hb : ¬ (c = 0 ∨ c > max) → 2 ^ idx ≤ b'.cap ∧ P b') :
    Inv P (if c = 0 ∨ c > max then (p, Res.buf b) else if idx ≥ n then (p, .panic) else (p.add idx b', .buf b')).1 := by
  split
  · exact h
  · next hc =>
    split
    · exact h
    · exact h.add _ _ (hb hc).1 (hb hc).2

theorem Inv.poolGet {P : Buf → Prop} {p p' : Pools} {i : Nat} {c : Option Nat} {b : Buf} (h : Inv P p)
    (hg : poolGet p i c = some (b, p')) : Inv P p' ∧ 2 ^ i ≤ b.cap ∧ P b :=
  ⟨fun j x hx => h j x ((poolGet_some hg).2 j x hx), h i b (poolGet_some hg).1⟩

end CentrifugeVerif.BPool
