import CentrifugeVerif.Proofs.ControlUnsub
/-!
# C28 — unsubscribe with an empty channel removes all subscriptions

`Node.Unsubscribe` is documented as: "If a channel is empty string then user will be unsubscribed from all
channels."  Model: `Model/ControlUnsub.lean` (cluster of nodes × connections × their subscriptions × the targeting
options; the hub calls are the regenerated `Gen/ControlCodec.lean` ones, so the remote path is the real codec).
`Mode.fixed` is the code as it is (since /repo commit 770c28ff, the fix for finding C28-1); `Mode.preFix` the code before.

* `node_unsubscribe_empty_all` — **the property, at full strength, for the current code**: for every well-formed
  cluster (any number of nodes and connections), calling node, user, option record and every label-filter semantics,
  after `Node.Unsubscribe(user, "")` every addressed connection — on the calling node and on every other node
  alike — has no subscription left, every other connection is untouched, and the effects are exactly the
  per-channel unsubscribe effects (presence removal when the subscription emitted presence, leave when it emitted
  join/leave, `OnUnsubscribe` callback, unsubscribe push naming that channel) of every subscription the addressed
  connections had.  `node_unsubscribe_empty_state / _effects / _only` restate this pointwise.
* History (pre-fix code, `Mode.preFix`): `prefix_unsubscribe_empty_noop` proves that before the fix the call removed
  nothing for any well-formed cluster and only sent unsubscribe pushes with an empty channel name;
  `prefix_counter_witness` is the decided one-connection instance that was finding C28-1.
* `fixed_eq_prefix_of_ne` : for a non-empty channel the two modes coincide (the fix changed nothing else).
-/
namespace CentrifugeVerif.ControlUnsub
open CentrifugeVerif.Gen.ControlCodec

/-- all connections of a cluster are well formed (`ConnWF`: channel names of a connection are distinct and none is
empty — both are guaranteed by `Client.Subscribe` / the subscribe command and the map type of `c.channels`). -/
def ClusterWF (cluster : List (List Conn)) : Prop := ∀ n ∈ cluster, ∀ c ∈ n, ConnWF c

/-- **Main theorem**: the documented behaviour holds for the code as it is (`Mode.fixed`). -/
theorem node_unsubscribe_empty_all (fm : FilterMatch) (valid : GFilterNode → Bool) (cluster : List (List Conn))
    (i : Nat) (user : String) (o : GUnsubscribeOptions) (hwf : ClusterWF cluster)
    (hvalid : ∀ f, o.labelFilter = some f → valid f = true) :
    nodeUnsubscribe .fixed fm valid cluster i user "" o =
      (cluster.map (specConns fm (localUnsubscribe user "" o)),
       cluster.flatMap (specEvents fm (localUnsubscribe user "" o))) := by
  rw [nodeUnsubscribe_eq, if_pos ((Option.all_eq_true _ _).mpr hvalid)]
  exact clusterUnsubscribe_congr 0 cluster fun n hn =>
    hubUnsubscribe_fixed_empty fm _ (local_ch user "" o) n (hwf n hn)

/-- (1) afterwards every addressed connection has no subscriptions; connections that are not addressed are unchanged. -/
theorem node_unsubscribe_empty_state (fm : FilterMatch) (valid : GFilterNode → Bool) (cluster : List (List Conn))
    (i : Nat) (user : String) (o : GUnsubscribeOptions) (hwf : ClusterWF cluster)
    (hvalid : ∀ f, o.labelFilter = some f → valid f = true) :
    ∀ n' ∈ (nodeUnsubscribe .fixed fm valid cluster i user "" o).1, ∀ c' ∈ n',
      ∃ n ∈ cluster, ∃ c ∈ n, c'.id = c.id ∧ c'.user = c.user ∧ c'.session = c.session ∧ c'.labels = c.labels ∧
        (addressed fm (localUnsubscribe user "" o) c = true → c'.subs = []) ∧
        (addressed fm (localUnsubscribe user "" o) c = false → c' = c) := by
  rw [node_unsubscribe_empty_all fm valid cluster i user o hwf hvalid]
  intro n' hn' c' hc'
  obtain ⟨n, hn, rfl⟩ := List.mem_map.mp hn'
  obtain ⟨c, hc, rfl⟩ := List.mem_map.mp hc'
  refine ⟨n, hn, c, hc, ?_⟩
  by_cases ha : addressed fm (localUnsubscribe user "" o) c = true <;> simp [ha]

/-- (2) every subscription an addressed connection had got the usual per-channel effects. -/
theorem node_unsubscribe_empty_effects (fm : FilterMatch) (valid : GFilterNode → Bool) (cluster : List (List Conn))
    (i : Nat) (user : String) (o : GUnsubscribeOptions) (hwf : ClusterWF cluster)
    (hvalid : ∀ f, o.labelFilter = some f → valid f = true)
    (n : List Conn) (hn : n ∈ cluster) (c : Conn) (hc : c ∈ n)
    (ha : addressed fm (localUnsubscribe user "" o) c = true) (s : Sub) (hs : s ∈ c.subs) :
    let evs := (nodeUnsubscribe .fixed fm valid cluster i user "" o).2
    let u := (localUnsubscribe user "" o).unsubscribe
    Ev.callback c.id s.ch u.Code u.Reason ∈ evs ∧ Ev.push c.id s.ch u.Code u.Reason ∈ evs ∧
      (s.emitPresence = true → Ev.presenceRemove c.id s.ch ∈ evs) ∧
      (s.emitJoinLeave = true → Ev.leave c.id s.ch ∈ evs) := by
  intro evs u
  have hin : ∀ e ∈ effects c.id u s, e ∈ evs := by
    intro e he
    show e ∈ (nodeUnsubscribe .fixed fm valid cluster i user "" o).2
    rw [node_unsubscribe_empty_all fm valid cluster i user o hwf hvalid]
    simp only [List.mem_flatMap, specEvents]
    exact ⟨n, hn, c, hc, by simpa [ha] using ⟨s, hs, he⟩⟩
  refine ⟨hin _ (by simp [effects]), hin _ (by simp [effects]), fun hp => hin _ (by simp [effects, hp]),
    fun hj => hin _ (by simp [effects, hj])⟩

/-- (3) nothing else happens: every effect belongs to a subscription of an addressed connection. -/
theorem node_unsubscribe_empty_only (fm : FilterMatch) (valid : GFilterNode → Bool) (cluster : List (List Conn))
    (i : Nat) (user : String) (o : GUnsubscribeOptions) (hwf : ClusterWF cluster)
    (hvalid : ∀ f, o.labelFilter = some f → valid f = true) :
    ∀ e ∈ (nodeUnsubscribe .fixed fm valid cluster i user "" o).2,
      ∃ n ∈ cluster, ∃ c ∈ n, addressed fm (localUnsubscribe user "" o) c = true ∧
        ∃ s ∈ c.subs, e ∈ effects c.id (localUnsubscribe user "" o).unsubscribe s := by
  rw [node_unsubscribe_empty_all fm valid cluster i user o hwf hvalid]
  intro e he
  simp only [List.mem_flatMap, specEvents] at he
  obtain ⟨n, hn, c, hc, he⟩ := he
  by_cases ha : addressed fm (localUnsubscribe user "" o) c = true
  · simp only [ha, if_true, List.mem_flatMap] at he
    exact ⟨n, hn, c, hc, ha, he⟩
  · simp [ha] at he

/-- **The code before the fix** (`Mode.preFix`): with an empty channel nothing was removed anywhere; every addressed
connection only received an unsubscribe push with an empty channel name. -/
theorem prefix_unsubscribe_empty_noop (fm : FilterMatch) (valid : GFilterNode → Bool) (cluster : List (List Conn))
    (i : Nat) (user : String) (o : GUnsubscribeOptions) (hwf : ClusterWF cluster) :
    (nodeUnsubscribe .preFix fm valid cluster i user "" o).1 = cluster ∧
    ∀ e ∈ (nodeUnsubscribe .preFix fm valid cluster i user "" o).2, ∃ cid code reason, e = Ev.push cid "" code reason := by
  rw [nodeUnsubscribe_eq]
  split
  · rw [clusterUnsubscribe_congr (f := id) 0 cluster fun n hn =>
      hubUnsubscribe_preFix_empty fm _ (local_ch user "" o) n (hwf n hn)]
    refine ⟨List.map_id _, fun e he => ?_⟩
    simp only [List.mem_flatMap] at he
    obtain ⟨n, _, c, _, he⟩ := he
    split at he
    · exact ⟨_, _, _, List.mem_singleton.mp he⟩
    · cases he
  · exact ⟨rfl, fun _ h => nomatch h⟩

/-- one user, one connection on the calling node subscribed to `ch` with presence and join/leave -/
def witnessCluster : List (List Conn) :=
  [[{ id := "c1", user := "u", session := "", labels := [],
      subs := [{ ch := "ch", emitPresence := true, emitJoinLeave := true }] }]]

/-- the witness satisfies the hypotheses of the theorems above -/
example : ClusterWF witnessCluster := by
  intro n hn c hc
  simp only [witnessCluster, List.mem_singleton] at hn
  subst hn
  simp only [List.mem_singleton] at hc
  subst hc
  exact ⟨by decide, by decide⟩

/-- **Pre-fix counter-witness (finding C28-1, fixed by 770c28ff)**: before the fix `Node.Unsubscribe("u", "")` left
the connection subscribed to `ch` and produced a single unsubscribe push with an empty channel name. -/
theorem prefix_counter_witness :
    nodeUnsubscribe .preFix (fun _ _ => true) (fun _ => true) witnessCluster 0 "u" "" {} =
      (witnessCluster, [Ev.push "c1" "" 2000 "server unsubscribe"]) := by decide

/-- the current code on the same witness -/
example :
    nodeUnsubscribe .fixed (fun _ _ => true) (fun _ => true) witnessCluster 0 "u" "" {} =
      ([[{ id := "c1", user := "u", session := "", labels := [], subs := [] }]],
       [Ev.presenceRemove "c1" "ch", Ev.leave "c1" "ch", Ev.callback "c1" "ch" 2000 "server unsubscribe",
        Ev.push "c1" "ch" 2000 "server unsubscribe"]) := by decide

/-- the fix changed nothing for a non-empty channel -/
theorem fixed_eq_prefix_of_ne (fm : FilterMatch) (valid : GFilterNode → Bool) (cluster : List (List Conn)) (i : Nat)
    (user ch : String) (o : GUnsubscribeOptions) (hch : ch ≠ "") :
    nodeUnsubscribe .fixed fm valid cluster i user ch o = nodeUnsubscribe .preFix fm valid cluster i user ch o := by
  have hc : ∀ (c : Conn) (u : GUnsubscribe), clientUnsubscribe .fixed c ch u = clientUnsubscribe .preFix c ch u :=
    fun c u => by simp [clientUnsubscribe, hch]
  have hh : ∀ n, hubUnsubscribe .fixed fm (localUnsubscribe user ch o) n =
      hubUnsubscribe .preFix fm (localUnsubscribe user ch o) n := fun n =>
    (hubUnsubscribe_congr n fun c _ => by rw [local_ch, hc]).trans (hubUnsubscribe_congr n fun _ _ => rfl).symm
  rw [nodeUnsubscribe_eq, nodeUnsubscribe_eq, clusterUnsubscribe_congr 0 cluster fun n _ => hh n,
    clusterUnsubscribe_congr 0 cluster fun _ _ => rfl]

end CentrifugeVerif.ControlUnsub
