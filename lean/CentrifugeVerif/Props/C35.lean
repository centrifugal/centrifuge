import CentrifugeVerif.Gen.PartitionSizes
import CentrifugeVerif.Proofs.PartitionFacts
/-!
# C35 — Sharded PUB/SUB partition tags are balanced and Redis-compatible

Tables: `Gen/PartitionTags<n>.lean`, regenerated from `internal/redispartition/precomputed.go` on
every run.  Slots are computed by the **specification** (`Spec/RedisSlot.lean`: CRC-16/XMODEM bit
by bit + hash-tag rule on the key `{tag}`), not by the package's code; the package's `TagSlot` is
proved equal to it on every well-formed tag (`tagSlot_eq_redis`).

* `tags_distinct_slots`, `tags_redis_compatible`: all nine bundled sizes (16 … 4096), kernel checked.
* `tags_balanced_partial`: for sizes 16 … 512 and **every** cluster size `1 ≤ k ≤ n`, per-node counts
  under the contiguous slot assignment (`SlotToNode`) differ by at most one: the slot list is, by
  kernel evaluation, the arithmetic progression of the centres of `n` buckets of `16384 / n` slots,
  and every such progression is balanced (`spaced_balanced`).  The one-pass checker `checkK` is
  proved sound as well (`balanced_of_check`).
  FULL STATEMENT (`tags_balanced`): the same for sizes 1024, 2048, 4096.  Not proved here; for those
  sizes the compiled driver runs the proved-sound checker on every `k` and the differential run
  compares with the Go functions (see `props/C35/check.py`) — evidence, not proof.
-/
namespace CentrifugeVerif.Partition
open CentrifugeVerif.Gen.PartitionTags
open CentrifugeVerif.Spec

def tagsFor : Nat → List Bytes
  | 16 => tags16 | 32 => tags32 | 64 => tags64 | 128 => tags128 | 256 => tags256
  | 512 => tags512 | 1024 => tags1024 | 2048 => tags2048 | 4096 => tags4096
  | _ => []

/-- the sizes bundled in `precomputed.go` are exactly the ones treated below -/
theorem sizes_eq : sizes = [16, 32, 64, 128, 256, 512, 1024, 2048, 4096] := by decide

/-- `checkK` is sound: if the one-pass checker accepts, per-node counts differ by at most one
(for any slot list and cluster size). -/
theorem balanced_of_check (slots : List Nat) (k : Nat) (h : checkK slots k = true) : Balanced slots k :=
  checkK_sound slots k h

theorem distinct_of_sorted (l : List Nat) (h : strictlyIncreasing l = true) : l.Nodup :=
  strictlyIncreasing_nodup l h

private theorem table_of_size (n : Nat) (hn : n ∈ sizes) : ∃ slots, TableOK n (tagsFor n) slots := by
  rw [sizes_eq] at hn
  simp only [List.mem_cons, List.not_mem_nil, or_false] at hn
  rcases hn with rfl | rfl | rfl | rfl | rfl | rfl | rfl | rfl | rfl
  · exact ⟨_, table16⟩
  · exact ⟨_, table32⟩
  · exact ⟨_, table64⟩
  · exact ⟨_, table128⟩
  · exact ⟨_, table256⟩
  · exact ⟨_, table512⟩
  · exact ⟨_, table1024⟩
  · exact ⟨_, table2048⟩
  · exact ⟨_, table4096⟩

/-- **Distinct slots**: for every bundled size `n`, the table has `n` tags and they map to `n`
pairwise distinct Redis hash slots (in strictly increasing order). -/
theorem tags_distinct_slots (n : Nat) (hn : n ∈ sizes) :
    (tagsFor n).length = n ∧ (slotsOf (tagsFor n)).length = n ∧ (slotsOf (tagsFor n)).Nodup ∧
      (slotsOf (tagsFor n)).Pairwise (· < ·) := by
  obtain ⟨_, h⟩ := table_of_size n hn
  refine ⟨h.len, by simp [slotsOf, h.len], ?_, ?_⟩
  · rw [h.slotsEq]
    exact strictlyIncreasing_nodup _ h.sorted
  · rw [h.slotsEq]
    exact strictlyIncreasing_pairwise _ h.sorted

/-- **Redis compatibility**: every bundled tag is non-empty and consists of `0-9a-z` only, so as a
hash tag `{tag}` Redis hashes exactly the tag bytes; the package's own `TagSlot` returns the slot
Redis computes; the slot is a valid slot number. -/
theorem tags_redis_compatible (n : Nat) (hn : n ∈ sizes) (t : Bytes) (ht : t ∈ tagsFor n) :
    tagWF t = true ∧ RedisSlot.hashTag (tagKey t) = t ∧ tagSlot t = RedisSlot.slot (tagKey t) ∧
      RedisSlot.slot (tagKey t) < 16384 := by
  obtain ⟨_, h⟩ := table_of_size n hn
  have hw := List.all_eq_true.1 h.wf t ht
  refine ⟨hw, hashTag_tagKey t hw, tagSlot_eq_redis t hw, ?_⟩
  unfold RedisSlot.slot RedisSlot.totalSlots
  exact Nat.mod_lt _ (by decide)

/-- **Balance** (partial: sizes ≤ 512; see the header for the full statement): for every cluster
size `1 ≤ k ≤ n` the partitions spread over the `k` nodes with per-node counts differing by at
most one. -/
theorem tags_balanced_partial (n : Nat) (hn : n ∈ [16, 32, 64, 128, 256, 512]) (k : Nat) (h1 : 1 ≤ k) (h2 : k ≤ n) :
    Balanced (slotsOf (tagsFor n)) k := by
  simp only [List.mem_cons, List.not_mem_nil, or_false] at hn
  rcases hn with rfl | rfl | rfl | rfl | rfl | rfl
  · exact table_balanced table16 spaced16 rfl (by decide) k h1 h2
  · exact table_balanced table32 spaced32 rfl (by decide) k h1 h2
  · exact table_balanced table64 spaced64 rfl (by decide) k h1 h2
  · exact table_balanced table128 spaced128 rfl (by decide) k h1 h2
  · exact table_balanced table256 spaced256 rfl (by decide) k h1 h2
  · exact table_balanced table512 spaced512 rfl (by decide) k h1 h2

/-- a concrete instance: 16 partitions on 3 nodes → counts 5, 6, 5 -/
example : countOn (slotsOf tags16) 3 0 = 5 ∧ countOn (slotsOf tags16) 3 1 = 6 ∧ countOn (slotsOf tags16) 3 2 = 5 := by
  rw [table16.slotsEq]; decide +kernel

/-- the checker really rejects an unbalanced placement (two slots on the same node of two) -/
example : checkK [0, 1] 2 = false := by decide

end CentrifugeVerif.Partition
