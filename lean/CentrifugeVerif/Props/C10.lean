import CentrifugeVerif.Proofs.Bracket
/-!
# C10 — channel pushes are bracketed by the subscription's start and end

Model: `Model/Bracket.lean` (one connection × one channel; subscriber, unsubscriber, any number of
broadcasters, writer goroutine, per-channel batch timer as threads; every label one lock region or
external call of the Go code; the transport frame log `wire` is part of the state).

Full statement (DESIGN `bracket`): for EVERY configuration and every reachable state, `wire` is
well-bracketed.  That statement is FALSE of the code — the model, which mirrors the code, exhibits
counter-witnesses (below, each also replayed on the real code by the check):

* C10-1  offset-0 publication before the subscribe reply — FIXED in /repo by commit 9c975f8e
  (`offset0Checked = true` is now the code as it is; the witness is kept for the pre-fix mode
  `offset0Checked = false` and the check reports a regression as a violation),
* C10-2  server-side subscribe commits before it writes the subscribe push,
* C10-3  `ReplyWithoutQueue`: the unsubscribe reply overtakes queued pushes,
* C10-4  per-channel batching: `perChannelWriter.Add` after `delWriter`.

What is proved: `bracket_partial` — for the configurations `Good` (offset-0 publications checked =
the current code, client-side subscription, replies through the queue, no per-channel batching,
subscribe/unsubscribe calls for the channel not overlapping), for ALL interleavings of any number of
subscribe/unsubscribe cycles, broadcasts of all four kinds (the offset-0 path included, at full
strength), positioned or not, and writer steps, the frame log is well-bracketed in every reachable
state — also the frames still queued.
Missing for the full theorem: exactly the three open configurations/defects C10-2..4.
-/
namespace CentrifugeVerif.Bracket

/-- the whole emission order is bracketed: nothing that is already queued can break the log later. -/
theorem bracket_partial_emitted (cfg : Cfg) (hg : Good cfg) (s : State) (hr : Reachable cfg s) :
    wellBracketed (s.wire ++ s.inflight ++ s.queue) = true := by
  obtain ⟨o, hi⟩ := inv_reachable hg hr
  rw [← emitted, wellBracketed, hi.scan]
  rfl

/-- `bracket` for the current code (offset-0 path checked), restricted to the configurations where it holds. -/
theorem bracket_partial (cfg : Cfg) (hg : Good cfg) (s : State) (hr : Reachable cfg s) :
    wellBracketed s.wire = true := by
  have h := bracket_partial_emitted cfg hg s hr
  rw [List.append_assoc] at h
  exact scanFrom_prefix h

/-- a push is only ever written while the subscription is committed or being torn down:
consequence used by the harness oracle (a committed subscription implies an open bracket). -/
theorem subscribed_open (cfg : Cfg) (hg : Good cfg) (s : State) (hr : Reachable cfg s) (g : Nat)
    (hc : s.chan = some (g, true)) : scanFrom false (s.wire ++ s.inflight ++ s.queue) = some true := by
  obtain ⟨o, hi⟩ := inv_reachable hg hr
  obtain rfl : o = true := (hc ▸ hi.ctl).open_of_live
  exact hi.scan

/-! ### non-vacuity of the hypotheses -/

def cfgFixed (positioned : Bool) : Cfg :=
  { serverSide := false, positioned := positioned, batching := false, rwq := false,
    offset0Checked := true, serial := true, pubSerial := false }

example : Good (cfgFixed true) := ⟨rfl, rfl, rfl, rfl, rfl⟩
example : Good (cfgFixed false) := ⟨rfl, rfl, rfl, rfl, rfl⟩

/-- a full cycle in a `Good` configuration: subscribe, a join parked across the check, a checked
offset-0 publication, unsubscribe; the frame log is `S, P0, J, E`. -/
example :
    (run (cfgFixed false) State.init
      [.sSpawn, .sStep, .sStep, .bStart .pub0 1, .bCheck 0, .sStep, .sStep, .sStep, .sStep, .sStep, .sStep, .sStep,
       .bStart .pub0 2, .bStart .join 3, .bCheck 0, .bCheck 0, .bEnqueue 0, .bEnqueue 0,
       .uSpawn false, .uStep, .uStep, .uStep, .wGrab, .wWrite]).map (·.wire)
      = some [.subStart, .push .pub0 2, .push .join 3, .subEnd] := by decide

/-! ### counter-witnesses: the full statement does not hold -/

/-- the code as it is (since 9c975f8e) -/
def asIs (ss pos bat rwq : Bool) : Cfg :=
  { serverSide := ss, positioned := pos, batching := bat, rwq := rwq,
    offset0Checked := true, serial := true, pubSerial := true }

/-- the code before 9c975f8e -/
def preFix (ss pos bat rwq : Bool) : Cfg := { asIs ss pos bat rwq with offset0Checked := false }

/-- C10-1 (pre-fix mode only): a publication without offset lands between hub add and the subscribe
reply and is written first (client-side, non-positioned; the same path exists for positioned
subscriptions). -/
example :
    ∃ s, run (preFix false false false false) State.init
      [.sSpawn, .sStep, .sStep, .bStart .pub0 1, .bEnqueue 0, .wGrab, .wWrite] = some s ∧
      s.wire = [.push .pub0 1] ∧ wellBracketed s.wire = false := by decide

/-- … and in the current code the same labels are no longer a path: the publication is dropped at the
`flagSubscribed` check, there is nothing to enqueue. -/
example :
    run (asIs false false false false) State.init
      [.sSpawn, .sStep, .sStep, .bStart .pub0 1, .bCheck 0, .bEnqueue 0] = none := by decide

/-- C10-2: server-side subscribe, a join delivered between `commitSubscription` and the subscribe push. -/
example :
    ∃ s, run (asIs true false false false) State.init
      [.sSpawn, .sStep, .sStep, .sStep, .sStep, .sStep, .sStep, .bStart .join 1, .bCheck 0, .bEnqueue 0,
       .wGrab, .wWrite] = some s ∧
      s.wire = [.push .join 1] ∧ wellBracketed s.wire = false := by decide

/-- C10-3: `ReplyWithoutQueue`, a publication dequeued by the writer but not yet written is overtaken
by the directly written unsubscribe reply. -/
example :
    ∃ s, run (asIs false false false true) State.init
      [.sSpawn, .sStep, .sStep, .sStep, .sStep, .sStep, .sStep, .sStep, .sStep, .sStep,
       .bStart .pubPos 1, .bCheck 0, .bEnqueue 0, .wGrab,
       .uSpawn false, .uStep, .uStep, .uStep, .wWrite] = some s ∧
      s.wire = [.subStart, .subEnd, .push .pubPos 1] ∧ wellBracketed s.wire = false := by decide

/-- C10-4: per-channel batching, `Add` after `delWriter`, flushed by the delay timer after the
unsubscribe reply. -/
example :
    ∃ s, run (asIs false false true false) State.init
      [.sSpawn, .sStep, .sStep, .sStep, .sStep, .sStep, .sStep, .sStep, .sStep, .sStep, .wGrab, .wWrite,
       .bStart .pubPos 1, .bCheck 0, .uSpawn false, .uStep, .bEnqueue 0, .uStep, .uStep, .wGrab, .wWrite,
       .tFlush, .wGrab, .wWrite] = some s ∧
      s.wire = [.subStart, .subEnd, .push .pubPos 1] ∧ wellBracketed s.wire = false := by decide

/-- without the `serial` assumption untagged frames are ambiguous: a late unsubscribe push of the
previous subscription lands inside the next one (not claimed as a violation of the property text,
see the check's assumptions). -/
example :
    ∃ s, run { cfgFixed false with serial := false } State.init
      [.sSpawn, .sStep, .sStep, .sStep, .sStep, .sStep, .sStep, .sStep, .sStep, .sStep,
       .uSpawn true, .uStep, .uStep,
       .sSpawn, .sStep, .sStep, .sStep, .sStep, .sStep, .sStep, .sStep, .sStep, .sStep,
       .uStep, .bStart .join 1, .bCheck 0, .bEnqueue 0, .wGrab, .wWrite] = some s ∧
      s.wire = [.subStart, .subStart, .subEnd, .push .join 1] ∧ wellBracketed s.wire = false := by decide

end CentrifugeVerif.Bracket
