import CentrifugeVerif.Proofs.Survey
import CentrifugeVerif.Gen.SurveyAddr
/-!
# C41 — Survey collects one answer per node and terminates

Property theorems over `Model/Survey.lean` (invariant in `Proofs/Survey.lean`).  `Reach s`: `s` is
reachable by any finite sequence of labels — any number of concurrent `Survey` calls, responses in
any order, duplicated, late, addressed to any id (active, finished, never issued), from any uid,
deadlines at any time, publish failures, local replies at any time.
-/
namespace CentrifugeVerif.Survey

/-- **`survey_result_keys`**: in every reachable state, for every Survey call: the collected results
and the returned map hold at most one entry per node uid, every entry was carried by a message whose
id field is this survey's own id, and there are never more entries than expected nodes. -/
theorem survey_result_keys {s : State} (h : Reach s) (t : Nat) (sv : Sv) (ht : s.surveys[t]? = some sv) :
    (uids sv.results).Nodup ∧ (∀ r ∈ sv.results, r.forId = sv.id) ∧ sv.results.length ≤ sv.numNodes ∧
    (uids sv.returned).Nodup ∧ (∀ r ∈ sv.returned, r.forId = sv.id) ∧ sv.returned.length ≤ sv.numNodes := by
  have hi := (reach_inv h).each t sv ht
  have hret : sv.returned = sv.results ∨ sv.returned = [] := by
    by_cases hm : sv.main = .returnedOk
    · exact Or.inl (hi.returned_ok hm).2.1
    · exact Or.inr (hi.not_returned hm)
  rcases hret with e | e
  · rw [e]; exact ⟨hi.res_nodup, hi.res_for, hi.res_le, hi.res_nodup, hi.res_for, hi.res_le⟩
  · rw [e]; exact ⟨hi.res_nodup, hi.res_for, hi.res_le, List.nodup_nil, nofun, Nat.zero_le _⟩

/-- survey ids are never reused: distinct calls have distinct ids, so a response is routed to at most
one call. -/
theorem survey_ids_distinct {s : State} (h : Reach s) (t t' : Nat) (sv sv' : Sv)
    (ht : s.surveys[t]? = some sv) (ht' : s.surveys[t']? = some sv') (hid : sv.id = sv'.id) : t = t' := by
  have h1 := ((reach_inv h).each t sv ht).id_eq
  have h2 := ((reach_inv h).each t' sv' ht').id_eq
  omega

/-- **`survey_returns`**, safety half: a Survey call that has returned without a context error holds
exactly `numNodes` results; the collector is running only while fewer than `numNodes` distinct nodes
have been collected (it stops in the very step that collects the last one); it has stopped only
because the count was reached or the context was done. -/
theorem survey_returns {s : State} (h : Reach s) (t : Nat) (sv : Sv) (ht : s.surveys[t]? = some sv) :
    (sv.main = .returnedOk → sv.retErr = false → sv.returned.length = sv.numNodes) ∧
    (sv.coll = .collecting → sv.results.length < sv.numNodes ∨ sv.numNodes = 0) ∧
    (sv.coll = .done → sv.results.length = sv.numNodes ∨ sv.ctxDone = true) := by
  have hi := (reach_inv h).each t sv ht
  refine ⟨fun hm hr => ?_, hi.collecting_lt, hi.done_why⟩
  rw [(hi.returned_ok hm).2.1]
  exact (hi.returned_ok hm).2.2 hr

/-- **`survey_returns`**, progress half (no fairness needed: the labels are *enabled*, and they are the
survey's own internal steps): a call that waits in `wg.Wait()` and whose context is done or whose
collector has finished reaches `return` within two of its own steps, whatever the other surveys do. -/
theorem survey_return_enabled {s : State} (h : Reach s) (t : Nat) (sv : Sv) (ht : s.surveys[t]? = some sv)
    (hw : sv.main = .waiting) (hready : sv.coll = .done ∨ sv.ctxDone = true) :
    ∃ ls s' sv', ls.length ≤ 2 ∧ run s ls = some s' ∧ s'.surveys[t]? = some sv' ∧ sv'.main = .returnedOk ∧
      sv'.registered = false := by
  have ret : ∀ (s : State) (sv : Sv), s.surveys[t]? = some sv → sv.main = .waiting → sv.coll = .done →
      ∃ s' sv', run s [.ret t] = some s' ∧ s'.surveys[t]? = some sv' ∧ sv'.main = .returnedOk ∧
        sv'.registered = false := by
    intro s sv ht hw hd
    have hlt : t < s.surveys.length := (List.getElem?_eq_some_iff.mp ht).1
    let sv' : Sv := { sv with main := .returnedOk, registered := false, returned := sv.results, retErr := sv.ctxDone }
    have hn : next s (.ret t) = some (upd s t sv') := by simp [next, ht, hw, hd, sv']
    exact ⟨upd s t sv', sv', by simp only [run, hn], by simp [upd, hlt], rfl, rfl⟩
  by_cases hd : sv.coll = .done
  · obtain ⟨s', sv', hr, h1, h2, h3⟩ := ret s sv ht hw hd
    exact ⟨_, s', sv', by simp, hr, h1, h2, h3⟩
  · have hc : sv.coll = .collecting := by
      cases hcoll : sv.coll with
      | notStarted =>
        have := (((reach_inv h).each t sv ht).not_started hcoll).2
        rw [hw] at this; cases this
      | collecting => rfl
      | done => exact absurd hcoll hd
    have hlt : t < s.surveys.length := (List.getElem?_eq_some_iff.mp ht).1
    have h1 : next s (.collExit t) = some (upd s t { sv with coll := .done }) := by
      simp [next, ht, hc, hready.resolve_left hd]
    obtain ⟨s', sv', hr, h2, h3, h4⟩ := ret (upd s t { sv with coll := .done }) { sv with coll := .done } (by simp [upd, hlt]) hw rfl
    exact ⟨[.collExit t, .ret t], s', sv', by simp, by simpa only [run, h1] using hr, h2, h3, h4⟩

/-- a collector with a buffered reply can always take it; with the deadline passed it can always exit -/
theorem collector_enabled (s : State) (t : Nat) (sv : Sv) (ht : s.surveys[t]? = some sv)
    (hc : sv.coll = .collecting) :
    (sv.chan ≠ [] → (next s (.collect t)).isSome = true) ∧
    (sv.ctxDone = true → (next s (.collExit t)).isSome = true) := by
  constructor
  · intro hne
    simp only [next, ht, hc]
    cases hch : sv.chan with
    | nil => exact absurd hch hne
    | cons r rest => simp
  · intro hd
    simp [next, ht, hc, hd]

/-- **`response_never_blocks`**: `handleSurveyResponse` is a single label that is enabled in *every*
state, for any uid, any id (active, finished, never issued), any number of earlier duplicates and any
number of concurrent surveys. -/
theorem response_never_blocks (s : State) (uid : Uid) (id code : Nat) :
    (next s (.response uid id code)).isSome = true := by
  simp only [next]
  split <;> rfl

/-- **`foreign_isolated`**: a response carrying id `id` leaves every Survey call with another id — and
every call that is no longer registered (late response) — completely unchanged; no call is added or
removed and the id counter does not move. -/
theorem foreign_isolated (s s' : State) (uid : Uid) (id code : Nat)
    (h : next s (.response uid id code) = some s') :
    s'.surveyID = s.surveyID ∧ s'.surveys.length = s.surveys.length ∧
    ∀ (t : Nat) (sv : Sv), s.surveys[t]? = some sv → (sv.id ≠ id ∨ sv.registered = false) →
      s'.surveys[t]? = some sv := by
  simp only [next] at h
  split at h
  · cases h; exact ⟨rfl, rfl, fun _ _ h _ => h⟩
  · cases h
    refine ⟨rfl, deliver_length _ _, ?_⟩
    intro t sv ht hne
    rcases deliver_get (Reply.mk uid code id) s.surveys t sv ht with h1 | ⟨_, hreg, hid, _⟩
    · exact h1
    · rcases hne with hne | hne
      · exact absurd hid hne
      · rw [hne] at hreg; cases hreg

/-- what a response can do to the call it *is* addressed to: nothing, or append itself to that call's
buffered channel when there is room — results, returned value, control state are never touched by a
delivery (no corruption). -/
theorem response_effect (s s' : State) (uid : Uid) (id code : Nat)
    (h : next s (.response uid id code) = some s') (t : Nat) (sv : Sv) (ht : s.surveys[t]? = some sv) :
    s'.surveys[t]? = some sv ∨
    (s'.surveys[t]? = some { sv with chan := sv.chan ++ [Reply.mk uid code id] } ∧
      sv.registered = true ∧ sv.id = id ∧ sv.chan.length < sv.numNodes) := by
  simp only [next] at h
  split at h
  · cases h; exact Or.inl ht
  · cases h
    exact deliver_get (Reply.mk uid code id) s.surveys t sv ht

/-- **addressing of the response** (over `Gen/SurveyAddr.lean`, regenerated from `node.go` on every
run): inside `handleSurveyRequest` the one `publishControl` call is given exactly the parameter that
names the requesting node, and `handleControl` passes the sender uid of the request command as that
parameter.  Together with the Controller contract (a non-empty node id = deliver to that node only)
this is what makes the model's `response` label apply to the requester's state only; a response
broadcast with an empty node id would reach other nodes' surveys that happen to have the same
per-node id. -/
theorem survey_response_addressed_to_requester :
    Gen.SurveyAddr.responseTargets = [Gen.SurveyAddr.requesterParam] ∧
    Gen.SurveyAddr.requestCallArgSource = "cmd.Uid" := by decide

/-- a response from the node's own uid is dropped by `handleControl` -/
theorem own_uid_dropped (s : State) (id code : Nat) : next s (.response selfUid id code) = some s := by
  simp [next]

/-- the hypotheses are satisfiable by a non-trivial run: two concurrent surveys over 2 nodes; a
duplicate, a foreign-id and a cross-addressed response; survey 0 completes, survey 1 hits its deadline. -/
example :
    ∃ s, run init exampleRun = some s ∧ Reach s ∧
      (s.surveys.map (fun sv => (sv.main, sv.retErr, sv.returned.map (fun r => (r.uid, r.code))))) =
        [(.returnedOk, false, [(1, 8), (0, 3)]), (.returnedOk, true, [(1, 5)])] := by
  refine ⟨_, rfl, ?_, by decide⟩
  exact reach_run exampleRun Reach.init rfl

/-- Outside the statement, recorded because the model shows it: the *local* reply is a blocking send.
After the collector has exited, `numNodes` late responses can fill the channel while the registry
entry still exists (here: `Survey` is still inside `publishControl`), and a local handler that calls
its callback after that blocks forever (label not enabled). -/
example :
    ∃ s, run init [.begin 1, .spawn 0, .ctxDone 0, .collExit 0, .response 1 1 4] = some s ∧
      next s (.localReply 0 1) = none := by
  refine ⟨_, rfl, ?_⟩
  decide

end CentrifugeVerif.Survey
