import CentrifugeVerif.Proofs.MapSub
/-!
# C22 — map subscriptions converge to the broker state

Model: `Model/MapSub.lean`.  The broker keeps the complete change log of the epoch as ghost state (offsets
are log positions), the stream is the window `(lo, top]`; trimming (`trimTo`), stream expiry
(`expireStream`), key expiry (`remove`) and `clear` are explicit operations, so every statement below is
about an arbitrary reachable log / window, i.e. about every interleaving of broker operations with the
protocol's reads (the reads are the only points where the protocol observes the broker; operations and reads
are atomic under the hub lock).

Former findings C22-1 … C22-4 (stream TTL expiry with an empty read; position 0 with a trimmed stream) were fixed in
/repo by 5b9907a0; `c22_expired_now_detected` and `c22_since_zero_now_detected` show the fixed behaviour.
Not proved: the composition of `handle` over whole sessions (control flow of the three phase handlers) is
tied by trace validation only; `map_converges_partial` assumes what the state phase establishes (by
`page_entry_sound` / `page_entry_complete` and pagination coverage, C21); ordered channels are not modelled.
-/
namespace CentrifugeVerif.MapSub

/-- While the stream still holds every change after the client's position and the epoch matches,
`Node.MapStreamRead` returns exactly the next changes after that position, in order, up to the limit, together
with the broker's current position. -/
theorem stream_read_exact (b : Broker) (since : Pos) (lim : Option Nat)
    (hep : since.ep = 0 ∨ since.ep = b.epoch) (hlo : b.lo ≤ since.off) :
    nodeStreamRead b since lim = some (takeOpt lim (after b since.off), b.pos) := by
  have hcond : ¬ (since.ep ≠ 0 ∧ since.ep ≠ b.epoch) := by
    rcases hep with h | h <;> simp [h]
  rw [nodeStreamRead, readStream_eq b since lim hcond, Nat.max_eq_left hlo]
  by_cases hl0 : lim = some 0
  · simp only [if_pos hl0]
  · -- no page starts beyond `since.off + 1`, and an empty one means nothing is left
    rcases takeOpt_after_cases b since.off lim hl0 with ⟨hge, hnil⟩ | ⟨_, p, r, hcons, hp⟩
    · simp only [if_neg hl0, hnil, Broker.pos, if_neg (Nat.not_lt_of_ge hge)]
    · simp only [if_neg hl0, hcons, hp, gt_iff_lt, Nat.lt_irrefl, if_false]

/-- Every gap is detected (full strength since fix 5b9907a0): if changes after the client's position
were trimmed or expired, the read answers unrecoverable-position - also when the stream is empty and when
the position is 0.  `Limit = 0` reads are not checked, hence `hlim`. -/
theorem stream_read_gap_detected (b : Broker) (since : Pos) (lim : Option Nat)
    (hgap : since.off < b.lo) (hinv : b.lo ≤ b.top) (hlim : lim ≠ some 0) :
    nodeStreamRead b since lim = none := by
  rw [nodeStreamRead]
  by_cases hcond : since.ep ≠ 0 ∧ since.ep ≠ b.epoch
  · rw [readStream, if_pos hcond]
  · -- the window starts at `lo`: a page starts at `lo + 1 > since.off + 1`, an empty one has `top > since.off`
    rw [readStream_eq b since lim hcond, Nat.max_eq_right (Nat.le_of_lt hgap)]
    rcases takeOpt_after_cases b b.lo lim hlim with ⟨_, hnil⟩ | ⟨_, p, r, hcons, hp⟩
    · simp only [if_neg hlim, hnil, Broker.pos, if_pos (Nat.lt_of_lt_of_le hgap hinv)]
    · simp only [if_neg hlim, hcons, hp, gt_iff_lt, Nat.add_lt_add_iff_right, if_pos hgap]

/-- The recovery transition reads the stream since the client's position with
limit `L+1` and answers success (`Recovered = true`) only if at most `L` publications came back.  Then the
publications it returned are *all* changes after the client's position - for every log and every stream
window, i.e. every interleaving of publishes, removes, key expirations, trimming and stream expiry. -/
theorem never_false_recovered (b : Broker) (since : Pos) (L : Nat) (pubs : List Pub) (pos : Pos)
    (hep : since.ep = 0 ∨ since.ep = b.epoch) (hinv : b.lo ≤ b.top)
    (hread : nodeStreamRead b since (some (L + 1)) = some (pubs, pos)) (hlen : pubs.length ≤ L) :
    pubs = after b since.off ∧ pos = b.pos := by
  by_cases hgap : since.off < b.lo
  · rw [stream_read_gap_detected b since _ hgap hinv (by simp)] at hread
    cases hread
  · rw [stream_read_exact b since _ hep (Nat.le_of_not_lt hgap)] at hread
    simp only [takeOpt, Option.some.injEq, Prod.mk.injEq] at hread
    obtain ⟨h1, h2⟩ := hread
    refine ⟨?_, h2.symm⟩
    -- `L + 1` was asked for and at most `L` came back, so the page was not cut
    have hlen := congrArg List.length h1
    rw [List.length_take] at hlen
    rw [← h1, List.take_of_length_le (by omega)]

example : nodeStreamRead { log := [⟨"a", some 1⟩, ⟨"b", some 2⟩], lo := 0, st := [] } ⟨1, 1⟩ (some 3)
    = some ([⟨2, "b", some 2⟩], ⟨2, 1⟩) := by decide

/-! ### state pages against the frozen snapshot -/

/-- `channel.state` after the changes `log`, from an empty channel. -/
def snapshot (log : List Change) : KVO := semL (fun _ => none) 0 log

theorem snapshot_append (l1 l2 : List Change) :
    snapshot (l1 ++ l2) = semL (snapshot l1) l1.length l2 := by
  rw [snapshot, semL_append, Nat.zero_add]
  rfl

/-- an entry shown by a state read after `l2' ` more changes, whose offset is ≤ the frozen offset `|l1|`, is
the frozen snapshot's entry, and its key was not changed since. -/
theorem page_entry_sound (l1 l2' : List Change) (k : String) (v o : Nat)
    (h : snapshot (l1 ++ l2') k = some (v, o)) (ho : o ≤ l1.length) :
    snapshot l1 k = some (v, o) ∧ ¬ touched k l2' := by
  rw [snapshot_append] at h
  exact semL_old_entry _ _ _ _ _ _ h ho

/-- a key not changed since the frozen offset is still shown with its frozen entry. -/
theorem page_entry_complete (l1 l2' : List Change) (k : String) (h : ¬ touched k l2') :
    snapshot (l1 ++ l2') k = snapshot l1 k := by
  rw [snapshot_append]
  exact semL_untouched _ _ _ _ h

/-- the state without the offsets: what a converged client holds. -/
def vals (m : KVO) : KV := fun k => (m k).map (·.1)

/-- `l1` = the log when the first state page was read (frozen offset
`|l1|`), `l2` = everything that happened afterwards (any interleaving of publishes, removes, key
expirations).  If the client's map agrees with the frozen snapshot on the keys `l2` does not touch, then after
applying `l2` in order the client holds exactly the broker's state. -/
theorem map_converges_partial (l1 l2 : List Change) (M : KV)
    (hagree : ∀ k, ¬ touched k l2 → M k = vals (snapshot l1) k) :
    applyAll M l2 = vals (snapshot (l1 ++ l2)) := by
  rw [snapshot_append]
  unfold vals
  rw [semL_vals]
  exact applyAll_agree M _ l2 hagree

example : ∀ k, ¬ touched k [⟨"b", none⟩] →
    (fun k => if k = "a" then some 1 else none : KV) k = vals (snapshot [⟨"a", some 1⟩, ⟨"b", some 2⟩]) k := by
  intro k hk
  have hb : k ≠ "b" := fun e => hk ⟨_, List.mem_cons_self, e.symm⟩
  by_cases ha : k = "a"
  · subst ha; decide
  · simp [vals, snapshot, semL, updO, ha, hb]

/-! ### the two former holes of the trim detection (findings C22-1..4, fixed by 5b9907a0) -/

def expiredBroker : Broker :=
  ((({} : Broker).apply (.publish "a" 1)).apply (.publish "b" 2) |>.apply (.publish "c" 3)).apply .expireStream

/-- formerly C22-1/C22-2: after stream TTL expiry a recovery from offset 2 (< top = 3) read nothing without
error and the transition answered `Recovered = true`; now the read is unrecoverable-position (error 112). -/
theorem c22_expired_now_detected :
    nodeStreamRead expiredBroker ⟨2, 1⟩ (some 1001) = none ∧
    after expiredBroker 2 = [⟨3, "c", some 3⟩] ∧
    transition {} ⟨2, 1⟩ true true [] (nodeStreamRead expiredBroker ⟨2, 1⟩ (some 1001)) [] =
      .reply (.err 112) none none := by
  decide

def trimmedBroker : Broker :=
  (((({} : Broker).apply (.publish "a" 1)).apply (.publish "b" 2)).apply (.publish "c" 3)).apply (.trimTo 1)

/-- formerly C22-3/C22-4: with position 0 the detection was skipped; now detected. -/
theorem c22_since_zero_now_detected :
    nodeStreamRead trimmedBroker ⟨0, 1⟩ (some 1001) = none ∧ (after trimmedBroker 0).length = 3 := by
  decide

end CentrifugeVerif.MapSub
