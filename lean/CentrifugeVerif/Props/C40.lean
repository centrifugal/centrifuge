import CentrifugeVerif.Proofs.DissolveSys
/-!
# C40 — Deferred jobs run until they succeed

Property theorems over `Model/Dissolve.lean` (ring-buffer lemmas in `Proofs/Dissolve.lean`, system
invariant in `Proofs/DissolveSys.lean`).

`Reach nW c s`: `s` is reachable from a fresh dissolver with `nW` workers and initial ring capacity
`c` by any finite label sequence — every interleaving of any number of `Submit` calls, the workers'
steps (`Wait` part 1, `Remove`, `Closed`, job start, job finish with *either* outcome, re-`Add`),
`Close` calls, and every choice of the goroutine woken by `cond.Signal`.  All theorems need only
`0 < c` (the repo uses `initialCapacity = 2`).

Reading of the statement (DESIGN.md §4 C40): "executed after the queue is closed" = *dequeued* after
`Close`; a job a worker already holds when `Close` returns may still run once.  "Until it succeeds"
is a liveness claim: proved here are its safety halves (nothing is lost, a failed job is back in the
queue, no wake-up is lost, FIFO position bound); that an enabled worker step is eventually taken is
the Go scheduler's fairness, assumed.
-/
namespace CentrifugeVerif.Dissolve

/-! ## the ring buffer -/

/-- the invariant that makes `resize` index-safe: an open queue's ring has `initCap·2^k` slots and is
more than half full unless it has its initial size -/
theorem queue_size_invariant {q : Queue} (h : QInv q) :
    Pow2Mul q.initCap q.nodes.length ∧ (q.nodes.length = q.initCap ∨ q.nodes.length / 2 < q.cnt) :=
  ⟨h.pow, h.size⟩

/-- **FIFO refinement, index safety**: every sequence of `Add`/`Remove` calls on an open queue runs
without a Go panic (no slice or index out of range, no division by zero — in particular inside
`resize`), keeps the invariant, and returns exactly what a FIFO list returns. -/
theorem queue_refines_fifo (ops : List QOp) : ∀ (q : Queue), QInv q →
    ∃ q' outs, implRun q ops = some (q', outs) ∧ QInv q' ∧ (abs q', outs) = specRun (abs q) ops := by
  induction ops with
  | nil => intro q hq; exact ⟨q, [], rfl, hq, rfl⟩
  | cons op ops ih =>
    intro q hq
    cases op with
    | add j =>
      obtain ⟨q1, h1, h2, h3⟩ := add_open hq j
      obtain ⟨q2, outs, r1, r2, r3⟩ := ih q1 h2
      refine ⟨q2, none :: outs, ?_, r2, ?_⟩
      · simp [implRun, implStep, h1, r1]
      · simp only [specRun, specStep, ← h3, ← r3]
    | rem =>
      rcases remove_open hq with ⟨habs, h1⟩ | ⟨x, q1, h1, h2, habs⟩
      · obtain ⟨q2, outs, r1, r2, r3⟩ := ih q hq
        refine ⟨q2, none :: outs, ?_, r2, ?_⟩
        · simp [implRun, implStep, h1, r1]
        · rw [habs] at r3 ⊢
          simp only [specRun, specStep, ← r3]
      · obtain ⟨q2, outs, r1, r2, r3⟩ := ih q1 h2
        refine ⟨q2, some x :: outs, ?_, r2, ?_⟩
        · simp [implRun, implStep, h1, r1]
        · simp only [habs, specRun, specStep, ← r3]

example : QInv (newQueue 2) := inv_newQueue 2 (by decide)

/-! ## the system -/

/-- index safety under concurrency: no queue operation panics in any reachable state -/
theorem no_panic {nW c : Nat} (hc : 0 < c) {s : Sys} (h : Reach nW c s) : s.panicked = false :=
  (reach_inv hc h).noPanic

/-- **`no_loss`**: while the queue is open, every job whose `Submit` returned nil and that has not yet
returned success is in exactly one place: queued once, or owned by exactly one worker (dequeued and
about to run, running, or failed and about to be re-added). -/
theorem no_loss {nW c : Nat} (hc : 0 < c) {s : Sys} (h : Reach nW c s) (hopen : s.q.closed = false)
    (j : Job) (hacc : j ∈ s.accepted) (hns : j ∉ s.succeeded) : (inflight s).count j = 1 := by
  have hi := reach_inv hc h
  rw [count_inflight]
  exact Nat.le_antisymm (hi.uniq j) ((hi.noLoss hopen j hacc).resolve_left hns)

/-- nothing else is ever in the machine: whatever is queued or owned by a worker was accepted, has not
succeeded, and is there once. -/
theorem inflight_sound {nW c : Nat} (hc : 0 < c) {s : Sys} (h : Reach nW c s) (j : Job)
    (hj : j ∈ inflight s) : j ∈ s.accepted ∧ j ∉ s.succeeded ∧ (inflight s).count j = 1 := by
  have hi := reach_inv hc h
  rw [count_inflight]
  have hpos : 0 < cntJ s j := count_inflight s j ▸ List.count_pos_iff.mpr hj
  exact ⟨(hi.own j hpos).2.1, (hi.own j hpos).2.2, Nat.le_antisymm (hi.uniq j) hpos⟩

/-- **`no_run_after_success`** on the execution log (newest first): no entry of a job has an older
successful entry of the same job. -/
theorem no_run_after_success {nW c : Nat} (hc : 0 < c) {s : Sys} (h : Reach nW c s) : RunsOk s.runs :=
  (reach_inv hc h).runsOk

/-- the same at the step where a worker starts a job: that job has not succeeded before -/
theorem start_implies_not_succeeded {nW c : Nat} (hc : 0 < c) {s : Sys} (h : Reach nW c s) (w : Nat) (j : Job)
    (hw : s.ws[w]? = some (W.holding j)) : j ∉ s.succeeded ∧ j ∈ s.accepted := by
  have := (reach_inv hc h).own j (cntJ_pos_of_held hw rfl)
  exact ⟨this.2.2, this.2.1⟩

/-- **`no_dequeue_after_close`**: in no reachable state has a dequeue ever returned a job while the
queue was closed … -/
theorem no_dequeue_after_close {nW c : Nat} (hc : 0 < c) {s : Sys} (h : Reach nW c s) :
    s.deqAfterClose = false :=
  (reach_inv hc h).noDeqAfterClose

/-- … because once closed, `Remove` returns `(nil,false)` to every worker, and `Submit` is refused. -/
theorem closed_queue_gives_nothing {nW c : Nat} (hc : 0 < c) {s : Sys} (h : Reach nW c s)
    (hcl : s.q.closed = true) :
    abs s.q = [] ∧ remove s.q = some (s.q, none) ∧ ∀ j, add s.q j = some (s.q, false) := by
  have hi := reach_inv hc h
  obtain ⟨h0, ha⟩ := hi.qClosed hcl
  exact ⟨ha, remove_empty _ h0, fun j => add_closed _ j hcl⟩

/-- workers exit only after `Close` -/
theorem exit_only_after_close {nW c : Nat} (hc : 0 < c) {s : Sys} (h : Reach nW c s)
    (he : W.exited ∈ s.ws) : s.q.closed = true :=
  (reach_inv hc h).exitedClosed he

/-- **no lost wake-up**: while the queue is open and a job is queued, some worker is neither parked in
`cond.Wait()` nor exited (given there is any worker) … -/
theorem no_lost_wakeup {nW c : Nat} (hc : 0 < c) {s : Sys} (h : Reach nW c s) (hopen : s.q.closed = false)
    (hq : abs s.q ≠ []) (hws : s.ws ≠ []) : ∃ w ∈ s.ws, w ≠ W.parked ∧ w ≠ W.exited :=
  (reach_inv hc h).wakeup hopen hq hws

/-- … and such a worker always has an enabled step (so a queued job can always make progress; that the
step is eventually taken is scheduler fairness). -/
theorem active_worker_enabled (s : Sys) (i : Nat) (st : W) (hi : s.ws[i]? = some st)
    (h1 : st ≠ W.parked) (h2 : st ≠ W.exited) :
    ∃ l, (next s l).isSome = true ∧
      (l = .wait i ∨ l = .remove i ∨ l = .check i ∨ l = .start i ∨ (∃ ok, l = .finish i ok) ∨ ∃ p, l = .readd i p) := by
  cases st with
  | idle =>
    refine ⟨.wait i, ?_, Or.inl rfl⟩
    simp only [next, hi, if_true]
    split
    · rfl
    · split <;> rfl
  | parked => exact absurd rfl h1
  | removing =>
    refine ⟨.remove i, ?_, Or.inr (Or.inl rfl)⟩
    simp only [next, hi, if_true]
    split <;> rfl
  | check => exact ⟨.check i, by simp [next, hi], Or.inr (Or.inr (Or.inl rfl))⟩
  | holding j => exact ⟨.start i, by simp [next, hi], Or.inr (Or.inr (Or.inr (Or.inl rfl)))⟩
  | running j => exact ⟨.finish i true, by simp [next, hi], Or.inr (Or.inr (Or.inr (Or.inr (Or.inl ⟨true, rfl⟩))))⟩
  | retrying j =>
    -- pick a parked worker to signal if there is one
    have hpick : ∃ p, (wake (s.ws.set i W.idle) p).isSome = true := by
      by_cases hall : (s.ws.set i W.idle).all (fun x => x != W.parked) = true
      · refine ⟨0, ?_⟩
        simp only [wake]
        split
        · rfl
        · simp
      · obtain ⟨p, hp⟩ := exists_parked _ hall
        exact ⟨p, by simp [wake, hp]⟩
    obtain ⟨p, hp⟩ := hpick
    refine ⟨.readd i p, ?_, Or.inr (Or.inr (Or.inr (Or.inr (Or.inr ⟨p, rfl⟩))))⟩
    simp only [next, hi]
    split
    · rfl
    · rfl
    · cases hwk : wake (s.ws.set i W.idle) p with
      | none => rw [hwk] at hp; cases hp
      | some ws' => rfl
  | exited => exact absurd rfl h2

/-! ## FIFO progress -/

/-- **`fifo_progress`**: if job `j` is queued behind `pre` (so at position `|pre|`), then along *any*
run that leaves the queue open, after `k ≤ |pre|` further successful dequeues `j` is at position
`|pre| - k` (exactly the first `k` jobs of `pre` have been taken, nothing overtakes); otherwise more
than `|pre|` dequeues have happened, i.e. `j` itself has been dequeued — by the `(|pre|+1)`-th further
dequeue at the latest.  This is the fairness-free half of "until it succeeds": a job waits for at most
as many dequeues as there are jobs in front of it. -/
theorem fifo_progress (ls : List Label) : ∀ {s s' : Sys} (pre post : List Job) (j : Job), SInv s →
    run s ls = some s' → s'.q.closed = false → abs s.q = pre ++ j :: post →
    (s'.deqs - s.deqs ≤ pre.length ∧ ∃ post', abs s'.q = pre.drop (s'.deqs - s.deqs) ++ j :: post') ∨
    pre.length < s'.deqs - s.deqs := by
  intro s s' pre post j hi h ho habs
  obtain ⟨_, _, added, ha⟩ := fifo_run ls hi h ho
  rcases Nat.lt_or_ge pre.length (s'.deqs - s.deqs) with hlt | hge
  · exact Or.inr hlt
  · refine Or.inl ⟨hge, post ++ added, ?_⟩
    rw [ha, habs, List.append_assoc, List.drop_append_of_le_length hge]
    rfl

/-- reachable form of `fifo_progress` -/
theorem fifo_progress_reach {nW c : Nat} (hc : 0 < c) {s s' : Sys} (h : Reach nW c s) (ls : List Label)
    (pre post : List Job) (j : Job) (hr : run s ls = some s') (ho : s'.q.closed = false)
    (habs : abs s.q = pre ++ j :: post) :
    (s'.deqs - s.deqs ≤ pre.length ∧ ∃ post', abs s'.q = pre.drop (s'.deqs - s.deqs) ++ j :: post') ∨
    pre.length < s'.deqs - s.deqs :=
  fifo_progress ls pre post j (reach_inv hc h) hr ho habs

/-- a failed job goes back to the *end* of the open queue (retry by re-adding) -/
theorem retry_requeues {nW c : Nat} (hc : 0 < c) {s s' : Sys} (h : Reach nW c s) (w pick : Nat) (j : Job)
    (hw : s.ws[w]? = some (W.retrying j)) (hopen : s.q.closed = false)
    (hn : next s (.readd w pick) = some s') : abs s'.q = abs s.q ++ [j] := by
  have hq := (reach_inv hc h).qOpen hopen
  obtain ⟨q', ha, _, habs⟩ := add_open hq j
  simp only [next, hw, ha] at hn
  split at hn
  · cases hn
  · cases hn; exact habs

/-- the hypotheses are satisfiable by a non-trivial run: 2 workers, 5 jobs, the ring grows to 4 and
shrinks again, job 0 fails once and is re-queued behind job 4; `Close` arrives while job 4 runs and job 0
is still queued: job 4 finishes (it was dequeued before `Close`), job 0 is discarded with the queue
("Jobs will be lost after closing"), the late `Submit` (job 5) is refused, both workers exit. -/
example :
    ∃ s, run (init 2 2) exampleRun = some s ∧ Reach 2 2 s ∧
      s.runs = [(4, true), (3, true), (2, true), (1, true), (0, false)] ∧ s.rejected = [5] ∧
      s.ws = [W.exited, W.exited] ∧ s.deqs = 5 := by
  refine ⟨_, rfl, ?_, by decide⟩
  exact reach_run exampleRun Reach.init rfl

end CentrifugeVerif.Dissolve
