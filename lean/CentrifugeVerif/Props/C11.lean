import CentrifugeVerif.Model.ConnProtoEncoder
/-!
# C11 — the connect reply is the first server message; dictionary encoder discipline

Model: `Model/ConnProtoEncoder.lean`.  Statements quantify over all label sequences (all
interleavings of the connect thread with pushes routed through the hub; of the queue writer,
direct `ReplyWithoutQueue` writes and `close`).

The full statement "no push precedes the connect reply" is **false** for the code and for the
model (`push_can_precede_connect_reply`, finding C11-1); what holds is stated in
`connect_reply_first_partial`.  Likewise "the encoder is never closed concurrently with an Encode"
holds only without `ReplyWithoutQueue` (`encoder_discipline_partial`, counter-witness
`rwq_close_overlaps_encode`, finding C11-2).
-/
namespace CentrifugeVerif.ConnProtoEncoder

/-! ## (a) connect reply first -/

def Frame.encoded : Frame → Bool
  | .connectReply e => e
  | .push e => e

theorem write_eq (s : CSt) (mk : Bool → Frame) :
    write s mk = { s with frames := s.frames ++ [mk s.promoted], promoted := s.promoted || s.dict } := by
  unfold write
  cases s.promoted <;> rfl

/-- a frame log whose first frame is raw and whose later frames are encoded iff `d` -/
def Shaped (d : Bool) : List Frame → Prop
  | [] => True
  | f :: t => f.encoded = false ∧ ∀ g ∈ t, g.encoded = d

theorem Shaped.snoc {d : Bool} {l : List Frame} {x : Frame} (h : Shaped d l)
    (hx : x.encoded = (d && !l.isEmpty)) : Shaped d (l ++ [x]) := by
  cases l with
  | nil => exact ⟨hx.trans (Bool.and_false d), nofun⟩
  | cons f t =>
    refine ⟨h.1, fun g hg => ?_⟩
    rcases List.mem_append.mp hg with hg | hg
    · exact h.2 g hg
    · rw [List.mem_singleton.mp hg, hx]
      exact Bool.and_true d

/-- nothing before `addClient`; with a dictionary the first frame is raw and promotes the encoder,
every later frame is encoded; without one everything is raw. -/
structure LogInv (s : CSt) : Prop where
  quiet : s.inHub = false → s.frames = []
  promoted : s.promoted = (s.dict && !s.frames.isEmpty)
  shaped : Shaped s.dict s.frames

theorem LogInv.write {s : CSt} (h : LogInv s) (hin : s.inHub = true) (mk : Bool → Frame)
    (hmk : ∀ b, (mk b).encoded = b) : LogInv (write s mk) := by
  rw [write_eq]
  refine ⟨fun hn => (nomatch hin.symm.trans hn), ?_, h.shaped.snoc ((hmk _).trans h.promoted)⟩
  show (s.promoted || s.dict) = (s.dict && !(s.frames ++ [_]).isEmpty)
  rw [h.promoted]
  cases s.dict <;> cases s.frames <;> rfl

theorem cstep_logInv {s s' : CSt} {l : CLabel} (h : LogInv s) (hs : cstep s l = some s') :
    LogInv s' := by
  cases l <;>
    simp only [cstep, Option.ite_none_right_eq_some, Option.ite_none_left_eq_some, Bool.and_eq_true,
      Bool.not_eq_true, Option.some.injEq] at hs <;>
    obtain ⟨hc, rfl⟩ := hs
  case addClient => exact ⟨nofun, h.promoted, h.shaped⟩
  case writeReply =>
    obtain ⟨hin, _⟩ := hc
    have hw := h.write hin .connectReply fun _ => rfl
    exact ⟨hw.quiet, hw.promoted, hw.shaped⟩
  case push => exact h.write hc .push fun _ => rfl

theorem crun_induct {P : CSt → Prop} (hstep : ∀ {s s' l}, P s → cstep s l = some s' → P s') :
    ∀ {ls : List CLabel} {s s' : CSt}, P s → crun s ls = some s' → P s'
  | [], _, _, h, hr => Option.some.inj hr ▸ h
  | l :: ls, s, s', h, hr => by
    rw [crun] at hr
    split at hr
    · rename_i s1 h1
      exact crun_induct hstep (hstep h h1) hr
    · cases hr

theorem logInv_init (d : Bool) : LogInv { dict := d } :=
  ⟨fun _ => rfl, (Bool.and_false d).symm, trivial⟩

theorem cstep_grows {s s' : CSt} {l : CLabel} (hs : cstep s l = some s') :
    ∃ u, s'.frames = s.frames ++ u ∧ s'.dict = s.dict := by
  cases l <;>
    simp only [cstep, write_eq, Option.ite_none_right_eq_some, Option.ite_none_left_eq_some,
      Option.some.injEq] at hs <;>
    obtain ⟨_, rfl⟩ := hs
  · exact ⟨[], (List.append_nil _).symm, rfl⟩
  · exact ⟨_, rfl, rfl⟩
  · exact ⟨_, rfl, rfl⟩

theorem crun_grows {a b : CSt} {ls : List CLabel} (hr : crun a ls = some b) :
    ∃ t, b.frames = a.frames ++ t ∧ b.dict = a.dict :=
  crun_induct (P := fun b => ∃ t, b.frames = a.frames ++ t ∧ b.dict = a.dict)
    (fun ⟨t, ht, hd⟩ hs =>
      let ⟨u, hu, hd'⟩ := cstep_grows hs
      ⟨t ++ u, by rw [hu, ht, List.append_assoc], hd'.trans hd⟩)
    ⟨[], (List.append_nil _).symm, rfl⟩ hr

/-- nothing reaches the transport before `addClient`: a client that is not registered in the hub
has an empty frame log, whatever the other threads do. -/
theorem no_frame_before_addClient (d : Bool) (ls : List CLabel) (s : CSt)
    (hr : crun { dict := d } ls = some s) (hh : s.inHub = false) : s.frames = [] :=
  (crun_induct cstep_logInv (logInv_init d) hr).quiet hh

/-- `connect_reply_first_partial`: in every interleaving, the connect reply is the first frame
**provided no push is routed to the client between `addClient` and the reply write** (i.e. the
reply write is the first step after `addClient`); then it goes out unencoded and, when a
dictionary was negotiated, every later frame is encoded.
(The unconditional statement is false: `push_can_precede_connect_reply`.) -/
theorem connect_reply_first_partial (d : Bool) (rest : List CLabel) (s : CSt)
    (hr : crun { dict := d } (.addClient :: .writeReply :: rest) = some s) :
    ∃ t, s.frames = Frame.connectReply false :: t ∧ (d = true → ∀ g ∈ t, g.encoded = true) ∧
      (d = false → ∀ g ∈ t, g.encoded = false) := by
  have hinv : LogInv s := crun_induct cstep_logInv (logInv_init d) hr
  have hsplit : crun { dict := d } (.addClient :: .writeReply :: rest) =
      crun { dict := d, inHub := true, replyWritten := true, promoted := d, frames := [.connectReply false] } rest := by
    cases d <;> rfl
  rw [hsplit] at hr
  obtain ⟨t, ht, hd⟩ := crun_grows hr
  have hsh := hinv.shaped
  rw [ht, hd] at hsh
  exact ⟨t, ht, fun h g hg => h ▸ hsh.2 g hg, fun h g hg => h ▸ hsh.2 g hg⟩

/-- in every reachable state with a negotiated dictionary, the connect reply is unencoded exactly
when it is the first frame on the wire -/
theorem connect_reply_raw_iff_first (ls : List CLabel) (s : CSt)
    (hr : crun { dict := true } ls = some s) (hm : ∃ e, Frame.connectReply e ∈ s.frames) :
    (Frame.connectReply false ∈ s.frames ↔ s.frames.head? = some (Frame.connectReply false)) := by
  have hsh := (crun_induct cstep_logInv (logInv_init true) hr).shaped
  obtain ⟨_, _, hd⟩ := crun_grows hr
  rw [hd] at hsh
  cases hfr : s.frames with
  | nil => obtain ⟨e, he⟩ := hm; rw [hfr] at he; cases he
  | cons f t =>
    rw [hfr] at hsh
    constructor
    · intro hmem
      rcases List.mem_cons.mp hmem with h | h
      · rw [h]; rfl
      · exact nomatch hsh.2 _ h
    · intro hh
      rw [Option.some.inj hh]
      exact List.mem_cons_self

/-- counter-witness (finding C11-1): a push routed through the hub after `addClient` precedes the
connect reply, and with a dictionary the reply is then the frame that gets encoded -/
theorem push_can_precede_connect_reply :
    crun { dict := true } [.addClient, .push, .writeReply] =
      some { dict := true, inHub := true, replyWritten := true, promoted := true,
             frames := [.push false, .connectReply true] } := by decide

/-! ## (b) encoder discipline -/

theorem erun_induct {P : ESt → Prop} (hstep : ∀ {s s' l}, P s → estep s l = some s' → P s') :
    ∀ {ls : List ELabel} {s s' : ESt}, P s → erun s ls = some s' → P s'
  | [], _, _, h, hr => Option.some.inj hr ▸ h
  | l :: ls, s, s', h, hr => by
    rw [erun] at hr
    split at hr
    · rename_i s1 h1
      exact erun_induct hstep (hstep h h1) hr
    · cases hr

/-- the encoder is closed at most once, whatever the interleaving and the write mode -/
def CloserInv (s : ESt) : Prop :=
  match s.closer with
  | .idle | .writerClosed => s.closes = 0 ∧ s.installed = true
  | .encoderClosed | .done => s.closes = 1 ∧ s.installed = false

theorem estep_closerInv {s s' : ESt} {l : ELabel} (h : CloserInv s) (hs : estep s l = some s') :
    CloserInv s' := by
  cases l <;>
    simp only [estep, Option.ite_none_right_eq_some, Option.some.injEq, Bool.and_eq_true,
      decide_eq_true_eq] at hs <;>
    obtain ⟨hc, rfl⟩ := hs
  case qLock | qBegin | qEnd | dLoad | dBegin | dEnd => exact h
  case closeWriter =>
    obtain ⟨hidle, _⟩ := hc
    rw [CloserInv, hidle] at h
    exact h
  case closeEncoder =>
    rw [CloserInv, hc] at h
    exact ⟨congrArg (· + 1) h.1, rfl⟩
  case closeTransport =>
    rw [CloserInv, hc] at h
    exact h

theorem CloserInv.closes_eq_zero {s : ESt} (h : CloserInv s) (hi : s.closer = .idle) :
    s.closes = 0 := by
  rw [CloserInv, hi] at h
  exact h.1

theorem encoder_closed_at_most_once (rwq : Bool) (ls : List ELabel) (s : ESt)
    (hr : erun { rwq := rwq } ls = some s) :
    s.closes ≤ 1 ∧ (s.closer = .done → s.closes = 1) := by
  have h : CloserInv s := erun_induct estep_closerInv (s := { rwq := rwq }) ⟨rfl, rfl⟩ hr
  cases hc : s.closer <;> rw [CloserInv, hc] at h
  case idle | writerClosed => exact ⟨h.1 ▸ Nat.zero_le 1, nofun⟩
  case encoderClosed => exact ⟨Nat.le_of_eq h.1, nofun⟩
  case done => exact ⟨Nat.le_of_eq h.1, fun _ => h.1⟩

/-- without `ReplyWithoutQueue`: all writes go through the queue writer, which holds `w.mu`
while it writes; `close` takes `w.mu` before it closes the encoder -/
structure QueuedInv (s : ESt) : Prop where
  closer : CloserInv s
  rwq : s.rwq = false
  direct : s.dw = .idle
  clean : s.violated = false
  flight : s.inFlight = if s.qw = .encoding then 1 else 0
  closing : s.closer ≠ .idle → s.qw = .idle ∧ s.writerClosed = true

theorem estep_queuedInv {s s' : ESt} {l : ELabel} (h : QueuedInv s) (hs : estep s l = some s') :
    QueuedInv s' := by
  have h1 := estep_closerInv h.closer hs
  cases l <;>
    simp only [estep, Option.ite_none_right_eq_some, Option.some.injEq, Bool.and_eq_true,
      decide_eq_true_eq, Bool.not_eq_true'] at hs <;>
    obtain ⟨hc, rfl⟩ := hs
  case qLock =>
    obtain ⟨hq, hopen⟩ := hc
    exact { h with
      closer := h1
      flight := by rw [h.flight, hq]; rfl
      closing := fun hne => nomatch (h.closing hne).2.symm.trans hopen }
  case qBegin =>
    -- the queue writer holds `w.mu`, so `close` has not started, and nothing is closed
    obtain ⟨⟨hq, _⟩, _⟩ := hc
    have hidle : s.closer = .idle := Decidable.byContradiction fun hne =>
      nomatch hq.symm.trans (h.closing hne).1
    have hz : s.closes = 0 := h.closer.closes_eq_zero hidle
    exact { h with
      closer := h1
      clean := by show (s.violated || decide (s.closes > 0)) = false; rw [h.clean, hz]; rfl
      flight := by show s.inFlight + 1 = _; rw [h.flight, hq]; rfl
      closing := fun hne => absurd hidle hne }
  case qEnd =>
    exact { h with
      closer := h1
      flight := by show s.inFlight - 1 = _; rw [h.flight, hc]; rfl
      closing := fun hne => nomatch hc.symm.trans (h.closing hne).1 }
  case dLoad =>
    obtain ⟨⟨⟨⟨hrwq, _⟩, _⟩, _⟩, _⟩ := hc
    exact nomatch h.rwq.symm.trans hrwq
  case dBegin => exact nomatch h.direct.symm.trans hc
  case dEnd => exact nomatch h.direct.symm.trans hc
  case closeWriter =>
    obtain ⟨_, hq⟩ := hc
    exact { h with closer := h1, closing := fun _ => ⟨hq, rfl⟩ }
  case closeEncoder =>
    -- `close` holds `w.mu`: the queue writer is idle, no `Encode` is in flight
    have hq := h.closing (by rw [hc]; nofun)
    have hz : s.inFlight = 0 := by rw [h.flight, hq.1]; rfl
    exact { h with
      closer := h1
      clean := by show (s.violated || decide (s.inFlight > 0)) = false; rw [h.clean, hz]; rfl
      closing := fun _ => hq }
  case closeTransport =>
    exact { h with closer := h1, closing := fun _ => h.closing (by rw [hc]; nofun) }

/-- `encoder_discipline_partial` (hypothesis: the connection does not use `ReplyWithoutQueue`):
in every interleaving of the queue writer and `close`, no `Encode` begins after the encoder's
`Close` and `Close` never runs while an `Encode` is in flight; after `Close` no `Encode` is in
flight.  (Without the hypothesis the statement is false: `rwq_close_overlaps_encode`.) -/
theorem encoder_discipline_partial (ls : List ELabel) (s : ESt)
    (hr : erun { rwq := false } ls = some s) :
    s.violated = false ∧ (s.closes > 0 → s.inFlight = 0) := by
  have h : QueuedInv s := erun_induct estep_queuedInv (s := { rwq := false })
    ⟨⟨rfl, rfl⟩, rfl, rfl, rfl, rfl, fun h => absurd rfl h⟩ hr
  refine ⟨h.clean, fun hp => ?_⟩
  have hne : s.closer ≠ .idle := fun hi => Nat.ne_of_gt hp (h.closer.closes_eq_zero hi)
  rw [h.flight, (h.closing hne).1]
  rfl

/-- counter-witness (finding C11-2): with `ReplyWithoutQueue` a direct write is inside `Encode`
when `close` closes the writer (no `w.mu` is held by the direct write) and then the encoder -/
theorem rwq_close_overlaps_encode :
    ∃ s, erun { rwq := true } [.dLoad, .dBegin, .closeWriter, .closeEncoder] = some s ∧
      s.violated = true ∧ s.inFlight = 1 ∧ s.closes = 1 := by
  exact ⟨_, rfl, by decide, by decide, by decide⟩

/-- second counter-witness (finding C11-2b): the direct write loaded the encoder before `close`
swapped it out and calls `Encode` after the encoder's `Close` -/
theorem rwq_encode_after_close :
    ∃ s, erun { rwq := true } [.dLoad, .closeWriter, .closeEncoder, .dBegin] = some s ∧
      s.violated = true ∧ s.closes = 1 ∧ s.encodes = 1 := ⟨_, rfl, by decide, by decide, by decide⟩

/-! non-vacuity: a complete good run without ReplyWithoutQueue -/
example : ∃ s, erun { rwq := false } [.qLock, .qBegin, .qEnd, .closeWriter, .closeEncoder, .closeTransport] = some s ∧
    s.encodes = 1 ∧ s.closes = 1 ∧ s.violated = false := ⟨_, rfl, by decide, by decide, by decide⟩
example : crun { dict := true } [.addClient, .writeReply, .push, .push] =
    some { dict := true, inHub := true, replyWritten := true, promoted := true,
           frames := [.connectReply false, .push true, .push true] } := by decide

end CentrifugeVerif.ConnProtoEncoder
