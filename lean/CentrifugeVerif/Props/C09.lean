import CentrifugeVerif.Proofs.ConnProto
/-!
# C09 — commands are gated by authentication and answered exactly once; pong without ping

Model: `Model/ConnProto.lean` (`HandleCommand`, `dispatchCommand`, the `handle*` functions and their
callbacks, `close`, `sendPing`).  All trace theorems quantify over every configuration `cfg`
(which handlers are registered, what `OnConnecting` answers, …) and every finite sequence of ops
(frames of any commands with any scripted application answers — synchronous or parked —, callback
firings in any order, server pings, transport EOF), with the only hypothesis that no command is a
map subscription (`Cmd.modelled`, outside the model).
-/
namespace CentrifugeVerif.ConnProto

/-- `unauth_gate`: on an open, usable, not yet authenticated connection every command other than
connect is refused: `close(BadRequest)` is spawned, reading stops, no application handler is
invoked, nothing is written and no callback is parked. -/
theorem unauth_gate (cfg : Cfg) (st : St) (c : Cmd)
    (hopen : st.core.status ≠ .closed) (husable : st.core.unusable = false)
    (hauth : st.core.authenticated = false) (hc : c.connect = false) :
    let r := handleCommand cfg st c
    r.spawns = [bad] ∧ r.proceed = false ∧ r.st.handlerLog = st.handlerLog ∧
      r.st.frameLog = st.frameLog ∧ r.st.pending = st.pending := by
  obtain ⟨h1, h2, hu⟩ := handleCommand_disconnect hopen husable (dispatch_unauth cfg st.lastPing hauth hc)
  exact ⟨h1, h2, hu.handlerLog, hu.frameLog, hu.pending⟩

/-- … and after the spawned close ran, the transport has been closed with BadRequest exactly
once by this frame, whatever follows the command in the frame. -/
theorem unauth_gate_frame (cfg : Cfg) (st : St) (c : Cmd) (cs : List Cmd) (t : Tail)
    (hopen : st.core.status ≠ .closed) (husable : st.core.unusable = false)
    (hauth : st.core.authenticated = false) (hc : c.connect = false) :
    let r := step cfg st (.frame (c :: cs) t)
    r.st.closeLog = st.closeLog ++ [bad] ∧ r.st.core.status = .closed ∧ r.proceed = some false ∧
      r.st.pending = st.pending ∧
      r.st.frameLog = st.frameLog ++ [.discPush bad] := by
  obtain ⟨hp, hst, hcl, hf, hpe, -⟩ :=
    step_frame_disconnect cs t hopen husable (dispatch_unauth cfg st.lastPing hauth hc) (by decide)
  exact ⟨hcl, hst, hp, hpe, hf⟩

/-- `pong_without_ping_disconnects` (command level, both directions): on an open, usable,
authenticated connection a pong (`Id == 0 && Send == nil`, whatever other fields it carries) is
accepted iff `lastPing > 0`; otherwise `close(BadRequest)` is spawned, reading stops and no handler
is invoked.  An accepted pong flips the sign, so a second pong is refused. -/
theorem pong_cmd (cfg : Cfg) (st : St) (c : Cmd)
    (hopen : st.core.status ≠ .closed) (husable : st.core.unusable = false)
    (hauth : st.core.authenticated = true) (hp : isPong c = true) :
    let r := handleCommand cfg st c
    (st.lastPing = .pinged → r.spawns = [] ∧ r.proceed = true ∧ r.st.lastPing = .ponged ∧
        r.st.frameLog = st.frameLog ∧ r.st.handlerLog = st.handlerLog) ∧
    (st.lastPing ≠ .pinged → r.spawns = [bad] ∧ r.proceed = false ∧
        r.st.frameLog = st.frameLog ∧ r.st.handlerLog = st.handlerLog) := by
  have hd := dispatch_pong cfg st.lastPing hauth hp
  constructor
  · intro hl
    rw [if_pos hl] at hd
    simp [handleCommand, hopen, husable, hd, commit, pushFrames]
  · intro hl
    rw [if_neg hl] at hd
    obtain ⟨h1, h2, hu⟩ := handleCommand_disconnect hopen husable hd
    exact ⟨h1, h2, hu.frameLog, hu.handlerLog⟩

/-- `pong_without_ping_disconnects` (state machine): in every reachable state `lastPing > 0`
holds exactly when the last ping-related event of the connection is a server ping (no pong
accepted since), and `lastPing = 0` exactly when no server ping was ever sent.  Together with
`pong_cmd`: a pong is accepted iff a server ping precedes it that no earlier pong has answered. -/
theorem pong_state_machine (cfg : Cfg) (ops : List Op) :
    let st := run cfg {} ops
    (st.lastPing = .pinged ↔ st.pingLog.getLast? = some .ping) ∧
    (st.lastPing = .none ↔ st.pingLog = []) := by
  have h := run_pinginv cfg ops {} ⟨by simp, by simp⟩
  exact ⟨h.pinged, h.none⟩

/-- `pong_without_ping_disconnects` (trace form): whatever happened before, a pong that arrives
on an open, usable, authenticated connection whose last ping-related event is not a server ping
(none sent yet, or the last one already answered) closes the connection with BadRequest. -/
theorem pong_without_ping_disconnects (cfg : Cfg) (ops : List Op) (c : Cmd) (cs : List Cmd) (t : Tail)
    (hp : isPong c = true) :
    let st := run cfg {} ops
    st.core.status ≠ .closed → st.core.unusable = false → st.core.authenticated = true →
    st.pingLog.getLast? ≠ some .ping →
    let r := step cfg st (.frame (c :: cs) t)
    r.st.closeLog = st.closeLog ++ [bad] ∧ r.st.handlerLog.take st.handlerLog.length = st.handlerLog ∧
      r.proceed = some false := by
  intro st hopen husable hauth hlast
  have hl : st.lastPing ≠ .pinged := fun h => hlast ((pong_state_machine cfg ops).1.mp h)
  have hd := dispatch_pong cfg st.lastPing hauth hp
  rw [if_neg hl] at hd
  obtain ⟨hp, -, hcl, -, -, hh⟩ := step_frame_disconnect cs t hopen husable hd (by decide)
  exact ⟨hcl, hh, hp⟩

/-- number of reply frames (success or error) on the transport that answer the command with
ghost tag `k` -/
def repliesFor (st : St) (k : Nat) : Nat := rc k st
/-- the application has not invoked the callback of command `k` yet -/
def parked (st : St) (k : Nat) : Prop := 0 < pc k st

/-- `reply_exactly_once`: after any sequence of ops, for every dispatched command that is owed a
reply (it carries an id and is not a one-way `send`): never more than one reply is written for
it, and exactly one is — unless its callback is still parked (the application did not call it
yet) or the connection is closed. -/
theorem reply_exactly_once (cfg : Cfg) (ops : List Op) (hm : ops.all Op.modelled = true)
    (k id : Nat) :
    let st := run cfg {} ops
    (k, id) ∈ st.owed →
    repliesFor st k ≤ 1 ∧ (repliesFor st k = 1 ∨ parked st k ∨ st.core.status = .closed) := by
  intro st hk
  have hacc : Acc st := run_acc cfg ops {} hm acc_init
  have hexc : Exc st [] := run_exc cfg ops {} hm (fun h => absurd rfl h)
  have hpos : 0 < oc k st := List.length_pos_of_mem (a := (k, id)) (List.mem_filter.mpr ⟨hk, by simp⟩)
  have hone := hacc.once k
  have hb := hacc.bal k
  unfold repliesFor parked
  refine ⟨by omega, ?_⟩
  -- an excuse means closed
  by_cases hp : 0 < pc k st
  · exact .inr (.inl hp)
  · by_cases hx : xc k st = 0
    · exact .inl (by omega)
    · refine .inr (.inr ((hexc fun hnil => ?_).resolve_right (fun h => h rfl)))
      simp [xc, hnil] at hx

/-- the id on a reply is the id of the command (`rep.Id = cmd.Id` is stamped where the reply is
written): every reply frame written by `commit` for a command carries that command's id. -/
theorem reply_carries_command_id (st : St) (e : Eff) (id : Nat) (tag : Option Nat) :
    ∀ f ∈ (commit st e id tag).frameLog, f ∈ st.frameLog ∨ f = .pubPush ∨
      (f.tag = tag ∧ (f = .reply id (match e.reply with | some (.ok k) => k | _ => "") tag ∨
                      ∃ c, f = .error id c tag)) := by
  intro f hf
  simp only [commit, List.mem_append] at hf
  rcases hf with (hf | hf) | hf
  · exact Or.inl hf
  · right; left
    unfold pushFrames at hf
    split at hf <;> simp at hf
    exact hf
  · right; right
    split at hf
    · simp at hf
    · cases hr : e.reply with
      | none => simp [hr] at hf
      | some b =>
        cases b with
        | ok k => simp [hr, RBody.frame] at hf; subst hf; simp [Frame.tag]
        | err c => simp [hr, RBody.frame] at hf; subst hf; simp [Frame.tag]

/-- `send` is one-way: a command for which the `send` handler is selected never produces a reply
frame, with or without an id (recorded reading of the statement, DESIGN.md §4 C09). -/
theorem send_never_replies (cfg : Cfg) (st : St) (c : Cmd) (hs : c.sendSelected = true) :
    (handleCommand cfg st c).st.frameLog = st.frameLog := by
  refine handleCommand_cases cfg st c (P := fun s _ => s.frameLog = st.frameLog) rfl rfl fun _ tag _ => ?_
  suffices h : (dispatch cfg st.core st.lastPing c).reply = none ∧ (dispatch cfg st.core st.lastPing c).pub = false from
    commit_frameLog_silent _ _ _ h.1 h.2
  simp [Cmd.sendSelected] at hs
  unfold dispatch
  split
  · exact ⟨rfl, rfl⟩
  split
  · next hp => simp [isPong, hs.1] at hp
  split
  · exact ⟨rfl, rfl⟩
  · simp only [handlerChain, hs, Bool.false_eq_true, if_false, if_true]
    split <;> exact ⟨rfl, rfl⟩

/-! Non-vacuity: concrete scenarios (all hypotheses above are satisfied by them). -/

def exCfg : Cfg := { hRpc := true, hSub := true, hUnsub := true, hMsg := true }
def exConnect : Cmd := { id := 1, connect := true }
def exRpcAsync : Cmd := { id := 2, rpc := true, async := true }
def exRpcDup : Cmd := { id := 2, rpc := true, res := .err 103 }
def exPong : Cmd := {}

-- a command before connect is refused
example : (step exCfg {} (.frame [exRpcDup] .none)).st.closeLog = [3501] := by decide
-- duplicate ids: two commands with id 2, one parked; each gets its own single reply
example :
    let st := run exCfg {} [.frame [exConnect] .none, .frame [exRpcAsync, exRpcDup] .none, .fire [0]]
    st.owed = [(0, 1), (1, 2), (2, 2)] ∧ repliesFor st 1 = 1 ∧ repliesFor st 2 = 1 ∧
      st.core.status = .connected := by decide
-- pong: refused without ping, accepted once after a ping, refused the second time
example : (run exCfg {} [.frame [exConnect] .none, .frame [exPong] .none]).closeLog = [3501] := by decide
example : (run exCfg {} [.frame [exConnect] .none, .ping, .frame [exPong] .none]).closeLog = [] := by decide
example : (run exCfg {} [.frame [exConnect] .none, .ping, .frame [exPong] .none,
    .frame [exPong] .none]).closeLog = [3501] := by decide
-- a callback that answers with a disconnect: the command is excused, the connection closed
example :
    let st := run exCfg {} [.frame [exConnect] .none, .frame [{ id := 9, rpc := true, res := .disc 3005 }] .none]
    repliesFor st 1 = 0 ∧ st.core.status = .closed ∧ st.closeLog = [3005] := by decide
example : [Op.frame [exConnect, exRpcAsync] .none, .fire [0], .ping, .eof].all Op.modelled = true := by decide

end CentrifugeVerif.ConnProto
