import CentrifugeVerif.Proofs.Filter
/-!
# C15 — Tags filter evaluation matches its specification

Model: `Model/Filter.lean` (`Match`, `Validate`, the input of `Hash`) and `Model/Decimal.lean`
(`udecimal.Parse`, `Cmp`).  Specification: `Proofs/FilterSpec.lean` (`WellFormed`, `sem`) and
`Proofs/Decimal.lean` (`exactLt`, `exactLe`).  All statements are for every tree (any depth and
width, any byte strings) and every tag map.

History (finding C15-1, fixed in /repo by "fix: tags filter in/nin treat a missing key as having no
value"): the code before the fix (`matchN false`) violated the property text on `in`/`nin` — an
absent key was read as `""`, which may be a member of the value set
(see the `example` after `witnessNin`).
* `match_eq_sem`          — **the full statement for `filter.Match` as it is now**, no side condition;
* `match_eq_sem_fixed`    — the same for `matchN true` explicitly.
-/
namespace CentrifugeVerif.Filter
open CentrifugeVerif.Decimal

/-! ## Validation accepts exactly the well-formed trees -/

mutual
/-- `Validate` returns nil (no error, no panic) iff the tree is well-formed. -/
theorem validate_iff_wellFormed (n : Node) : validate n = .ok ↔ WellFormed n :=
  match n with
  | .mk op key cmp val vals nodes => by
    have ih := validateAll_iff_allWF nodes
    rw [validate.eq_def, WellFormed.eq_def]
    simp only
    by_cases h0 : op = []
    · subst h0; simp (config := {decide := true}) [validateLeaf_ok_iff]
    by_cases h1 : op = sAnd ∨ op = sOr
    · have h2 : op ≠ sNot := by rcases h1 with rfl | rfl <;> decide
      simp only [h0, h1, h2, if_true, if_false, false_and, true_and, false_or, or_false]
      cases nodes <;> simp [NonEmpty, ih]
    by_cases h3 : op = sNot
    · subst h3; simp (config := {decide := true})
      cases nodes with
      | nil => simp [OneChild]
      | null r => cases r <;> simp [OneChild]
      | cons c r =>
        cases r with
        | nil => simp only []; rw [← validateAll_single]; simp [OneChild, ih]
        | cons _ _ => simp [OneChild]
        | null _ => simp [OneChild]
    simp [*]

/-- … and the same for a slice of children. -/
theorem validateAll_iff_allWF (ns : Nodes) : validateAll ns = .ok ↔ AllWF ns :=
  match ns with
  | .nil => by simp [validateAll, AllWF]
  | .null r => by simp [validateAll, AllWF]
  | .cons c r => by
    have ih1 := validate_iff_wellFormed c
    have ih2 := validateAll_iff_allWF r
    rw [validateAll, AllWF, ← ih1, ← ih2]
    split
    · next h => simp [h]
    · next h => simp; intro h'; exact absurd h' (by simpa using h)
end

/-! ## Matching a validated tree never errors (nor panics) -/

/-- for both variants, hence for the code as it is, with no side condition -/
theorem match_total_on_valid (fix : Bool) (t : Tags) (n : Node) (h : validate n = .ok) :
    ∃ b, matchN fix t n = .val b :=
  (MRes.isVal_iff _).mp (matchN_total fix t n ((validate_iff_wellFormed n).mp h))

theorem Match_total_on_valid (t : Tags) (n : Node) (h : validate n = .ok) : ∃ b, Match t n = .val b :=
  match_total_on_valid fixApplied t n h

/-! ## Matching returns the denotation -/

/-- Full statement, for `Match` with `in`/`nin` honouring key presence. -/
theorem match_eq_sem_fixed (t : Tags) (n : Node) (h : WellFormed n) :
    matchN true t n = .val (sem t n) :=
  matchN_sem true t n h (Or.inl rfl)

/- Before the fix of C15-1 only a partial statement held (`matchN false`, trees without `""` inside
`in`/`nin` sets): it is the instance `matchN_sem false t n h (Or.inr hne)` of the lemma in
`Proofs/Filter.lean`; see the counter-witness below. -/

/-- **`match_eq_sem`** — for every well-formed tree and every tag map, `filter.Match` (the code as
it is in /repo) returns the value the filter language defines, without error. -/
theorem match_eq_sem (t : Tags) (n : Node) (h : WellFormed n) : Match t n = .val (sem t n) :=
  matchN_sem fixApplied t n h (Or.inl rfl)

/-- … stated from `Validate`'s verdict. -/
theorem match_eq_sem_of_validated (t : Tags) (n : Node) (h : validate n = .ok) :
    Match t n = .val (sem t n) :=
  match_eq_sem t n ((validate_iff_wellFormed n).mp h)

/-- `In("k", ["", "a"])` and `Nin("k", [""])` -/
def witnessIn : Node := .mk [] [107] cIn [] [[], [97]] .nil
def witnessNin : Node := .mk [] [107] cNin [] [[]] .nil

/- Counter-witness for the code *before* the fix:
both trees are accepted by `Validate`; on a tag map without the key, the old `in` matched and the
old `nin` did not, while the key "is in no set". -/
example :
    validate witnessIn = .ok ∧ matchN false [] witnessIn = .val true ∧ sem [] witnessIn = false ∧
    validate witnessNin = .ok ∧ matchN false [] witnessNin = .val false ∧ sem [] witnessNin = true := by
  decide

/-- … and the code as it is gets both right. -/
example : Match [] witnessIn = .val false ∧ Match [] witnessNin = .val true := by decide

/-! ## what `sem` says (reading the specification back) -/

/-- a missing key: exactly `neq`, `nin`, `nex` hold — it equals no value and is in no set -/
theorem sem_missing_key (t : Tags) (key cmp val : Str) (vals : List Str) (nodes : Nodes)
    (h : t.lookup key = none) :
    sem t (.mk [] key cmp val vals nodes) = decide (cmp = cNeq ∨ cmp = cNin ∨ cmp = cNex) := by
  rw [sem.eq_def]; simp [semLeaf, h]

theorem sem_in (t : Tags) (key val : Str) (vals : List Str) (nodes : Nodes) :
    sem t (.mk [] key cIn val vals nodes) = true ↔ ∃ v, t.lookup key = some v ∧ v ∈ vals := by
  rw [sem.eq_def]
  cases h : t.lookup key <;> simp (config := {decide := true}) [semLeaf, h]

theorem sem_nin (t : Tags) (key val : Str) (vals : List Str) (nodes : Nodes) :
    sem t (.mk [] key cNin val vals nodes) = true ↔ ¬ ∃ v, t.lookup key = some v ∧ v ∈ vals := by
  rw [sem.eq_def]
  cases h : t.lookup key <;> simp (config := {decide := true}) [semLeaf, h]

/-- numeric leaves: true iff the key is present, the engine accepts both numerals, and the two
rational numbers are in the stated order (shown for `lt`; `gt/gte/lte` are the other three
branches of `semNum`). -/
theorem sem_lt (t : Tags) (key val : Str) (vals : List Str) (nodes : Nodes) :
    sem t (.mk [] key cLt val vals nodes) = true ↔
      ∃ v a b, t.lookup key = some v ∧ Decimal.parse v = some a ∧ Decimal.parse val = some b ∧ exactLt a b := by
  rw [sem.eq_def]
  cases h : t.lookup key with
  | none => simp (config := {decide := true}) [semLeaf, h]
  | some v =>
    cases hp : Decimal.parse v <;> cases hq : Decimal.parse val <;>
      simp (config := {decide := true}) [semLeaf, h, hp, hq, semNum]

/-- `and`, `or`, `not` are the Boolean connectives -/
theorem sem_and (t : Tags) (key cmp val : Str) (vals : List Str) (c : Node) (rest : Nodes) :
    sem t (.mk sAnd key cmp val vals (.cons c rest)) = (sem t c && sem t (.mk sAnd key cmp val vals rest)) := by
  rw [sem.eq_def, sem.eq_def t (.mk sAnd key cmp val vals rest)]
  simp (config := {decide := true}) [semAll]

theorem sem_or (t : Tags) (key cmp val : Str) (vals : List Str) (c : Node) (rest : Nodes) :
    sem t (.mk sOr key cmp val vals (.cons c rest)) = (sem t c || sem t (.mk sOr key cmp val vals rest)) := by
  rw [sem.eq_def, sem.eq_def t (.mk sOr key cmp val vals rest)]
  simp (config := {decide := true}) [semAny]

theorem sem_not (t : Tags) (key cmp val : Str) (vals : List Str) (c : Node) :
    sem t (.mk sNot key cmp val vals (.cons c .nil)) = !sem t c := by
  rw [sem.eq_def]
  simp (config := {decide := true}) [semAll]

/-! ## numerals: `Cmp` agrees with exact decimal comparison -/

/-- for everything `Parse` accepts (parsed values are normalised: no negative zero) the sign of
`Cmp` is the order of the two rational numbers `±coef/10^prec` -/
theorem numeric_cmp_exact (s₁ s₂ : Str) (a b : Dec)
    (h₁ : Decimal.parse s₁ = some a) (h₂ : Decimal.parse s₂ = some b) :
    (Decimal.cmp a b < 0 ↔ exactLt a b) ∧ (Decimal.cmp a b ≤ 0 ↔ exactLe a b) ∧
    (Decimal.cmp a b > 0 ↔ exactLt b a) ∧ (Decimal.cmp a b ≥ 0 ↔ exactLe b a) :=
  cmp_exact a b (parse_norm h₁) (parse_norm h₂)

/-- numerals of the everyday shape are accepted and get the value they denote: optional sign and
1–19 digits … -/
theorem numeral_int_accepted (sign : Str) (neg : Bool) (ds : Str) (hsign : SignOf sign neg)
    (hd : AllDigits ds) (hne : ds ≠ []) (hl : ds.length ≤ 19) :
    Decimal.parse (sign ++ ds) = some (mkDec neg (natVal ds) 0) := by
  have h := parse_signed_digits hsign hd hne [] (by simpa using hl)
  rwa [List.append_nil, parseSmall_nil] at h

/-- … or optional sign, digits, a dot and 1+ digits (≤ 19 bytes after the sign): the value is
`±(digits without the dot) / 10^(number of fractional digits)`.
(Longer numerals — the u128 and big.Int paths, up to 200 bytes — and what those paths reject are
covered by the differential `dec` stream only.) -/
theorem numeral_frac_accepted (sign : Str) (neg : Bool) (ds fs : Str) (hsign : SignOf sign neg)
    (hd : AllDigits ds) (hf : AllDigits fs) (hne : ds ≠ []) (hfne : fs ≠ [])
    (hl : (ds ++ cDot :: fs).length ≤ 19) :
    Decimal.parse (sign ++ (ds ++ cDot :: fs)) = some (mkDec neg (natVal (ds ++ fs)) fs.length) := by
  have hf1 := List.length_pos_iff.mpr hfne
  have hf2 : fs.length ≤ 19 := by simp at hl; omega
  have hfs := parseSmall_digits fs [] (natVal ds) fs.length hf
  rw [List.append_nil] at hfs
  rw [parse_signed_digits hsign hd hne _ hl, parseSmall, if_pos rfl, if_neg (by simp), if_neg (by omega),
    if_neg (by unfold defaultPrec; omega), hfs, parseSmall_nil]
  rw [natVal, natVal, natValFrom, natValFrom, natValFrom, List.foldl_append]

example : Decimal.parse [45, 49, 46, 53, 48] = some ⟨true, 150, 2⟩ :=
  numeral_frac_accepted [cMinus] true [49] [53, 48] (Or.inr (Or.inr ⟨rfl, rfl⟩)) (by decide) (by decide)
    (by decide) (by decide) (by decide)

/-- conversely, a string of at most 19 bytes that the engine accepts has that shape: one optional
sign, at least one digit, optionally a dot followed by 1–19 digits, ASCII digits only (so `""`,
`"1."`, `".5"`, `"1e3"`, `"+-1"`, non-ASCII digits are rejected). -/
theorem numeral_short_shape (s : Str) (d : Dec) (hl : s.length ≤ 19) (h : Decimal.parse s = some d) :
    NumeralShape s := by
  obtain ⟨sign, neg, rest, hs, rfl, h0⟩ : ∃ sign neg rest, SignOf sign neg ∧ s = sign ++ rest ∧
      (sign = [] → rest.head? ≠ some cMinus ∧ rest.head? ≠ some cPlus) := by
    cases s with
    | nil => exact ⟨[], false, [], .inl ⟨rfl, rfl⟩, rfl, by simp⟩
    | cons c t =>
      by_cases hm : c = cMinus
      · exact ⟨[c], true, t, .inr (.inr ⟨by rw [hm], rfl⟩), rfl, by simp⟩
      by_cases hp : c = cPlus
      · exact ⟨[c], false, t, .inr (.inl ⟨by rw [hp], rfl⟩), rfl, by simp⟩
      · exact ⟨[], false, c :: t, .inl ⟨rfl, rfl⟩, rfl, by simp [hm, hp]⟩
  rw [parse_signed hs rest h0 (by rw [List.length_append] at hl; omega)] at h
  split at h
  · cases h
  next hC =>
  cases hp : parseSmall rest 0 0 with
  | ok c p =>
    rcases (parseSmall_ok_shape rest 0 0 c p hp).2 rfl with hall | ⟨ds, fs, rfl, h1, h2, h3, h4⟩
    · exact ⟨sign, neg, rest, [], hs, hall, mt .inl hC, allDigits_nil, by simp, .inl ⟨rfl, rfl⟩⟩
    · refine ⟨sign, neg, ds, fs, hs, h1, ?_, h2, h4, .inr ⟨h3, rfl⟩⟩
      rintro rfl
      exact hC (.inr rfl)
  | _ => rw [hp] at h; cases h

/-! ## hash -/

/-- structurally equal trees give the same hash input (the encoding is a function of the tree
alone: no map iteration, no pointer identity, no dependence on nil-vs-empty slices) -/
theorem hash_congr (n₁ n₂ : Node) (h : n₁ = n₂) : hashInput n₁ = hashInput n₂ := by rw [h]

/-- `MarshalToSizedBufferVT` writes exactly `SizeVT()` bytes, so the `n` bytes `Hash` reads from the
front of the pooled buffer are the encoding (and not stale pool content). -/
theorem marshal_length_eq_size (n : Node) : (hashInput n).length = sizeVT n := marshal_length n

/-! ## non-vacuity -/

/-- `and(sw(k,"ab"), not(nex(k)), gte(p,"1.50"))` -/
def sampleTree : Node :=
  .mk sAnd [] [] [] [] (.cons (.mk [] [107] cSw [97, 98] [] .nil)
    (.cons (.mk sNot [] [] [] [] (.cons (.mk [] [107] cNex [] [] .nil) .nil))
      (.cons (.mk [] [112] cGte [49, 46, 53, 48] [] .nil) .nil)))

example : validate sampleTree = .ok := by decide
example : WellFormed sampleTree := (validate_iff_wellFormed _).mp (by decide)
example : NoEmptyInSets sampleTree := by
  simp (config := {decide := true}) [sampleTree, NoEmptyInSets, NoEmptyInSetsAll]
example : Match [([107], [97, 98, 99]), ([112], [48, 49, 46, 53])] sampleTree = .val true := by decide
example : Match [([107], [97, 98, 99]), ([112], [49, 46, 52, 57, 57])] sampleTree = .val false := by decide
example : Decimal.parse [45, 48] = some ⟨false, 0, 0⟩ ∧ Decimal.parse [49, 46] = none ∧
    Decimal.parse [49, 101, 51] = none ∧ Decimal.parse [43, 49] = some ⟨false, 1, 0⟩ := by decide
example : validate (.mk sNot [] [] [] [] (.null .nil)) = .panic ∧
    validate (.mk sAnd [] [] [] [] .nil) = .err .emptyChildren ∧
    matchN false [] (.mk [120] [] [] [] [] .nil) = .err .badOp := by decide
example : hashInput witnessIn = [0x12, 1, 107, 0x1a, 2, 105, 110, 0x2a, 0, 0x2a, 1, 97] := by decide

end CentrifugeVerif.Filter
