import CentrifugeVerif.Proofs.Merge
/-!
# C39 — Recovery merge is sorted, deduplicated and detects gaps

The offset sets the statements speak of, and the property theorems (lemmas about the parts of
`merge` are in `Proofs/Merge.lean`).  All statements hold for every pair of input lists, of any
length, with arbitrary (also repeated, unsorted) offsets.
-/
namespace CentrifugeVerif.Merge

/-- unfiltered / filtered offsets of an input -/
def nfOffsets (l : List MPub) : List Nat := (l.filter (fun p => !p.filtered)).map (·.offset)
def fOffsets (l : List MPub) : List Nat := (l.filter (·.filtered)).map (·.offset)

theorem mem_nfOffsets (l : List MPub) (o : Nat) :
    o ∈ nfOffsets l ↔ ∃ p ∈ l, p.filtered = false ∧ p.offset = o := by
  simp [nfOffsets, List.mem_map, List.mem_filter, and_assoc]

/-- (1) the result is strictly increasing by offset: ordered and free of duplicate offsets. -/
theorem merge_sorted_nodup (r b : List MPub) (l : List MPub) (m : Nat)
    (h : merge r b = some (l, m)) : l.Pairwise (fun x y => x.offset < y.offset) := by
  rw [(merge_eq_some h).1]
  exact uniq_sorted_strict _

/-- (2) no filtered placeholder is returned, and every returned entry is one of the inputs. -/
theorem merge_no_placeholder (r b : List MPub) (l : List MPub) (m : Nat)
    (h : merge r b = some (l, m)) : ∀ p ∈ l, p.filtered = false ∧ p ∈ r ++ b := by
  rw [(merge_eq_some h).1]
  intro p hp
  exact ⟨(uniq_mem hp).2.1, (mem_isort _ _).mp (uniq_mem hp).1⟩

/-- (3) the returned offsets are exactly the offsets of the unfiltered inputs (the union). -/
theorem merge_set (r b : List MPub) (l : List MPub) (m : Nat)
    (h : merge r b = some (l, m)) (o : Nat) :
    o ∈ l.map (·.offset) ↔ o ∈ nfOffsets (r ++ b) := by
  rw [(merge_eq_some h).1, mem_nfOffsets, List.mem_map, uniq_sorted_offset]

/-- "the merged offsets have a hole not covered by filtered placeholders": some offset `o` lies
strictly between two unfiltered input offsets and is neither an unfiltered nor a filtered offset. -/
def UncoveredHole (r b : List MPub) : Prop :=
  ∃ lo ∈ nfOffsets (r ++ b), ∃ hi ∈ nfOffsets (r ++ b), ∃ o,
    lo < o ∧ o < hi ∧ o ∉ nfOffsets (r ++ b) ∧ o ∉ fOffsets (r ++ b)

/-- (4) failure is reported exactly when buffered publications were present and the merged
offsets have an uncovered hole. -/
theorem merge_fail_iff (r b : List MPub) :
    merge r b = none ↔ b ≠ [] ∧ UncoveredHole r b := by
  have hnf : ∀ o, (∃ q ∈ uniq [] (isort (r ++ b)), q.offset = o) ↔ o ∈ nfOffsets (r ++ b) :=
    fun o => (uniq_sorted_offset _ o).trans (mem_nfOffsets _ o).symm
  have hsk : ∀ o, o ∈ skipped (isort (r ++ b)) ↔ o ∈ fOffsets (r ++ b) := fun o => by
    rw [mem_skipped, show fOffsets (r ++ b) = skipped (r ++ b) from rfl, mem_skipped]
    simp only [mem_isort]
  rw [merge_eq_none_iff, ← Bool.not_eq_true, gapsCovered_iff _ _ (uniq_sorted_strict _)]
  refine and_congr_right fun _ => ⟨fun h => ?_, ?_⟩
  · -- an offset the loop finds uncovered is a hole
    refine Classical.byContradiction fun hno => h fun a ha c hc o h1 h2 => ?_
    refine Classical.byContradiction fun hcov => hno ?_
    rw [hnf, hsk, not_or] at hcov
    exact ⟨a.offset, (hnf _).mp ⟨a, ha, rfl⟩, c.offset, (hnf _).mp ⟨c, hc, rfl⟩, o, h1, h2, hcov⟩
  · rintro ⟨lo, hlo, hi, hhi, o, h1, h2, h3, h4⟩ h
    obtain ⟨a, ha, rfl⟩ := (hnf lo).mpr hlo
    obtain ⟨c, hc, rfl⟩ := (hnf hi).mpr hhi
    rcases h a ha c hc o h1 h2 with hq | hs
    · exact h3 ((hnf o).mp hq)
    · exact h4 ((hsk o).mp hs)

/-- (4') in particular: without buffered publications the merge never fails. -/
theorem merge_no_buffer_ok (r : List MPub) : merge r [] ≠ none :=
  fun h => ((merge_eq_none_iff r []).mp h).1 rfl

/-- (5) the reported maximum offset dominates every input offset (placeholders included) and is
attained by an input entry, or is 0 for empty input. -/
theorem merge_max_seen (r b : List MPub) (l : List MPub) (m : Nat)
    (h : merge r b = some (l, m)) :
    (∀ p ∈ r ++ b, p.offset ≤ m) ∧ (m = 0 ∨ ∃ p ∈ r ++ b, p.offset = m) := by
  rw [(merge_eq_some h).2]
  exact maxSeen_isort_spec _

/-! Non-vacuity: concrete inputs exercising success with a covered hole, failure, and dedup. -/
example : merge [⟨1, false, 0⟩, ⟨2, true, 1⟩] [⟨3, false, 2⟩, ⟨3, false, 3⟩] =
    some ([⟨1, false, 0⟩, ⟨3, false, 2⟩], 3) := by decide
example : merge [⟨1, false, 0⟩] [⟨3, false, 1⟩] = none := by decide
example : UncoveredHole [⟨1, false, 0⟩] [⟨3, false, 1⟩] :=
  ⟨1, by decide, 3, by decide, 2, by decide, by decide, by decide, by decide⟩
example : merge [⟨5, false, 0⟩, ⟨1, false, 1⟩] [] = some ([⟨1, false, 1⟩, ⟨5, false, 0⟩], 5) := by decide

end CentrifugeVerif.Merge
