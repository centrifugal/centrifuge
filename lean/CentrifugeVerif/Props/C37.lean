import CentrifugeVerif.Proofs.Limits
import CentrifugeVerif.Props.C12
/-!
# C37 — connection limits are enforced

* channel limit: `channel_limit` (every sequence of events — regular and map client subscribes with
  their answers arriving in any order, failures, unsubscribes, server-side subscribes — keeps the
  client-side subscriptions plus in-flight reservations ≤ limit), `channel_limit_regular_total`
  (without map subscribes even the server-side entries are included in the bound),
  `limit_plus_one_rejected`, `server_side_at_limit_disconnects`.  Finding C37-1 (two deferred map
  subscribes both passing the limit check) was fixed in /repo by commit 516266d2; the model mirrors the
  re-check and the former counter-witness is now `channel_limit_former_counterexample_fixed`;
* channel name length: `channel_name_too_long_rejected`;
* slow consumer: `slow_iff_oversize` (shared with C12, stated in `Props/C12.lean`).
-/
namespace CentrifugeVerif.Limits

/-- a client subscribe request — regular, map or shared-poll (all three entry paths) — for a channel
name longer than `ChannelMaxLength` is rejected with `ErrorBadRequest` and changes nothing.  (The
shared-poll path lacked the check until /repo commit 931f86e2: finding C37-2.) -/
theorem channel_name_too_long_rejected (s : LState) (ch len : Nat) (hm : 0 < s.maxLen) (hl : s.maxLen < len) :
    step s (.subReg ch len) = (s, .badRequest) ∧ step s (.subMapValidate ch len) = (s, .badRequest) ∧
      step s (.subPoll ch len) = (s, .badRequest) := by
  simp [step, hm, hl]

example : step { limit := 2, maxLen := 6 } (.subReg 1 7) = ({ limit := 2, maxLen := 6 }, .badRequest) := by decide

/-- **Channel limit, regular flow, all entries.**  Without map subscribes, after *any* sequence of
regular client subscribe attempts, completions and failures of the in-flight ones in any order,
unsubscribes and server-side subscribes, *all* entries of `c.channels` (server-side ones included) plus
reservations never exceed the limit.  (With a map subscription still loading, a server-side subscribe is
not counted against it — see the `example` at the end — which is why the general theorem
`channel_limit` bounds the client-side entries.) -/
theorem channel_limit_regular_total (limit maxLen : Nat) (hl : 0 < limit) (es : List Ev)
    (hreg : ∀ e ∈ es, e.regular = true) :
    let s := run { limit := limit, maxLen := maxLen } es
    s.total ≤ limit ∧ s.clientSubs ≤ limit := by
  have ht := (run_inv (A := fun e => e.regular = true)
    (P := fun s => s.limit = limit ∧ s.mapSubscribing = [] ∧ s.total ≤ limit)
    (fun s e he ⟨hlim, hm, ht⟩ => by
      have := step_regular_inv s e he (by omega) hm (by omega)
      exact ⟨(step_limit s e).1.trans hlim, this.1, by omega⟩)
    es { limit := limit, maxLen := maxLen } hreg ⟨rfl, rfl, Nat.zero_le _⟩).2.2
  exact ⟨ht, Nat.le_trans (clientSubs_le_clientEntries _) (Nat.le_trans (clientEntries_le_total _) ht)⟩

/-- non-vacuity: a regular run that reaches the limit, is refused, frees a slot and continues -/
example :
    (run { limit := 2, maxLen := 0 } [.subReg 1 2, .complete 1 1 true, .subReg 2 2, .subReg 3 2,
      .complete 2 2 false, .subReg 3 2, .complete 3 3 true]).clientSubs = 2 := by decide

/-- the `(limit+1)`-th attempt: with `limit` subscriptions/reservations held, a client subscribe to a
further channel is answered `ErrorLimitExceeded` (regular, map and shared-poll alike) and changes nothing -/
theorem limit_plus_one_rejected (s : LState) (ch len : Nat) (hl : 0 < s.limit) (hfull : s.limit ≤ s.total)
    (hlen : ¬ (0 < s.maxLen ∧ s.maxLen < len)) (hnew : s.inChannels ch = false ∧ s.inMap ch = false) :
    step s (.subReg ch len) = (s, .limitExceeded) ∧ step s (.subMapValidate ch len) = (s, .limitExceeded) ∧
      step s (.subPoll ch len) = (s, .limitExceeded) := by
  simp [step, hlen, hnew.1, hnew.2, hl, hfull]

/-- a server-side subscribe on a connection that already has `limit` entries in `c.channels` closes the
connection with `DisconnectChannelLimit` -/
theorem server_side_at_limit_disconnects (s : LState) (ch : Nat) (hc : s.closed = false) (hl : 0 < s.limit)
    (hfull : s.limit ≤ s.channels.length) :
    (step s (.serverSub ch)).2 = .disconnectChannelLimit := by
  simp [step, hc, hl, hfull]

/-- **Channel limit** (full strength).  Starting from a fresh connection with a positive
`ClientChannelLimit`, after *any* sequence of events — regular and map client subscribe attempts, the
continuations of their `OnSubscribe` answers in any order (also long after other attempts were
validated), failures, unsubscribes, server-side subscribes — the client-side subscriptions plus in-flight
client reservations (placeholders in `c.channels`, loading entries in `c.mapSubscribing`) never exceed the
limit; in particular the connection never holds more than `limit` client-side subscriptions. -/
theorem channel_limit (limit maxLen : Nat) (hl : 0 < limit) (es : List Ev) :
    let s := run { limit := limit, maxLen := maxLen } es
    s.clientEntries ≤ limit ∧ s.clientSubs ≤ limit := by
  have ht := (run_inv (A := fun _ => True) (P := fun s => s.limit = limit ∧ s.clientEntries ≤ limit)
    (fun s e _ ⟨hlim, ht⟩ => by
      have := step_client_inv s e (by omega) (by omega)
      exact ⟨(step_limit s e).1.trans hlim, by omega⟩)
    es { limit := limit, maxLen := maxLen } (fun _ _ => trivial) ⟨rfl, Nat.zero_le _⟩).2
  exact ⟨ht, Nat.le_trans (clientSubs_le_clientEntries _) ht⟩

/-- the former counter-witness of finding C37-1 (fixed by /repo commit 516266d2): two map subscribes
validated before either answer arrives — the second reservation is now refused with
`ErrorLimitExceeded` and the connection stays at its limit of 1 -/
theorem channel_limit_former_counterexample_fixed :
    let s1 := run { limit := 1, maxLen := 0 } [.subMapValidate 4 2, .subMapValidate 5 2, .mapReserve 4, .mapCommit 4 1]
    (step s1 (.mapReserve 5)).2 = .limitExceeded ∧
      (run s1 [.mapReserve 5, .mapCommit 5 2]).clientSubs = 1 := by decide

/-- non-vacuity for `channel_limit`: deferred map and regular subscribes interleaved up to the limit -/
example :
    (run { limit := 2, maxLen := 0 } [.subMapValidate 4 2, .subReg 1 2, .subMapValidate 5 2, .mapReserve 4,
      .mapReserve 5, .complete 1 1 true, .mapCommit 4 2]).clientSubs = 2 := by decide

/-- a shared-poll subscribe while a map subscription is still paginating and the connection is at its
limit is refused (the in-flight map reservation counts) -/
example :
    (step (run { limit := 1, maxLen := 0 } [.subMapValidate 1 2, .mapReserve 1]) (.subPoll 201 8)).2 = .limitExceeded := by
  decide

/-- examined, not a finding: server-side `Client.Subscribe` compares `len(c.channels)` alone with the
limit, so a map subscription that is still loading (entry in `mapSubscribing`) is not counted and the
connection can end up with `limit + 1` entries — of which only `limit` are client-side, so the statement
("never more *client-side* subscriptions than the limit", `channel_limit`) holds on this trace -/
example :
    let s := run { limit := 2, maxLen := 0 } [.subReg 1 2, .complete 1 1 true, .subMapValidate 2 2, .mapReserve 2,
      .serverSub 3, .mapCommit 2 2]
    s.total = 3 ∧ s.clientSubs = 2 := by decide

end CentrifugeVerif.Limits

namespace CentrifugeVerif.Writer

/-- **Slow consumer** (the third conjunct of C37; same statement as C12's `slow_iff_oversize`): an
enqueue on a connection is answered `DisconnectSlow` — and the client then closes the connection as slow
— exactly when `ClientQueueMaxSize > 0` and the pending outgoing bytes at the moment of the check
exceed it. -/
theorem slow_consumer_iff_over_queue_limit (c : Cfg) (hc : 0 < c.initCap) (w : W) (hr : Reachable c w)
    (xs : List Queue.Item) (res : Res) (queued : Nat) (hm : (xs, res, queued) ∈ w.results) :
    res = .slow ↔ (0 < c.maxQueueSize ∧ c.maxQueueSize < queued) :=
  slow_iff_oversize c hc w hr xs res queued hm

end CentrifugeVerif.Writer
