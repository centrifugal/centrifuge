import CentrifugeVerif.Proofs.Queue
import CentrifugeVerif.Proofs.Writer
/-!
# C12 — the per-connection write path delivers messages exactly

Part 1 (this section): `internal/queue.Queue` (ring buffer with growth, immediate and deferred shrink)
refines an unbounded FIFO list for *every* sequence of operations, and its byte-size accounting is the
sum of the queued items' sizes.  Part 2 (`Writer`): see below.
-/
namespace CentrifugeVerif.Queue

/-- **Refinement.**  For every initial capacity `c ≥ 1` and every sequence of queue operations
(`Add`, `AddMany`, `Remove`, `RemoveMany`, `RemoveManyInto`, `RemoveManyIntoShrink`, `FinishCollect(0)`,
the delayed-shrink timer firing at any moment, `Close`, `CloseRemaining`, `Len`, `Size`, `Closed`), the
ring buffer returns exactly what the FIFO specification returns: same items in the same order, nothing
lost or duplicated across resizes, same `Len`, `Size` = byte sum of the queued items. -/
theorem queue_refines_fifo (c : Nat) (hc : 0 < c) (ops : List Op) :
    ((RingQ.new c).run ops).2 = ((⟨[], false⟩ : Fifo).run ops).2 :=
  (run_refines (Rel.new hc) ops).2

/-- The representation invariant holds, and the ring presents exactly the FIFO's content, after every
operation sequence (so in particular `size` is the byte sum of the queued items). -/
theorem queue_state_refines (c : Nat) (hc : 0 < c) (ops : List Op) :
    let q := ((RingQ.new c).run ops).1
    let f := ((⟨[], false⟩ : Fifo).run ops).1
    q.Inv ∧ q.toList = f.items ∧ q.closed = f.closed ∧ q.size = bytes f.items ∧ q.cnt = f.items.length := by
  have h := (run_refines (Rel.new hc) ops).1
  refine ⟨h.1, h.2.1, h.2.2, ?_, ?_⟩
  · rw [← h.2.1]; exact h.1.sizeEq
  · rw [← h.2.1]; simp

theorem fifo_step_no_panic (f : Fifo) (op : Op) : (f.step op).2 ≠ .panic := by
  cases op with
  | shrink | close | len | size | closed => nofun
  | _ => simp only [Fifo.step]; split <;> nofun

theorem fifo_run_no_panic (f : Fifo) (ops : List Op) : Out.panic ∉ (f.run ops).2 := by
  induction ops generalizing f with
  | nil => simp [Fifo.run]
  | cons op ops ih =>
    simp only [Fifo.run, List.mem_cons, not_or]
    exact ⟨fun h => fifo_step_no_panic f op h.symm, ih _⟩

/-- No slice index is ever out of range (the explicit `panic` outcome of the model is unreachable). -/
theorem queue_no_panic (c : Nat) (hc : 0 < c) (ops : List Op) : Out.panic ∉ ((RingQ.new c).run ops).2 := by
  rw [queue_refines_fifo c hc ops]; exact fifo_run_no_panic _ ops

/-! Non-vacuity: a run that grows (2 → 4), wraps, shrinks and closes mid-stream. -/
example :
    ((RingQ.new 2).run [.add ⟨1, 5⟩, .add ⟨2, 3⟩, .add ⟨3, 1⟩, .remove, .size, .addMany [⟨4, 2⟩, ⟨5, 2⟩],
        .removeManyInto 2 (-1), .shrink true, .closeRemaining, .add ⟨6, 1⟩]).2 =
      [.added true, .added true, .added true, .item (some ⟨1, 5⟩), .nat 4, .added true,
        .items (some [⟨2, 3⟩, ⟨3, 1⟩]), .unit, .rem [⟨4, 2⟩, ⟨5, 2⟩], .added false] := by decide

/-- `New(0)` then `Add` indexes a zero-length slice: the explicit panic outcome (outside `Inv`). -/
example : ((RingQ.new 0).add ⟨1, 1⟩).2 = .panic := by decide

end CentrifugeVerif.Queue

/-!
## Part 2 — the writer (`writer.go`) as a transition system

`Writer.step` (in `Model/Writer.lean`) is the executable step function of the model: producers
(`Add`/`AddMany`, the `MaxQueueSize` check, timer-mode scheduling), the flusher goroutine in its modes,
the timer-driven `flush`, `close(flush)`, direct writes, virtual time and the timers, each queue call
and each `w.mu` critical-section boundary an atomic step.  `Reachable c w` quantifies over **all** label
sequences, i.e. all interleavings and all timings.  The theorems hold for every configuration `c`
(mode, write delay, `maxMessagesInFrame`, shrink delay, `MaxQueueSize`) with a positive queue capacity
(`newWriter` maps 0 to 2).
-/
namespace CentrifugeVerif.Writer
open Queue

/-- **Exactly-once, in order.**  In every reachable state, as long as no transport write has failed,
what the transport received from the queue (successful `WriteFn`/`WriteManyFn` calls, flattened) is a
prefix of the sequence of messages accepted by `Add`/`AddMany`, in queue order — no loss, no
duplication, no reordering, whatever the mode, delays, frame limit, growth and shrinking, and whatever
`close` does concurrently. -/
theorem writer_prefix_in_order (c : Cfg) (hc : 0 < c.initCap) (w : W) (hr : Reachable c w)
    (hf : w.failed = false) : txq w.tx <+: w.enq := by
  obtain ⟨rest, h1, _⟩ := (inv_reachable hc hr).order hf
  exact ⟨w.holder.inflight ++ rest, by rw [h1, List.append_assoc]⟩

/-- more precisely: accepted = delivered ++ (batch in the hands of the holder of `w.mu`) ++ queued,
unless `close(false)` discarded the queue -/
theorem writer_conservation (c : Cfg) (hc : 0 < c.initCap) (w : W) (hr : Reachable c w)
    (hf : w.failed = false) (hd : w.dropped = false) :
    w.enq = txq w.tx ++ w.holder.inflight ++ w.q.toList := by
  obtain ⟨rest, h1, h2⟩ := (inv_reachable hc hr).order hf
  rw [h1, h2 hd]

/-- **Close with flush delivers everything.**  Once `close(true)` has returned and no write failed, the
transport has received exactly the accepted sequence (and later `Add`s are refused, see
`closed_refuses`). -/
theorem close_flush_delivers_all (c : Cfg) (hc : 0 < c.initCap) (w : W) (hr : Reachable c w)
    (hcd : w.closeDone = some true) (hf : w.failed = false) (hfree : w.holder = .free) :
    txq w.tx = w.enq := by
  have hI := inv_reachable hc hr
  obtain ⟨rest, h1, h2⟩ := hI.order hf
  have hnd : w.dropped = false := eq_false_of_ne_true fun hd => by
    have := hI.droppedNoFlush hd; simp [closeFlag, Holder.closing, hfree, hcd] at this
  have hqc : w.q.closed = true := hI.queueClosed (Or.inl (by simp [hcd]))
  rw [h1, h2 hnd, RingQ.closed_toList hI.qinv hqc, hfree]
  simp [Holder.inflight]

/-- after `close` returned the queue is closed, so every later `Add` is refused -/
theorem closed_refuses (c : Cfg) (hc : 0 < c.initCap) (w : W) (hr : Reachable c w) (hcd : w.closeDone.isSome = true)
    (x : Item) : (w.q.add x).2 = .closed := by
  have hI := inv_reachable hc hr
  rw [RingQ.add_closed (hI.queueClosed (Or.inl hcd))]

/-- **Slow consumer exactly when over the limit.**  Every `enqueue`/`enqueueMany` call that got past
`Add` returns `DisconnectSlow` iff `MaxQueueSize > 0` and the bytes queued at the moment of its `Size()`
read (the byte sum of the queue's content, third component) exceed `MaxQueueSize`. -/
theorem slow_iff_oversize (c : Cfg) (hc : 0 < c.initCap) (w : W) (hr : Reachable c w)
    (xs : List Item) (res : Res) (queued : Nat) (hm : (xs, res, queued) ∈ w.results) :
    res = .slow ↔ (0 < c.maxQueueSize ∧ c.maxQueueSize < queued) :=
  (inv_reachable hc hr).slow _ hm

/-- no producer, flusher or closer is in the middle of anything -/
def quiescent (w : W) : Prop :=
  w.holder = .free ∧ w.pendCheck = [] ∧ w.pendSched = 0 ∧ w.flushPending = 0

/-- **Timer mode strands no message.**  In timer-driven mode, whenever the system is at rest with a
non-empty queue — connection not closed, no write failed, no enqueue answered `DisconnectSlow` (those
two end the connection) — the flush timer is armed.  (That an armed timer eventually fires is the
runtime's part.) -/
theorem timer_mode_no_stranded_message (c : Cfg) (hc : 0 < c.initCap) (hm : c.mode = .timer) (w : W)
    (hr : Reachable c w) (hq : quiescent w) (hne : 0 < w.q.cnt) (hcl : w.closed = false)
    (hf : w.failed = false) (hs : w.slowSeen = false) : w.flushAt.isSome = true := by
  obtain ⟨ls, hrun⟩ := hr
  have hT := tinv_run hm (WInv.init c hc) (TInv.init c hm) ls hrun
  obtain ⟨h1, h2, h3, h4⟩ := hq
  rcases hT.live hcl hf hs hne with h | h | h | h | h
  · exact h
  · omega
  · simp [h1, Holder.flushing] at h
  · exact absurd h2 h
  · omega

/-! Non-vacuity: concrete reachable states of each kind (`decide` runs the step function). -/

def exCfgTimer : Cfg := { mode := .timer, writeDelay := 10, maxFrame := 2, shrinkDelay := 0, maxQueueSize := 4, initCap := 2 }

/-- timer mode: three messages, timer fires, one batch of two goes out, close(true) flushes the third -/
def exRun : List Lbl :=
  [.add [⟨1, 1⟩] false, .check 0, .sched, .add [⟨2, 1⟩, ⟨3, 1⟩] true, .check 0, .sched, .tick 10, .fire, .tLock,
   .h true, .h true, .h true, .h true, .tFin, .close true, .h true, .h true, .h true]

example : (run exCfgTimer (W.init exCfgTimer) exRun).map (fun w => (txq w.tx, w.enq, w.closeDone, w.failed, w.holder)) =
    some ([⟨1, 1⟩, ⟨2, 1⟩, ⟨3, 1⟩], [⟨1, 1⟩, ⟨2, 1⟩, ⟨3, 1⟩], some true, false, .free) := by decide

/-- a slow-consumer answer: 5 bytes queued with `MaxQueueSize = 4` -/
example : (run exCfgTimer (W.init exCfgTimer) [.add [⟨1, 5⟩] false, .check 0]).map (·.results) =
    some [([⟨1, 5⟩], .slow, 5)] := by decide

/-- a quiescent timer-mode state with a non-empty queue (the flush timer is armed: deadline 10) -/
example : (run exCfgTimer (W.init exCfgTimer) [.add [⟨1, 1⟩] false, .check 0, .sched]).map
    (fun w => decide (w.q.cnt = 1 ∧ w.flushAt = some 10 ∧ w.holder = .free ∧ w.pendCheck = [] ∧
      w.pendSched = 0 ∧ w.flushPending = 0 ∧ w.closed = false ∧ w.failed = false ∧ w.slowSeen = false)) =
    some true := by decide

end CentrifugeVerif.Writer
