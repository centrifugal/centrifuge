import CentrifugeVerif.Proofs.CloseFrame
import CentrifugeVerif.Proofs.HandshakeTokens
import CentrifugeVerif.Proofs.Upgrade
/-!
# C31 — WebSocket close codes and handshake follow the RFC

Property theorems over `Model/Handshake.lean` and `Model/CloseCode.lean`.
-/
namespace CentrifugeVerif.C31
open CentrifugeVerif.Sha1 (Bytes ascii be sha1)
open CentrifugeVerif.Base64
open CentrifugeVerif.Handshake CentrifugeVerif.CloseCode

/-! ## Close codes -/

/-- `isValidReceivedCloseCode` accepts exactly 1000–1003, 1007–1013 and 3000–4999, for every
integer (in particular every 16-bit code).  RFC 6455 §7.4.1 defines 1000–1003 and 1007–1011 and
reserves 3000–4999 for libraries/applications; 1012 and 1013 are IANA registered.  (1014, also
registered at IANA but not defined by the RFC, is rejected — the RFC does not require it.) -/
theorem valid_close_code_iff (code : Nat) :
    isValidReceivedCloseCode code = true ↔
      (1000 ≤ code ∧ code ≤ 1003) ∨ (1007 ≤ code ∧ code ≤ 1013) ∨ (3000 ≤ code ∧ code ≤ 4999) := by
  unfold isValidReceivedCloseCode tableLookup
  split
  case h_15 =>
    -- not in the table: `split` says so as `code = k → False`, which `omega` does not read
    simp only [Bool.false_or, Bool.and_eq_true, decide_eq_true_eq, imp_false] at *
    omega
  all_goals decide

/-- the codes RFC 6455 §7.4 forbids in a close frame on the wire (0–999, 1004, 1005, 1006, 1015,
the unassigned 1016–2999 and everything above 4999) are rejected. -/
theorem forbidden_close_codes_rejected (code : Nat)
    (h : code < 1000 ∨ code = 1004 ∨ code = 1005 ∨ code = 1006 ∨ (1015 ≤ code ∧ code ≤ 2999) ∨ 5000 ≤ code) :
    isValidReceivedCloseCode code = false := by
  cases hv : isValidReceivedCloseCode code with
  | false => rfl
  | true => have := (valid_close_code_iff code).mp hv; omega

/-- every code defined by RFC 6455 for use in close frames is accepted. -/
theorem rfc_close_codes_accepted (code : Nat)
    (h : (1000 ≤ code ∧ code ≤ 1003) ∨ (1007 ≤ code ∧ code ≤ 1011) ∨ (3000 ≤ code ∧ code ≤ 4999)) :
    isValidReceivedCloseCode code = true := by
  rw [valid_close_code_iff]; omega

/-! ## Received close frames -/

/-- A received close frame is *accepted* (answered with a close echo and reported as
`CloseError`) exactly when its body is empty (no status) or has at least two bytes carrying an
allowed code and a UTF-8 reason; otherwise — one-byte body (commit 13f4dfc8), forbidden code,
invalid UTF-8 — it is rejected with a protocol error. -/
theorem recv_close_accepted_iff (c : Conn) (payload : Bytes) :
    (∃ code text, (recvClose c payload).2.1 = .closeError code text) ↔
      payload.length = 0 ∨
        (payload.length ≥ 2 ∧ isValidReceivedCloseCode (u16 payload) = true ∧ utf8Valid (payload.drop 2) = true) := by
  by_cases hg : GoodClose payload
  · obtain ⟨code, text, e⟩ := recvClose_good c hg
    exact ⟨fun _ => hg, fun _ => ⟨code, text, by rw [e]⟩⟩
  · obtain ⟨kind, msg, e⟩ := recvClose_bad c (badClose_of_not_good hg)
    rw [e]
    exact ⟨fun ⟨_, _, h⟩ => (nomatch h), fun h => absurd h hg⟩

/-- …and then code and reason are reported unchanged (an empty body is reported as 1005, "no
status received", with an empty reason). -/
theorem recv_close_reports (c : Conn) (payload : Bytes) (h2 : payload.length ≥ 2)
    (hv : isValidReceivedCloseCode (u16 payload) = true) (hu : utf8Valid (payload.drop 2) = true) :
    (recvClose c payload).2.1 = .closeError (u16 payload) (payload.drop 2) := by
  have h1 : ¬ payload.length = 1 := by omega
  simp [recvClose, h1, h2, hv, hu]

theorem recv_close_empty (c : Conn) : (recvClose c []).2.1 = .closeError 1005 [] := by
  simp [recvClose, closeNoStatusReceived]

/-- a rejected close frame is answered with a close frame carrying 1002 (protocol error) when no
close frame was sent before. -/
theorem recv_close_rejected_sends_1002 (c : Conn) (payload : Bytes) (hs : c.closeSent = false)
    (hbad : payload.length = 1 ∨ (payload.length ≥ 2 ∧
      (isValidReceivedCloseCode (u16 payload) = false ∨ utf8Valid (payload.drop 2) = false))) :
    ∃ len msg, (recvClose c payload).2.2 = .wrote ([0x88, len, 0x03, 0xEA] ++ msg) := by
  obtain ⟨kind, msg, e⟩ := recvClose_bad c hbad
  rw [e]
  exact handleProtocolError_wrote c msg hs

/-! ## First close wins -/

/-- a close-code observation that `recordCloseCode` does not ignore -/
def recordable (e : Nat × Bool) : Bool := decide (0 < e.1) && decide (e.1 ≤ 0xFFFF)

def recordAll (st : Recorded) (evs : List (Nat × Bool)) : Recorded :=
  evs.foldl (fun s e => record s e.1 e.2) st

theorem record_none (e : Nat × Bool) : record none e.1 e.2 = if recordable e then some e else none := by
  unfold record recordable
  by_cases h : e.1 = 0 ∨ e.1 > 0xFFFF
  · rw [if_pos h, if_neg]
    simp only [Bool.and_eq_true, decide_eq_true_eq]
    omega
  · rw [if_neg h, if_pos]
    simp only [Bool.and_eq_true, decide_eq_true_eq]
    omega

theorem recordAll_some (v : Nat × Bool) (evs : List (Nat × Bool)) : recordAll (some v) evs = some v := by
  induction evs with
  | nil => rfl
  | cons e es ih => rw [recordAll, List.foldl_cons, record_some]; exact ih

/-- **first close wins**: after any sequence of observed close frames (sent or received, in the
order of their atomic compare-and-swap), the recorded close code and direction are those of the
first observation with a code in 1…65535; nothing is recorded if there is none. -/
theorem first_close_wins (evs : List (Nat × Bool)) : recordAll none evs = evs.find? recordable := by
  induction evs with
  | nil => rfl
  | cons e es ih =>
    rw [recordAll, List.foldl_cons, List.find?_cons, record_none]
    cases recordable e
    · exact ih
    · exact recordAll_some e es

/-- the connection operations never overwrite a recorded close code … -/
theorem writeClose_keeps (c : Conn) (data : Bytes) (v : Nat × Bool) (h : c.recorded = some v) :
    (writeClose c data).1.recorded = some v := by
  unfold writeClose
  split
  · exact h
  · simp only [h, record_some]; split <;> rfl

theorem recvClose_keeps (c : Conn) (payload : Bytes) (v : Nat × Bool) (h : c.recorded = some v) :
    (recvClose c payload).1.recorded = some v := by
  by_cases hg : GoodClose payload
  · obtain ⟨code, text, e⟩ := recvClose_good c hg
    rw [e]
    exact writeClose_keeps _ _ _ (by rw [h]; exact record_some v code true)
  · obtain ⟨kind, msg, e⟩ := recvClose_bad c (badClose_of_not_good hg)
    rw [e]
    exact writeClose_keeps _ _ _ h

/-- … and the packed `int32` representation (`code | incoming<<16`, 0 = unset) is lossless. -/
theorem unpack_pack (code : Nat) (inc : Bool) (h0 : 0 < code) (h1 : code ≤ 0xFFFF) :
    unpack (pack code inc) = (code, inc) := by
  have hne : code ≠ 0 := by omega
  have hm : code % 65536 = code := Nat.mod_eq_of_lt (by omega)
  have hd : code / 65536 = 0 := Nat.div_eq_of_lt (by omega)
  cases inc <;> simp [unpack, pack, hne, hm, hd] <;> omega

/-! ## Close frame on disconnect -/

/-- **close frame when it fits**: `websocketTransport.Close(Disconnect{code, reason})` on a
connection that has not sent a close frame yet, for a code that fits the 2-byte status field and
is neither `DisconnectConnectionClosed` (3000: the peer is gone, nothing is sent) nor 1005 (which
must not appear on the wire): a close frame carrying exactly the code and the reason is written
iff `2 + len(reason) ≤ 125`; otherwise nothing is written at all. -/
theorem close_frame_when_fits (code : Nat) (reason : Bytes)
    (h3000 : code ≠ 3000) (h1005 : code ≠ 1005) (h16 : code ≤ 0xFFFF) :
    (2 + reason.length ≤ 125 →
      (transportClose {} code reason).2 = [[0x88, UInt8.ofNat (2 + reason.length)] ++ be 2 code ++ reason]) ∧
    (¬ 2 + reason.length ≤ 125 → (transportClose {} code reason).2 = []) := by
  have hl := be2_append_length code reason
  rw [transportClose_eq {} code reason h3000 h1005 h16]
  constructor
  · intro hfit
    rw [writeClose_fits {} _ rfl (by rw [hl]; exact hfit), hl]
    simp [framesOf]
  · intro hfit
    have hlt : (be 2 code ++ reason).length > maxControlFramePayloadSize := by
      rw [hl]; exact Nat.not_le.mp hfit
    simp only [writeClose, hlt, if_true, framesOf]

/-- and the code recorded for the metrics label is the disconnect code, direction outgoing. -/
theorem close_frame_records (code : Nat) (reason : Bytes)
    (h3000 : code ≠ 3000) (h1005 : code ≠ 1005) (h0 : 0 < code) (h16 : code ≤ 0xFFFF)
    (hfit : 2 + reason.length ≤ 125) :
    (transportClose {} code reason).1.recorded = some (code, false) := by
  have hl := be2_append_length code reason
  have hu : u16 (be 2 code ++ reason) = code := by
    simp [be, u16, Nat.shiftRight_eq_div_pow]
    omega
  rw [transportClose_eq {} code reason h3000 h1005 h16, writeClose_fits {} _ rfl (by rw [hl]; exact hfit),
    if_pos (by omega), hu]
  exact if_neg (by omega)

example : (transportClose {} 3001 (ascii "shutdown")).2 =
    [[0x88, 10, 0x0B, 0xB9] ++ ascii "shutdown"] := by decide

/-! ## Opening handshake -/

theorem upgrade_other_proto_rejected (cfg : Config) (r : Request) (h1 : r.protoMajor ≠ 1) (h2 : r.protoMajor ≠ 2) :
    upgrade cfg r = .reject 400 .badProto := by
  simp [upgrade, h1, h2]

theorem upgrade_accept_h1_iff (cfg : Config) (r : Request) (h1 : r.protoMajor = 1) :
    (∃ k s c, upgrade cfg r = .acceptH1 k s c) ↔ H1Conditions cfg r ∧ originOK cfg r = true :=
  ⟨fun ⟨k, s, c, h⟩ => (upgrade_h1_result cfg r k s c h).1,
    fun ⟨hc, ho⟩ => ⟨_, _, _, upgrade_h1_accept cfg r h1 hc ho⟩⟩

theorem upgrade_accept_h2_iff (cfg : Config) (r : Request) (h2 : r.protoMajor = 2) :
    (∃ s c, upgrade cfg r = .acceptH2 s c) ↔ H2Conditions r ∧ originOK cfg r = true := by
  constructor
  · rintro ⟨s, c, h⟩
    rcases upgrade_inv cfg r with ⟨_, _, e⟩ | ⟨_, _, _, e⟩ | ⟨_, hc, ho, _⟩
    · rw [e] at h; cases h
    · rw [e] at h; cases h
    · exact ⟨hc, ho⟩
  · exact fun ⟨hc, ho⟩ => ⟨_, _, upgrade_h2_accept cfg r h2 hc ho⟩

/-- the selected subprotocol is one of the server's and one the client listed (an element of the
comma separated first `Sec-WebSocket-Protocol` header line, surrounding white space ignored) -/
theorem subprotocol_offered (cfg : Config) (r : Request) (hs : selectSubprotocol cfg r ≠ []) :
    ∃ server, cfg.subprotocols = some server ∧ selectSubprotocol cfg r ∈ server ∧
      ∃ e ∈ splitComma (r.get "Sec-Websocket-Protocol"), trimSpace e = selectSubprotocol cfg r := by
  generalize hres : selectSubprotocol cfg r = res at hs ⊢
  unfold selectSubprotocol at hres
  split at hres
  · exact absurd hres.symm hs
  rename_i server hsub
  simp only [] at hres
  split at hres
  · exact absurd hres.symm hs
  split at hres
  · rename_i p hf
    subst hres
    obtain ⟨e, he, hep⟩ := List.mem_map.mp (List.mem_of_find?_eq_some hf)
    refine ⟨server, hsub, by simpa using List.find?_some hf, e, ?_, hep⟩
    -- all of the header's elements, or all but an empty last one
    split at he
    · exact List.dropLast_subset _ he
    · exact he
  · exact absurd hres.symm hs

/-- permessage-deflate is negotiated only when enabled and offered by the client -/
theorem compression_offered (cfg : Config) (r : Request) (h : negotiateCompression cfg r = true) :
    cfg.enableCompression = true ∧
      ∃ e ∈ parseExtensions (r.values "Sec-Websocket-Extensions"), e.name = ascii "permessage-deflate" := by
  unfold negotiateCompression at h
  simp only [Bool.and_eq_true, List.any_eq_true, beq_iff_eq] at h
  exact h

/-- **accept key**: an accepted HTTP/1.1 upgrade answers with
`Sec-WebSocket-Accept = base64(sha1(Sec-WebSocket-Key ++ "258EAFA5-E914-47DA-95CA-C5AB0DC85B11"))`
(RFC 6455 §4.2.2 step 5.4), `sha1` and `base64` being the Lean implementations of FIPS 180-4 /
RFC 4648 in `Model/Sha1.lean`, `Model/Base64.lean`. -/
theorem accept_key_rfc (cfg : Config) (r : Request) (k s : Bytes) (c : Bool)
    (h : upgrade cfg r = .acceptH1 k s c) :
    k = encode (sha1 (r.get "Sec-Websocket-Key" ++ ascii "258EAFA5-E914-47DA-95CA-C5AB0DC85B11")) :=
  (upgrade_h1_result cfg r k s c h).2.1

/-- … and the negotiated subprotocol / compression of an accepted upgrade were offered -/
theorem accepted_negotiation_offered (cfg : Config) (r : Request) (k s : Bytes) (c : Bool)
    (h : upgrade cfg r = .acceptH1 k s c) :
    (s ≠ [] → ∃ server, cfg.subprotocols = some server ∧ s ∈ server ∧
        ∃ e ∈ splitComma (r.get "Sec-Websocket-Protocol"), trimSpace e = s) ∧
    (c = true → cfg.enableCompression = true ∧
        ∃ e ∈ parseExtensions (r.values "Sec-Websocket-Extensions"), e.name = ascii "permessage-deflate") := by
  obtain ⟨_, _, hs, hc⟩ := upgrade_h1_result cfg r k s c h
  subst hs hc
  exact ⟨subprotocol_offered cfg r, compression_offered cfg r⟩

/-! ### against the declarative RFC reading of the header fields (`Spec/Upgrade.lean`) -/
open CentrifugeVerif.UpgradeSpec

/-- soundness for *all* header values: if `tokenListContainsValue` says yes, some line has the
token as a well-formed comma separated element. -/
theorem token_list_sound (lines : List Bytes) (v : Bytes) (h : tokenListContains lines v = true) :
    HeaderHas lines v := by
  unfold tokenListContains at h
  rw [List.any_eq_true] at h
  obtain ⟨l, hl, h⟩ := h
  exact ⟨l, hl, lineContains_sound v _ l h⟩

/-- on well-formed `1#token` field values the scanner decides RFC 7230 list membership exactly
(values with empty or malformed elements are not valid `1#token` lists; there the scanner accepts
only when every element before the hit is well-formed). -/
theorem token_list_spec (lines : List Bytes) (v : Bytes) (hwf : ∀ l ∈ lines, WellFormedList l) :
    tokenListContains lines v = true ↔ HeaderHas lines v := by
  constructor
  · exact token_list_sound lines v
  · rintro ⟨l, hl, hhas⟩
    unfold tokenListContains
    rw [List.any_eq_true]
    exact ⟨l, hl, lineContains_complete v _ l (by omega) (hwf l hl) hhas⟩

/-- RFC 6455 §4.2.1 items 1, 3, 4, 5, 6 for an HTTP/1.1 request (item 2, `Host`, is enforced by
`net/http`; the key item is `isValidChallengeKey`, i.e. 24 characters that base64-decode to 16
bytes). -/
def ValidUpgradeH1 (r : Request) : Prop :=
  r.method = ascii "GET" ∧
  HeaderHas (r.values "Connection") (ascii "upgrade") ∧
  HeaderHas (r.values "Upgrade") (ascii "websocket") ∧
  HeaderHas (r.values "Sec-Websocket-Version") (ascii "13") ∧
  isValidChallengeKey (r.get "Sec-Websocket-Key") = .valid

/-- **key validity**: `isValidChallengeKey` accepts exactly the strings consisting of 22 base64
alphabet characters followed by `==`, i.e. the base64 texts of 16-byte values (RFC 6455 §4.1:
"a base64-encoded value that, when decoded, is 16 bytes in length"); the low four bits of the 22nd
character are not checked, which RFC 4648 §3.5 leaves to the decoder.  In particular `\r`/`\n`, which
Go's decoder skips, cannot occur in an accepted 24-character key. -/
theorem key_valid_iff (s : Bytes) :
    isValidChallengeKey s = .valid ↔
      s.length = 24 ∧ (∀ c ∈ s.take 22, isAlpha c = true) ∧ s.drop 22 = [61, 61] := by
  rw [isValidChallengeKey_valid]
  constructor
  · -- 16 bytes need 6 quanta, and 24 characters are no more than that
    rintro ⟨h24, hd⟩
    obtain ⟨_, q, p, hm, hq, hsh⟩ := goDecodeLen_ok _ _ s 0 16 (Nat.lt_succ_self _) hd
    have hq6 : q = 6 := by omega
    have hp2 : p = 2 := by omega
    subst hq6 hp2
    obtain ⟨a, ha, hs⟩ := hsh (by omega)
    have hla : a.length = 22 := by
      rw [hs, List.length_append] at h24
      exact Nat.add_right_cancel h24
    subst hs
    exact ⟨h24, by rw [List.take_left' hla]; exact ha, List.drop_left' hla⟩
  · rintro ⟨h24, ha, hp⟩
    have hs : s = s.take 22 ++ List.replicate 2 61 := by
      have := List.take_append_drop 22 s
      rw [hp] at this
      exact this.symm
    have hl : (s.take 22).length = 22 := by rw [List.length_take]; omega
    refine ⟨h24, ?_⟩
    rw [goDecode, hs]
    exact goDecodeLen_padded 18 6 _ _ 2 0 16 ha (by omega) (by rw [hl]) (Nat.lt_succ_of_lt (by rw [← hs]; omega))
      rfl (by omega)

/-- every key a conforming client sends (base64 of a 16-byte nonce) is accepted -/
theorem key_of_nonce_valid (nonce : Bytes) (h : nonce.length = 16) :
    isValidChallengeKey (encode nonce) = .valid := by
  rw [isValidChallengeKey_valid, goDecode_encode 18 nonce (by omega), h]
  obtain ⟨a, p, q, _, _, he, hl, hb⟩ := encode_padded nonce
  rw [he, List.length_append, List.length_replicate]
  exact ⟨by omega, rfl⟩

example : isValidChallengeKey (ascii "dGhlIHNhbXBsZSBub25jZQ==") = .valid := by decide +kernel
example : isValidChallengeKey (ascii "dGhlIHNhbXBsZSBub25jZQ=\n") = .invalid := by decide +kernel

/-- the `Connection`, `Upgrade` and `Sec-WebSocket-Version` values are well-formed token lists -/
def WellFormedHeaders (r : Request) : Prop :=
  (∀ l ∈ r.values "Connection", WellFormedList l) ∧ (∀ l ∈ r.values "Upgrade", WellFormedList l) ∧
  (∀ l ∈ r.values "Sec-Websocket-Version", WellFormedList l)

/-- **accepts exactly the valid upgrades**: for an HTTP/1.1 request with well-formed header lists
(and HTTP/1.1 upgrades enabled), `Upgrade` accepts iff the request is a valid WebSocket upgrade and
passes the origin check. -/
theorem upgrade_accept_iff (cfg : Config) (r : Request) (h1 : r.protoMajor = 1)
    (hen : cfg.disableHTTP1Upgrade = false) (hwf : WellFormedHeaders r) :
    (∃ k s c, upgrade cfg r = .acceptH1 k s c) ↔ ValidUpgradeH1 r ∧ originOK cfg r = true := by
  rw [upgrade_accept_h1_iff cfg r h1]
  unfold H1Conditions ValidUpgradeH1
  rw [token_list_spec _ _ hwf.1, token_list_spec _ _ hwf.2.1, token_list_spec _ _ hwf.2.2]
  constructor
  · rintro ⟨⟨_, hc, hu, hm, hv, hk⟩, ho⟩; exact ⟨⟨hm, hc, hu, hv, hk⟩, ho⟩
  · rintro ⟨⟨hm, hc, hu, hv, hk⟩, ho⟩; exact ⟨⟨hen, hc, hu, hm, hv, hk⟩, ho⟩

/-- without the well-formedness assumption one direction still holds: every accepted request is a
valid upgrade that passed the origin check (nothing invalid is ever accepted). -/
theorem upgrade_accept_sound (cfg : Config) (r : Request) (h1 : r.protoMajor = 1)
    (h : ∃ k s c, upgrade cfg r = .acceptH1 k s c) : ValidUpgradeH1 r ∧ originOK cfg r = true := by
  obtain ⟨⟨_, hc, hu, hm, hv, hk⟩, ho⟩ := (upgrade_accept_h1_iff cfg r h1).mp h
  exact ⟨⟨hm, token_list_sound _ _ hc, token_list_sound _ _ hu, token_list_sound _ _ hv, hk⟩, ho⟩

/-- the default origin check is "no Origin header, or its host equals `Host` ignoring ASCII case" -/
theorem default_origin_check (cfg : Config) (r : Request) (hco : cfg.checkOrigin = none) :
    originOK cfg r = true ↔
      r.values "Origin" = [] ∨ ∃ h, r.originHost = some h ∧ h.map lower = r.host.map lower := by
  unfold originOK checkSameOrigin
  rw [hco]
  cases r.values "Origin" <;> cases r.originHost <;> simp [foldEq_iff]

/-- centrifuge's own default (`checkSameHost` in `handler_websocket.go`, installed by
`NewWebsocketHandler`): an absent or empty first `Origin` value passes, otherwise the origin must
parse and its host equal `Host` ignoring ASCII case. -/
theorem centrifuge_origin_check (r : Request) :
    checkSameHost r = true ↔
      r.get "Origin" = [] ∨ ∃ h, r.originHost = some h ∧ r.host.map lower = h.map lower := by
  unfold checkSameHost
  cases r.get "Origin" <;> cases r.originHost <;> simp [foldEq_iff]

/-! ### `Upgrade` never panics (finding C31-1, fixed upstream by commit 9d680c6d)

Before the fix `isValidChallengeKey` decoded into a 16-byte buffer, and a 24-character key that
decodes to 17 or 18 bytes (`AAAAAAAAAAAAAAAAAAAAAAAA`) made `Upgrade` panic.  With the
`DecodedLen`-sized buffer no request does. -/

/-- **every request gets an answer**: `Upgrade` accepts or rejects with an HTTP status, it never
panics — for all configurations and all requests. -/
theorem upgrade_no_panic (cfg : Config) (r : Request) : upgrade cfg r ≠ .panic := by
  intro h
  rcases upgrade_inv cfg r with ⟨_, _, e⟩ | ⟨_, _, _, e⟩ | ⟨_, _, _, e⟩ <;> rw [e] at h <;> cases h

/-! ### witnesses / non-vacuity -/

def h1Request (key : Bytes) : Request :=
  { protoMajor := 1, method := ascii "GET", host := ascii "example.com",
    headers := [(ascii "Connection", ascii "keep-alive, Upgrade"), (ascii "Upgrade", ascii "WebSocket"),
      (ascii "Sec-Websocket-Version", ascii "13"), (ascii "Sec-Websocket-Key", key),
      (ascii "Sec-Websocket-Protocol", ascii "chat, centrifuge-protobuf")],
    originHost := none }

def centrifugeCfg : Config :=
  { subprotocols := some [ascii "centrifuge-json", ascii "centrifuge-protobuf"], enableCompression := true,
    disableHTTP1Upgrade := false, checkOrigin := none }

/-- the key that used to panic (24 alphabet characters, decodes to 18 bytes) is now rejected -/
theorem former_panic_key_rejected :
    upgrade centrifugeCfg (h1Request (ascii "AAAAAAAAAAAAAAAAAAAAAAAA")) = .reject 400 .badKey := by decide +kernel

theorem rfc6455_example_accept :
    computeAcceptKey (ascii "dGhlIHNhbXBsZSBub25jZQ==") = ascii "s3pPLMBiTxaQ9kYGzzhZRbK+xOo=" := by decide +kernel

example : upgrade centrifugeCfg (h1Request (ascii "dGhlIHNhbXBsZSBub25jZQ==")) =
    .acceptH1 (ascii "s3pPLMBiTxaQ9kYGzzhZRbK+xOo=") (ascii "centrifuge-protobuf") false := by decide +kernel

theorem sha1_abc : sha1 (ascii "abc") =
    [0xA9, 0x99, 0x3E, 0x36, 0x47, 0x06, 0x81, 0x6A, 0xBA, 0x3E, 0x25, 0x71, 0x78, 0x50, 0xC2, 0x6C, 0x9C, 0xD0, 0xD8, 0x9D] := by
  decide +kernel

/-- the hypotheses of `upgrade_accept_iff` hold for an ordinary browser-style request -/
example : WellFormedList (ascii "keep-alive, Upgrade") := by
  intro e he
  have hs : splitComma (ascii "keep-alive, Upgrade") = [ascii "keep-alive", ascii " Upgrade"] := by decide +kernel
  rw [hs] at he
  simp only [List.mem_cons, List.not_mem_nil, or_false] at he
  rcases he with rfl | rfl
  · exact ⟨ascii "keep-alive", [], [], (by decide), (by intro c hc; cases hc), (by intro c hc; cases hc),
      (by unfold IsToken; decide)⟩
  · exact ⟨ascii "Upgrade", [32], [], (by decide), (by unfold IsOWS; decide), (by intro c hc; cases hc),
      (by unfold IsToken; decide)⟩

example : ListHas (ascii "keep-alive, Upgrade") (ascii "upgrade") :=
  ⟨ascii " Upgrade", by decide +kernel, ascii "Upgrade",
    ⟨[32], [], (by decide), (by unfold IsOWS; decide), (by intro c hc; cases hc), (by unfold IsToken; decide)⟩,
    (by decide)⟩

end CentrifugeVerif.C31
