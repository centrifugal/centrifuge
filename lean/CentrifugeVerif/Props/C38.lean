import CentrifugeVerif.Proofs.Medium
import CentrifugeVerif.Proofs.Dissolve
/-!
# C38 — channel medium preserves delivery guarantees

Statement (properties.jsonl): with the channel medium enabled (latest-publication retention, shared
position sync, queueing, broadcast delay) subscribers still receive each channel's publications in
order, positioned subscribers are never moved past a lost publication silently, and a detected
position loss ends the affected positioned subscriptions.

Model: `Model/Medium.lean` (routing, bounded queue that DROPS on overflow, writer pass that
coalesces under `broadcastDelay`, `MaxUint64` sentinel) in front of `Model/Live.lean`
(`liveStep` = `writePublicationUpdatePosition`).  All theorems quantify over EVERY option
combination `o`, EVERY sequence of producer/writer events `evs` (arrivals of publications and
insufficient-state markers interleaved arbitrarily with writer passes that coalesce any number `k`
of queued items) and every subscriber state.  What the medium broadcast is `(runEvs o [] evs).2`.
-/
namespace CentrifugeVerif.C38
open CentrifugeVerif.Live CentrifugeVerif.Medium

/-- what the medium handed to `Node.handlePublication`, in order -/
def broadcasts (o : Opts) (evs : List Ev) : List Item := (runEvs o [] evs).2
/-- what is still queued -/
def queued (o : Opts) (evs : List Ev) : List Item := (runEvs o [] evs).1

theorem medium_thinning (o : Opts) (evs : List Ev) : Thinning (broadcasts o evs ++ queued o evs) (arrivals evs) :=
  runEvs_thinning o [] evs fun _ => rfl

/-- Order, for the broadcast sequence: whatever the options and the schedule, the medium broadcasts an in-order
subsequence of what the channel's PUB/SUB handed to it (it may drop on overflow and coalesce under
broadcastDelay, it never reorders, duplicates or invents). -/
theorem medium_order (o : Opts) (evs : List Ev) :
    (broadcasts o evs).Sublist (arrivals evs) :=
  (List.sublist_append_left _ _).trans (medium_thinning o evs).1

/-- Order, for a positioned subscriber: it is pushed an in-order subsequence of the channel's
publication offsets. -/
theorem medium_order_positioned (o : Opts) (evs : List Ev) (s : Sub) :
    (delivered (positioned s (broadcasts o evs)).2).Sublist
      ((arrivals evs).map (fun it => (toInc it).offset)) := by
  have h := run_delivered_sublist s ((broadcasts o evs).map toInc)
  rw [List.map_map] at h
  exact h.trans ((medium_order o evs).map _)

/-- Order, for a non-positioned subscriber: it is pushed an in-order subsequence of the
channel's publications (the sentinel is a no-op for it). -/
theorem medium_order_nonpositioned (o : Opts) (evs : List Ev) :
    ((broadcasts o evs).filterMap npPush).Sublist ((arrivals evs).filterMap npPush) :=
  (medium_order o evs).filterMap _

/-- No silent skip: behind any medium behaviour, the offsets a positioned subscriber's position
moves over are exactly `pos+1, pos+2, …, final` — no jump — and if no insufficient-state decision was
taken, the final position is at or above every offset the medium broadcast: a publication the medium
dropped or coalesced away is either not yet passed (position unchanged) or reported as insufficient
state by the next broadcast, never skipped silently. -/
theorem no_silent_skip (o : Opts) (evs : List Ev) (s : Sub) :
    let r := positioned s (broadcasts o evs)
    consumed r.2 = List.range' (s.pos + 1) (r.1.pos - s.pos) ∧
    ((∀ a ∈ r.2, isInsufficient a = false) →
      ∀ it ∈ broadcasts o evs, (toInc it).offset ≤ r.1.pos) := by
  intro r
  refine ⟨?_, fun h it hit => run_no_insuff_ge s _ h (toInc it) (List.mem_map_of_mem hit)⟩
  obtain ⟨n, hp, hc⟩ := run_contiguous s ((broadcasts o evs).map toInc)
  exact hc.trans (by rw [show r.1.pos = s.pos + n from hp, Nat.add_sub_cancel_left])

/-- single step form: one broadcast item moves a positioned subscriber's position by 0 or by exactly 1
(and then the item IS offset `pos+1`). -/
theorem no_silent_skip_step (s : Sub) (it : Item) :
    (liveStep s (toInc it)).1.pos = s.pos ∨
    ((liveStep s (toInc it)).1.pos = s.pos + 1 ∧ (toInc it).offset = s.pos + 1) :=
  (liveStep_pos s (toInc it)).imp (·.1) fun h => ⟨h.1, h.2.1⟩

/-- insufficient-state markers are never dropped by the queue bound nor coalesced away: every marker
handed to the medium has been broadcast or is still queued. -/
theorem sentinel_never_lost (o : Opts) (evs : List Ev) :
    nInsuff (broadcasts o evs) + nInsuff (queued o evs) = nInsuff (arrivals evs) := by
  rw [← nInsuff_append]
  exact (medium_thinning o evs).2

/-- Position loss ends the subscription: once `broadcastInsufficientState` was called and the queue has drained,
every positioned subscriber of the channel (below the sentinel: position and offsets < 2^64-2) takes
an insufficient-state decision (→ unsubscribe / disconnect). -/
theorem position_loss_ends (o : Opts) (evs : List Ev) (s : Sub)
    (hcalled : Item.insuff ∈ arrivals evs) (hdrained : queued o evs = [])
    (hs : Below s) (hb : ∀ it ∈ arrivals evs, ItemBelow it) :
    ∃ a ∈ (positioned s (broadcasts o evs)).2, isInsufficient a = true := by
  have hn := sentinel_never_lost o evs
  rw [hdrained, nInsuff, Nat.add_zero] at hn
  have hm : Item.insuff ∈ broadcasts o evs := by rwa [← nInsuff_pos, hn, nInsuff_pos]
  exact positioned_sentinel s _ hs (fun it hit => hb it ((medium_order o evs).subset hit)) hm

/-- … and non-positioned subscribers are untouched by it: the sentinel is a no-op for them. -/
theorem position_loss_nonpositioned_untouched (a b : List Item) :
    (a ++ [Item.insuff] ++ b).filterMap npPush = (a ++ b).filterMap npPush := by
  simp only [List.filterMap_append, List.filterMap_cons, npPush, List.filterMap_nil, List.append_nil]

/-! ### concrete instances (hypotheses are satisfiable, behaviours are the intended ones) -/

-- queue max 25 bytes, delay on: 5 publications of 10 bytes arrive, the 4th and 5th are dropped,
-- the writer pass coalesces 11,12,13 into 13; a subscriber positioned at 10 reports insufficient state
example :
    broadcasts { queue := true, qmax := 25, delay := 50 }
      [.arrive (.pub ⟨11, 10, 1⟩), .arrive (.pub ⟨12, 10, 1⟩), .arrive (.pub ⟨13, 10, 1⟩),
       .arrive (.pub ⟨14, 10, 1⟩), .arrive (.pub ⟨15, 10, 1⟩), .writer 2] = [.pub ⟨13, 10, 1⟩] := by decide

example :
    (positioned ⟨10, 1⟩ [.pub ⟨13, 10, 1⟩]).2 = [.insufficient .offset] := by decide

-- overflow without delay: 12 is dropped while 11 is still queued; the subscriber gets 11, then 13 is a
-- detected gap
example :
    (positioned ⟨10, 1⟩ (broadcasts { queue := true, qmax := 5 }
      [.arrive (.pub ⟨11, 10, 1⟩), .arrive (.pub ⟨12, 10, 1⟩), .writer 0, .arrive (.pub ⟨13, 10, 1⟩), .writer 0])).2
      = [.deliver 11, .insufficient .offset] := by decide

-- the hypotheses of `position_loss_ends` on a concrete run
example : Item.insuff ∈ arrivals [.arrive (.pub ⟨11, 1, 1⟩), .arrive .insuff, .writer 0, .writer 0] := by decide
example : queued { queue := true } [.arrive (.pub ⟨11, 1, 1⟩), .arrive .insuff, .writer 0, .writer 0] = [] := by decide
example : Below ⟨10, 1⟩ := by decide

-- the sentinel for a subscriber whose epoch is still empty is an offset gap, otherwise an epoch mismatch
example : (liveStep ⟨10, 0⟩ (toInc .insuff)).2 = .insufficient .offset := by decide
example : (liveStep ⟨10, 1⟩ (toInc .insuff)).2 = .insufficient .epoch := by decide

-- the bound in `position_loss_ends` is needed: at position 2^64-2 the sentinel would be taken for the
-- next publication (outside the model's assumption, and unreachable for real streams)
example : (liveStep ⟨maxU64 - 1, 0⟩ (toInc .insuff)).2 = .deliver maxU64 := by decide

/-! ### the medium's queue is a FIFO at the level of its ring buffer

`publicationQueue` (channel_medium.go) is, field by field, the ring buffer of `internal/dissolve`
(`nodes/head/tail/cnt/initCap`, `resize` with the two-segment copy, doubling in `Add`, halving in `Remove`),
plus a `size` counter.  `Model/Dissolve.lean` models that ring line by line (every Go panic is an explicit
`none`); the C38 check runs the real `publicationQueue` against it on random Add/Remove walks.  Here the
ring is shown to refine the FIFO list `Model/Medium.lean` uses for the queue: for EVERY sequence of
Add / Remove operations from an empty queue of any positive initial capacity, no operation panics and
`Remove` returns exactly what a list-based FIFO returns. -/

inductive QOp
  | add (j : Nat)
  | remove
deriving Repr, DecidableEq

/-- the ring: `none` = a Go run-time panic; outputs: `Remove` results in order -/
def ringRun : Dissolve.Queue → List QOp → Option (Dissolve.Queue × List (Option Nat))
  | q, [] => some (q, [])
  | q, .add j :: rest =>
    match Dissolve.add q j with
    | none => none
    | some (q', _) => ringRun q' rest
  | q, .remove :: rest =>
    match Dissolve.remove q with
    | none => none
    | some (q', r) =>
      match ringRun q' rest with
      | none => none
      | some (q'', outs) => some (q'', r :: outs)

/-- the FIFO list specification -/
def fifoRun : List Nat → List QOp → List Nat × List (Option Nat)
  | l, [] => (l, [])
  | l, .add j :: rest => fifoRun (l ++ [j]) rest
  | [], .remove :: rest => let r := fifoRun [] rest; (r.1, none :: r.2)
  | j :: l, .remove :: rest => let r := fifoRun l rest; (r.1, some j :: r.2)

theorem ring_refines_fifo (q : Dissolve.Queue) (hi : Dissolve.QInv q) (ops : List QOp) :
    ∃ q', ringRun q ops = some (q', (fifoRun (Dissolve.abs q) ops).2) ∧ Dissolve.QInv q' ∧
      Dissolve.abs q' = (fifoRun (Dissolve.abs q) ops).1 := by
  induction ops generalizing q with
  | nil => exact ⟨q, rfl, hi, rfl⟩
  | cons op rest ih =>
    cases op with
    | add j =>
      obtain ⟨q1, hadd, hi1, habs1⟩ := Dissolve.add_open hi j
      obtain ⟨q', hrun, hi', habs'⟩ := ih q1 hi1
      rw [habs1] at hrun habs'
      exact ⟨q', by simp only [ringRun, hadd, fifoRun]; exact hrun, hi', by simp only [fifoRun]; exact habs'⟩
    | remove =>
      rcases Dissolve.remove_open hi with ⟨hl, hrem⟩ | ⟨j, q1, hrem, hi1, hl⟩
      · obtain ⟨q', hrun, hi', habs'⟩ := ih q hi
        rw [hl] at hrun habs' ⊢
        exact ⟨q', by simp only [ringRun, hrem, hrun, fifoRun], hi', by simp only [fifoRun]; exact habs'⟩
      · obtain ⟨q', hrun, hi', habs'⟩ := ih q1 hi1
        rw [hl]
        exact ⟨q', by simp only [ringRun, hrem, hrun, fifoRun], hi', by simp only [fifoRun]; exact habs'⟩

/-- From `newPublicationQueue(c)` (`c > 0`; the code uses 2), every Add/Remove sequence
runs without panic and returns the FIFO answers — whatever the ring's wrap, growth and shrink history. -/
theorem pubqueue_fifo (c : Nat) (hc : 0 < c) (ops : List QOp) :
    ∃ q', ringRun (Dissolve.newQueue c) ops = some (q', (fifoRun [] ops).2) ∧
      Dissolve.abs q' = (fifoRun [] ops).1 := by
  obtain ⟨q', h1, _, h2⟩ := ring_refines_fifo (Dissolve.newQueue c) (Dissolve.inv_newQueue c hc) ops
  rw [Dissolve.abs_newQueue] at h1 h2
  exact ⟨q', h1, h2⟩

-- the walk on which the seeded `resize` change (second segment copied to `nodes[tail:]`) first differs:
-- grow 2→4, one Remove (head = 1), two Adds wrap and force a grow with the head off-centre
example : (ringRun (Dissolve.newQueue 2) [.add 1, .add 2, .add 3, .add 4, .remove, .add 5, .add 6, .remove, .remove]).map (·.2)
    = some [some 1, some 2, some 3] := by decide

end CentrifugeVerif.C38
