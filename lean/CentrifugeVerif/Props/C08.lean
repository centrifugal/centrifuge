import CentrifugeVerif.Proofs.ConnProtoLifecycle
/-!
# C08 — connection lifecycle callbacks fire once and in order; shutdown

Model: `Model/ConnProtoLifecycle.lean` (one connection; connect thread, any number of racing
`close` / `unsubscribe` / presence-tick / subscribe calls, `Node.Shutdown`).  All theorems quantify
over every finite label sequence, i.e. over every interleaving.
-/
namespace CentrifugeVerif.Lifecycle

theorem step_inv (s s' : St) (l : Label) (h : Inv s) (hs : step s l = some s') : Inv s' :=
  h.step (Step.of_step hs)

theorem run_inv : ∀ (ls : List Label) (s s' : St), Inv s → run s ls = some s' → Inv s' :=
  run_induction step_inv

/-- `callbacks` (ordering part): in every interleaving the callback log satisfies the executable
predicate `scan … .ok`: the connect callback starts at most once and before any alive / unsubscribe
/ disconnect callback; the disconnect callback starts at most once and only after the connect
callback completed; no alive callback starts or is still running once the disconnect callback
started. -/
theorem callbacks (ls : List Label) (s : St) (hr : run {} ls = some s) : (scan s.log).ok = true :=
  (run_inv ls {} s inv_init hr).ok

/-- reading of `callbacks`, 1: the connect callback starts at most once -/
theorem connect_at_most_once (ls : List Label) (s : St) (hr : run {} ls = some s)
    (l1 l2 : List Ev) (hl : s.log = l1 ++ Ev.connectStart :: l2) : Ev.connectStart ∉ l1 :=
  connectStart_once (hl ▸ callbacks ls s hr)

/-- reading of `callbacks`, 3: the disconnect callback starts at most once, only after the connect
callback completed, and no alive callback starts or ends after it started -/
theorem disconnect_discipline (ls : List Label) (s : St) (hr : run {} ls = some s)
    (l1 l2 : List Ev) (hl : s.log = l1 ++ Ev.discStart :: l2) :
    Ev.discStart ∉ l1 ∧ Ev.connectEnd ∈ l1 ∧ Ev.aliveStart ∉ l2 ∧ Ev.aliveEnd ∉ l2 ∧ Ev.discStart ∉ l2 :=
  discStart_discipline (hl ▸ callbacks ls s hr)

/-- reading of `callbacks`, 2: every alive / unsubscribe / disconnect callback event is preceded
by the start of the connect callback -/
theorem connect_first (ls : List Label) (s : St) (hr : run {} ls = some s)
    (l1 l2 : List Ev) (e : Ev) (hl : s.log = l1 ++ e :: l2)
    (he : e ≠ .connectStart) : Ev.connectStart ∈ l1 :=
  connectStart_first l1 (hl ▸ callbacks ls s hr) he

/-- `callbacks` (unsubscribe part): in every interleaving of subscribes, racing unsubscribes
(client command, server API, expiry …), `close` calls and the connect thread, the unsubscribe
callback of a subscription `n` runs at most once; it ran exactly once for every subscription that
was removed from the connection's table while the handlers were registered (`endedReg`), as soon
as the thread that removed it has delivered what it owes (`owes n s = 0`, e.g. at quiescence);
and it only ever runs for a subscription that was established and is gone. -/
theorem unsubscribe_exactly_once (ls : List Label) (s : St) (hr : run {} ls = some s) (n : Nat) :
    cntU n s ≤ 1 ∧ (n ∈ s.endedReg → owes n s = 0 → cntU n s = 1) ∧
    (0 < cntU n s → n < s.nextSub ∧ n ∉ s.subs) := by
  have h := run_induction (fun _ _ _ h hs => UInv.step h (Step.of_step hs)) ls {} s uinv_init hr
  refine ⟨Nat.le_trans (Nat.le_add_right ..) (h.once n), fun hm ho => ?_, fun hp => ⟨?_, fun hm => ?_⟩⟩
  · have := (h.ended n hm).2; omega
  · apply Nat.lt_of_not_le
    intro hle
    have := h.zero n (.inr hle); omega
  · have := h.zero n (.inl hm); omega

/-- a connection that was registered in the hub when the shutdown took its snapshot is closed
when `Shutdown` returns -/
theorem shutdown_closes_registered (ls : List Label) (s : St) (hr : run {} ls = some s) (hd : s.shut = .done)
    (hreg : s.cpc = .ready ∨ s.cpc = .inCb ∨ s.cpc = .doneRan) : s.status = .closed :=
  have h := run_induction (P := fun s => Inv s ∧ SInv s)
    (fun s s' l h hs => ⟨step_inv s s' l h.1 hs, h.2.step h.1 (Step.of_step hs)⟩) ls {} s ⟨inv_init, sinv_init⟩ hr
  (h.2.sh (by simp [hd]) hreg).resolve_right (by simp [hd])

/-- `shutdown_final` (full strength since the fix "no connection becomes connected once node
shutdown took its snapshot"): in every interleaving, once `Node.Shutdown` has completed the
connection is not connected — whether it was registered before the snapshot (then it is closed) or
tries to register afterwards (`addClient` refuses, `triggerConnect` is never reached) — and it
never becomes connected in any continuation. -/
theorem shutdown_final (ls : List Label) (s : St) (hr : run {} ls = some s) (hd : s.shut = .done) :
    s.status ≠ .connected ∧ ∀ ls3 s3, run s ls3 = some s3 → s3.status ≠ .connected := by
  -- a connected client ran its connect callback, so it passed `addClient` and would be closed
  have key : ∀ ls s, run {} ls = some s → s.shut = .done → s.status ≠ .connected := fun ls s hr hd hc => by
    have := shutdown_closes_registered ls s hr hd (.inr (.inr ((run_inv ls {} s inv_init hr).conn hc)))
    rw [hc] at this; cases this
  refine ⟨key ls s hr hd, fun ls3 s3 h3 => key (ls ++ ls3) s3 ?_ (shut_done_stable ls3 s s3 h3 hd)⟩
  rw [run_append, hr]; exact h3

/-- the former counter-witness (findings C08-1…4, now fixed): after the snapshot `addClient`
is refused … -/
example : run {} [.shutdownSnapshot, .shutdownDone, .connectCmdOk] = none := by decide
/-- … the connect fails, the spawned `close(DisconnectShutdown)` closes the connection and the
connect callback never runs. -/
example : ∃ s, run {} [.shutdownSnapshot, .shutdownDone, .connectCmdRefused, .closeTry] = some s ∧
    s.status = .closed ∧ s.log = [] ∧ step s .triggerAcquire = none := ⟨_, rfl, by decide, by decide, by decide⟩

/-! non-vacuity -/
example : ∃ s, run {} [.connectCmdOk, .subscribe, .triggerAcquire, .triggerEnd, .subscribe, .tickAcquire, .tickAliveStart,
    .closeTry, .tickAliveEnd, .tickRelease, .wAcquirePresence, .wRemove, .wCb, .wRemove, .wCb, .wDisc, .wDiscEnd] = some s ∧
    s.log = [.connectStart, .connectEnd, .aliveStart, .aliveEnd, .unsub 0, .unsub 1, .discStart, .discEnd] :=
  ⟨_, rfl, by decide⟩
example : ∃ s, run {} [.connectCmdOk, .triggerAcquire, .triggerEnd, .shutdownSnapshot, .closeTry, .shutdownDone] = some s ∧
    s.shut = .done ∧ s.status = .closed := ⟨_, rfl, by decide, by decide⟩

end CentrifugeVerif.Lifecycle
