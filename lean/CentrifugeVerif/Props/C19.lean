import CentrifugeVerif.Proofs.HistoryHubBroker
import CentrifugeVerif.Proofs.HistoryHubCacheKey
/-!
# C19 — Idempotent and versioned publishes suppress exactly the duplicates
(memory stream broker part; Redis/Lua and the map brokers are not covered here)

Statement: a publish repeating an idempotency key within its result TTL returns the original
stream position, is marked suppressed, adds no history entry and reaches no subscriber; after the
TTL it is a fresh publish.  A versioned publish is suppressed exactly when the channel already
holds an equal or higher version in the same version epoch (unversioned publishes do not reset that
protection), and suppressed publishes change nothing.

What is proved about the code's model (`Model/HistoryHub.lean`, mirroring /repo after the fix
commits a5ec69f4 and e5e52fd9), for all states, operation sequences and times:
* `idem_within_ttl`, `idem_after_ttl_fresh`, `idem_suppressed_iff`, `idem_changes_nothing`;
* `version_suppressed_iff` — against the version pair the stream holds;
* `version_pair_step`, `unversioned_keeps_version` — the held version pair changes **only** by a
  stored versioned publish on that channel: unversioned publishes, other channels' traffic,
  history reads, remove, data expiry do not reset the protection;
* `version_suppressed_changes_nothing` — a version-suppressed publish (with or without `UseDelta`)
  leaves the whole broker state untouched (streams, epochs, **deadlines**, queues, result cache);
* `suppressed_no_broadcast`, `stored_broadcast_once`.
* `cache_key_injective`, `other_key_keeps_entry` — the result-cache key
  `Itoa(len(ch)) + "_" + ch + "_" + key` is injective, so a publish under a different
  (channel, key) never creates, refreshes or hits another pair's entry: with
  `idem_suppressed_iff` the idempotency suppression hits **exactly** the repeats.
All findings are fixed in /repo (each has a witness theorem below whose docstring says what the
code did before the fix; the replays stay in the corpus as regression guards): C19-1 (an unversioned publish reset the version
pair; a5ec69f4), C19-2 (a version-suppressed publish refreshed the history-TTL and meta-TTL
deadlines; e5e52fd9), C19-3 (result-cache key `ch + "_" + key` collided across channels; 1b02042a),
C19-4 (with `UseDelta` the delta read preceded the version check and refreshed the meta-TTL
deadline; 43a5eb1b).
-/
namespace CentrifugeVerif.HistoryHub
open CentrifugeVerif.MemStream CentrifugeVerif.AbsStream

/-- **exact characterisation**: a publish is suppressed as idempotent iff it carries a key and the
result cache holds a live entry under `cacheKey channel key` -/
theorem idem_suppressed_iff (b : Broker) (ch data : String) (o : PubOpts) (now : Nat) :
    (b.publish ch data o now).2.suppress = .idempotency ↔
      o.idemKey ≠ "" ∧ ∃ p e, b.cache (cacheKey ch o.idemKey) = some (p, e) ∧ now < e := by
  constructor
  · intro hs
    rcases publish_cases b ch data o now with ⟨p, h, he⟩ | ⟨hm, hh, s, hst, hv, he⟩ | ⟨hm, hh, r, hr, hsk, he⟩ | ⟨hm, hh, he⟩
    · obtain ⟨hk, e, hc, hl⟩ := (idemHit_eq_some_iff b ch o now p).mp h
      exact ⟨hk, p, e, hc, hl⟩
    · rw [he] at hs; cases hs
    · rw [he] at hs; cases hs
    · rw [he] at hs; cases hs
  · rintro ⟨hk, p, e, he, hl⟩
    rw [publish_hit b ch data o now p ((idemHit_eq_some_iff b ch o now p).mpr ⟨hk, e, he, hl⟩)]

/-- an idempotency-suppressed publish returns the cached position, changes **nothing** in the broker
(no history entry, no deadline, no cache write) and reaches no subscriber -/
theorem idem_changes_nothing (b : Broker) (ch data : String) (o : PubOpts) (now : Nat)
    (hs : (b.publish ch data o now).2.suppress = .idempotency) :
    (b.publish ch data o now).1 = b ∧ (b.publish ch data o now).2.bcast = none ∧
      ∃ e, b.cache (cacheKey ch o.idemKey) = some ((b.publish ch data o now).2.pos, e) ∧ now < e := by
  rcases publish_cases b ch data o now with ⟨p, h, he⟩ | ⟨hm, hh, s, hst, hv, he⟩ | ⟨hm, hh, r, hr, hsk, he⟩ | ⟨hm, hh, he⟩
  · rw [he]
    exact ⟨rfl, rfl, ((idemHit_eq_some_iff b ch o now p).mp h).2⟩
  · rw [he] at hs; cases hs
  · rw [he] at hs; cases hs
  · rw [he] at hs; cases hs

/-- **the result-cache key is injective**: different (channel, key) pairs never share an entry -/
theorem cache_key_injective (ch key ch' key' : String) (h : cacheKey ch key = cacheKey ch' key') :
    ch = ch' ∧ key = key' := cacheKey_injective ch key ch' key' h

/-- a publish under another (channel, key) pair leaves the entry of (`ch`, `key`) as it is —
it neither creates nor refreshes nor replaces it -/
theorem other_key_keeps_entry (b : Broker) (ch key ch' data : String) (o : PubOpts) (now : Nat)
    (hne : ¬ (ch' = ch ∧ o.idemKey = key)) :
    (b.publish ch' data o now).1.cache (cacheKey ch key) = b.cache (cacheKey ch key) := by
  have hck : ¬ (o.idemKey ≠ "" ∧ cacheKey ch key = cacheKey ch' o.idemKey) := fun ⟨_, h⟩ =>
    hne ⟨(cacheKey_injective _ _ _ _ h).1.symm, (cacheKey_injective _ _ _ _ h).2.symm⟩
  rcases publish_cases b ch' data o now with ⟨p, h, he⟩ | ⟨hm, hh, s, hst, hv, he⟩ | ⟨hm, hh, r, hr, hsk, he⟩ | ⟨hm, hh, he⟩
  · rw [he]
  · rw [he]
  · rw [he, saved_cache, if_neg hck]
  · rw [he, saved_cache, if_neg hck]

/-- a keyed publish that is not suppressed saves its position under the cache key with
`ExpireAt = now + seconds·1000` -/
theorem keyed_publish_saves (b : Broker) (ch data : String) (o : PubOpts) (now : Nat)
    (hk : o.idemKey ≠ "") (hs : (b.publish ch data o now).2.suppress = .none) :
    (b.publish ch data o now).1.cache (cacheKey ch o.idemKey) =
      some ((b.publish ch data o now).2.pos, now + idemSeconds o * 1000) := by
  rcases publish_cases b ch data o now with ⟨p, h, he⟩ | ⟨hm, hh, s, hst, hv, he⟩ | ⟨hm, hh, r, hr, hsk, he⟩ | ⟨hm, hh, he⟩
  · rw [he] at hs; cases hs
  · rw [he] at hs; cases hs
  · rw [he, saved_cache, if_pos ⟨hk, rfl⟩]
  · rw [he, saved_cache, if_pos ⟨hk, rfl⟩]

/-- **idem_within_ttl**: after a keyed publish at `t0` that was not suppressed, *whatever* happens
next before `t0 + resultTTL` (any operations on any channels, sweeper wake-ups included), a publish
to the same channel with the same key before `t0 + resultTTL` returns the original position,
suppressed as idempotent, leaves the broker state exactly as it was and reaches no subscriber. -/
theorem idem_within_ttl (b : Broker) (ch data : String) (o : PubOpts) (t0 : Nat)
    (hk : o.idemKey ≠ "") (hs : (b.publish ch data o t0).2.suppress = .none)
    (ops : List Op) (hops : ∀ op ∈ ops, opTimeMs op < t0 + idemSeconds o * 1000)
    (data' : String) (o' : PubOpts) (now : Nat) (hk' : o'.idemKey = o.idemKey)
    (hnow : now < t0 + idemSeconds o * 1000) :
    (run (b.publish ch data o t0).1 ops).publish ch data' o' now =
      (run (b.publish ch data o t0).1 ops, ⟨(b.publish ch data o t0).2.pos, .idempotency, none⟩) := by
  have hsave := keyed_publish_saves b ch data o t0 hk hs
  have hkeep := run_keeps_entry _ ops _ _ _ hsave hops
  exact publish_hit _ _ _ _ _ _ ((idemHit_eq_some_iff _ ch o' now _).mpr ⟨hk' ▸ hk, _, hk' ▸ hkeep, hnow⟩)

/-- **idem_after_ttl_fresh**: when the entry under the cache key has expired (`ExpireAt ≤ now`) or
does not exist, the publish is not suppressed as idempotent — it takes the normal path (and saves a
new result when it is stored). -/
theorem idem_after_ttl_fresh (b : Broker) (ch data : String) (o : PubOpts) (now : Nat)
    (hexp : ∀ p e, b.cache (cacheKey ch o.idemKey) = some (p, e) → e ≤ now) :
    (b.publish ch data o now).2.suppress ≠ .idempotency := by
  intro hs
  obtain ⟨_, p, e, he, hl⟩ := (idem_suppressed_iff b ch data o now).mp hs
  have := hexp p e he
  omega

/-- **version_suppressed_iff**: a publish is suppressed for its version iff it is not an idempotent
repeat, history is on, the channel has a stream, `version > 0`, the version epoch is empty or equals
the stream's current version epoch, and `version ≤` the stream's current version. -/
theorem version_suppressed_iff (b : Broker) (ch data : String) (o : PubOpts) (now : Nat) :
    (b.publish ch data o now).2.suppress = .version ↔
      b.idemHit ch o now = none ∧ o.history ∧
        ∃ s, (b.hub.chans ch).stream = some s ∧ VersionSkip o s := by
  constructor
  · intro hs
    rcases publish_cases b ch data o now with ⟨p, h, he⟩ | ⟨hm, hh, s, hst, hv, he⟩ | ⟨hm, hh, r, hr, hsk, he⟩ | ⟨hm, hh, he⟩
    · rw [he] at hs; cases hs
    · exact ⟨hm, hh, s, hst, hv⟩
    · rw [he] at hs; cases hs
    · rw [he] at hs; cases hs
  · rintro ⟨hm, hh, hex⟩
    rcases publish_cases b ch data o now with ⟨p, h, he⟩ | ⟨hm', hh', s, hst, hv, he⟩ | ⟨hm', hh', r, hr, hsk, he⟩ | ⟨hm', hh', he⟩
    · rw [hm] at h; cases h
    · rw [he]
    · rw [hr, (add_skip_iff _ _ _ _ _).mpr hex] at hsk; cases hsk
    · exact absurd hh hh'

/-- what `Add` does to the stream's version pair: a versioned publish sets it, an **unversioned
publish keeps it** -/
theorem stored_version_pair (s : MStream Pub) (v : Pub) (size ver : Nat) (ve : String) :
    ((s.add v size ver ve).1.topVersion, (s.add v size ver ve).1.topVersionEpoch) =
      if ver > 0 then (ver, ve) else (s.topVersion, s.topVersionEpoch) := by
  unfold MStream.add
  split <;> rfl

/-- **unversioned publishes do not reset the protection** (stream level) -/
theorem unversioned_keeps_version (s : MStream Pub) (v : Pub) (size : Nat) (ve : String) :
    (s.add v size 0 ve).1.topVersion = s.topVersion ∧
      (s.add v size 0 ve).1.topVersionEpoch = s.topVersionEpoch := ⟨rfl, rfl⟩

/-- the version pair a stream holds -/
def vpair (s : MStream Pub) : Nat × String := (s.topVersion, s.topVersionEpoch)

/-- **the held version pair changes only by a stored versioned publish on that channel**: across
any operation, a channel that has a stream before and after it holds the same version pair —
unless the operation is a publish to that channel with `version > 0` that was stored, in which
case the pair is that publish's.  (So unversioned publishes, idempotent or version-suppressed
publishes, publishes to other channels, history reads, `RemoveHistory` and data expiry all keep
the protection; it ends only with the stream itself, at meta expiry.) -/
theorem version_pair_step (b : Broker) (op : Op) (x : String) (s s' : MStream Pub)
    (hst : (b.hub.chans x).stream = some s) (hst' : ((step b op).1.hub.chans x).stream = some s') :
    vpair s' = vpair s ∨
      ∃ data o now, op = .publish x data o now ∧ o.version > 0 ∧
        (b.publish x data o now).2.suppress = .none ∧ vpair s' = (o.version, o.versionEpoch) := by
  rcases step_stream b op x s hst with e | e | ⟨data, o, now, hop, hsup, e⟩ | ⟨e, _⟩ <;> rw [e] at hst'
  · cases hst'; exact .inl rfl
  · cases hst'; exact .inl rfl
  · cases hst'
    by_cases hver : o.version > 0
    · exact .inr ⟨data, o, now, hop, hver, hsup, by simp only [vpair, MStream.add, if_pos hver]⟩
    · exact .inl (by simp only [vpair, MStream.add, if_neg hver])
  · cases hst'

/-- **version protection**: in a state where the channel's stream holds version `v` in epoch `ve`, a
publish with version `0 < v' ≤ v` in the same or an empty epoch is suppressed — and by
`version_pair_step` the held pair is the one of the latest stored *versioned* publication, whatever
unversioned traffic came after it. -/
theorem version_protection (b : Broker) (ch data : String) (o : PubOpts) (now : Nat) (s : MStream Pub)
    (hst : (b.hub.chans ch).stream = some s) (hm : b.idemHit ch o now = none) (hh : o.history)
    (h0 : 0 < o.version) (hle : o.version ≤ s.topVersion)
    (hve : o.versionEpoch = "" ∨ o.versionEpoch = s.topVersionEpoch) :
    (b.publish ch data o now).2.suppress = .version :=
  (version_suppressed_iff b ch data o now).mpr ⟨hm, hh, s, hst, h0, hve, hle⟩

/-- a version-suppressed or idempotency-suppressed publish reaches no subscriber -/
theorem suppressed_no_broadcast (b : Broker) (ch data : String) (o : PubOpts) (now : Nat)
    (hs : (b.publish ch data o now).2.suppress ≠ .none) : (b.publish ch data o now).2.bcast = none := by
  rcases publish_cases b ch data o now with ⟨p, h, he⟩ | ⟨hm, hh, s, hst, hv, he⟩ | ⟨hm, hh, r, hr, hsk, he⟩ | ⟨hm, hh, he⟩
  · rw [he]
  · rw [he]
  · rw [he] at hs; exact absurd rfl hs
  · rw [he] at hs; exact absurd rfl hs

/-- an unsuppressed publish is handed to the subscribers exactly once, with the returned position,
the assigned offset and the payload -/
theorem stored_broadcast_once (b : Broker) (ch data : String) (o : PubOpts) (now : Nat)
    (hs : (b.publish ch data o now).2.suppress = .none) :
    ∃ prev, (b.publish ch data o now).2.bcast =
      some ⟨ch, ⟨(b.publish ch data o now).2.pos.offset, ⟨data, o.version⟩⟩,
        (b.publish ch data o now).2.pos, o.useDelta, prev⟩ := by
  rcases publish_cases b ch data o now with ⟨p, h, he⟩ | ⟨hm, hh, s, hst, hv, he⟩ | ⟨hm, hh, r, hr, hsk, he⟩ | ⟨hm, hh, he⟩
  · rw [he] at hs; cases hs
  · rw [he] at hs; cases hs
  · rw [he]; exact ⟨_, rfl⟩
  · rw [he]; exact ⟨_, rfl⟩

/-- **suppressed publishes change nothing**: a version-suppressed publish — with or without
`UseDelta` — leaves the broker state exactly as it was (streams, epochs, history-TTL and meta-TTL
deadlines, sweep queues, result cache), returns the current top position and reaches no subscriber. -/
theorem version_suppressed_changes_nothing (b : Broker) (ch data : String) (o : PubOpts) (now : Nat)
    (hs : (b.publish ch data o now).2.suppress = .version) :
    (b.publish ch data o now).1 = b ∧ (b.publish ch data o now).2.bcast = none ∧
      ∃ s, (b.hub.chans ch).stream = some s ∧ (b.publish ch data o now).2.pos = ⟨s.top, s.epoch⟩ := by
  rcases publish_cases b ch data o now with ⟨p, h, he⟩ | ⟨hm, hh, s, hst, hv, he⟩ | ⟨hm, hh, r, hr, hsk, he⟩ | ⟨hm, hh, he⟩
  · rw [he] at hs; cases hs
  · rw [he]; exact ⟨rfl, rfl, s, hst, rfl⟩
  · rw [he] at hs; cases hs
  · rw [he] at hs; cases hs

/-! ## witnesses (each is replayed on the real broker by the check) -/

/-- fixed finding C19-1: v=5 stored, v=3 suppressed, an unversioned publish stored, then v=3 is
suppressed again — the unversioned publish kept the version pair.
(Before /repo commit a5ec69f4 `Add` overwrote the pair with `(0, "")` and the last publish was
stored at offset 3: outputs were `[(1,none), (1,version), (2,none), (3,none)]`.) -/
def c19w1 : List Op := [
  .publish "a" "d1" { size := 3, ttl := 10000, version := 5 } 500,
  .publish "a" "d2" { size := 3, ttl := 10000, version := 3 } 600,
  .publish "a" "d3" { size := 3, ttl := 10000 } 700,
  .publish "a" "d4" { size := 3, ttl := 10000, version := 3 } 800]

theorem unversioned_keeps_protection :
    (runOut (Broker.init 60000) c19w1).map (fun o => match o with | .pub p => some (p.pos.offset, p.suppress) | _ => none) =
      [some (1, .none), some (1, .version), some (2, .none), some (2, .version)] := by decide

/-- fixed finding C19-2: v=5 at 0.5 s with TTL 10 s; a suppressed v=3 at 9.5 s leaves the data
deadline at second 10, so the history is gone after the sweeps at seconds 10 and 11 — exactly as
without the suppressed publish.
(Before /repo commit e5e52fd9 the deadline moved to second 19 and the history survived.) -/
def c19w2 : List Op := [
  .publish "a" "d1" { size := 3, ttl := 10000, version := 5 } 500,
  .publish "a" "d2" { size := 3, ttl := 10000, version := 3 } 9500]

theorem version_suppressed_keeps_ttl :
    let b1 := run (Broker.init 60000) (c19w2.take 1)
    let b2 := run (Broker.init 60000) c19w2
    (b1.hub.chans "a").expires = some 10 ∧ (b2.hub.chans "a").expires = some 10 ∧
      (((b1.tick 10).tick 11).history "a" { limit := -1 } 0 11500).2.1 = [] ∧
      (((b2.tick 10).tick 11).history "a" { limit := -1 } 0 11500).2.1 = [] := by decide

/-- fixed finding C19-4: v=5 at 0.5 s with meta TTL 3 s (meta deadline: second 3); a
version-suppressed **delta** publish at 2.5 s leaves the meta deadline at second 3, so the stream is
dropped at second 3 and the next read sees a fresh epoch — exactly as without that publish.
(Before /repo commit 43a5eb1b the delta read preceded the version check and moved the deadline to
second 5: the read at 4.5 s still saw offset 1 in epoch 1.) -/
def c19w4 : List Op := [
  .publish "a" "d1" { size := 3, ttl := 10000, metaTTL := 3000, version := 5 } 500,
  .publish "a" "d2" { size := 3, ttl := 10000, metaTTL := 3000, version := 3, useDelta := true } 2500]

theorem version_suppressed_delta_keeps_meta :
    let b1 := run (Broker.init 60000) (c19w4.take 1)
    let b2 := run (Broker.init 60000) c19w4
    (b1.hub.chans "a").removes = some 3 ∧ (b2.hub.chans "a").removes = some 3 ∧
      (((b1.tick 3).tick 4).history "a" { limit := 0 } 3000 4500).2.2 = ⟨0, 2⟩ ∧
      (((b2.tick 3).tick 4).history "a" { limit := 0 } 3000 4500).2.2 = ⟨0, 2⟩ := by decide

/-- fixed finding C19-3: (channel `a_b`, key `c`) and (channel `a`, key `b_c`) have different cache
keys (`3_a_b_c` vs `1_a_b_c`); the first-time publish to `a` is stored.
(Before /repo commit 1b02042a the key was `ch + "_" + key`, both pairs mapped to `a_b_c`, and the
second publish was answered `(⟨1, 1⟩, idempotency)` and dropped.) -/
theorem cache_key_no_collision : cacheKey "a_b" "c" ≠ cacheKey "a" "b_c" := by decide

def c19w3 : List Op := [
  .publish "a_b" "d1" { size := 3, ttl := 10000, idemKey := "c" } 500,
  .publish "a" "d2" { size := 3, ttl := 10000, idemKey := "b_c" } 600]

theorem idem_no_collision_first_publish_stored :
    (runOut (Broker.init 60000) c19w3).map (fun o => match o with | .pub p => some (p.pos, p.suppress) | _ => none) =
      [some (⟨1, 1⟩, .none), some (⟨1, 2⟩, .none)] := by decide

/-! ## non-vacuity of the hypotheses above -/

/-- `idem_within_ttl`: key `k`, result TTL 2 s, repeated 1.9 s later after other traffic -/
example :
    let b := Broker.init 60000
    let o : PubOpts := { size := 3, ttl := 10000, idemKey := "k", idemTTL := 2000 }
    (b.publish "a" "d1" o 500).2.suppress = .none ∧
      ((run (b.publish "a" "d1" o 500).1 [.publish "a" "x" { size := 3, ttl := 10000 } 900, .tick 1, .tick 2]).publish
          "a" "d2" o 2400).2 = ⟨⟨1, 1⟩, .idempotency, none⟩ ∧
      ((run (b.publish "a" "d1" o 500).1 [.publish "a" "x" { size := 3, ttl := 10000 } 900, .tick 1, .tick 2]).publish
          "a" "d3" o 2600).2.suppress = .none := by decide

/-- `version_suppressed_iff` / `version_protection`: equal version, other epoch not suppressed -/
example :
    (runOut (Broker.init 60000) [
      .publish "a" "d1" { size := 3, ttl := 10000, version := 5, versionEpoch := "x" } 500,
      .publish "a" "d2" { size := 3, ttl := 10000, version := 5, versionEpoch := "x" } 600,
      .publish "a" "d3" { size := 3, ttl := 10000, version := 5 } 700,
      .publish "a" "d4" { size := 3, ttl := 10000, version := 2, versionEpoch := "y" } 800]).map
      (fun o => match o with | .pub p => some p.suppress | _ => none) =
      [some .none, some .version, some .version, some .none] := by decide

end CentrifugeVerif.HistoryHub
