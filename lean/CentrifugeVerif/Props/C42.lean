import CentrifugeVerif.Proofs.BPool
/-!
# C42 — Buffer pools never hand out undersized or dirty buffers

Statements are over *all* finite sequences of `get` / `put` / `forget` operations, with `put` of an
arbitrary buffer (any capacity, any length, any dirtiness) and every resolution of what
`sync.Pool.Get` returns (`choice`).

* byte buffers (`bpool.go`) and byte-slice lists (`byte_slices.go`): `get_ok_bytes`, `get_ok_slices`
  hold unconditionally.
* item buffers (`writer.go`): `getItemBuf` hands out `B[:length]`, so "empty" means that the
  `length` visible items are zero.  `putItemBuf` now clears the whole backing array
  (/repo "fix: putItemBuf clears the whole backing array of a returned item buffer", finding C42-1),
  and the full statement holds with no hypothesis: `get_ok_items`.
  Before the fix `putItemBuf` zeroed only `[0, len)`, so a buffer returned with a *shortened* `B`
  over non-zero items came back dirty (checked `example` at `dirtyWitness`); what held then was
  `get_ok_items_partial` (hypothesis: every returned item buffer has zero items beyond its length).
-/
namespace CentrifugeVerif.BPool

/-- the length a request is served for (`length <= 0` ⇒ 16 in the two guarded pools) -/
def eff (n : Int) : Nat := if n ≤ 0 then 16 else n.toNat

def GoodBytes (n : Int) (r : Res) : Prop := ∃ b, r = .buf b ∧ b.len = 0 ∧ n.toNat ≤ b.cap
def GoodSlices (n : Int) (r : Res) : Prop := ∃ b, r = .buf b ∧ b.len = 0 ∧ eff n ≤ b.cap
def GoodItems (n : Int) (r : Res) : Prop :=
  ∃ b, r = .buf b ∧ b.len = eff n ∧ eff n ≤ b.cap ∧ ∀ x ∈ b.vis, x = false

/-- rounding up: the bucket of a request holds buffers that are large enough. -/
theorem next_log2_covers (n : Nat) (h0 : 0 < n) (h : n < 2 ^ 32) :
    n ≤ 2 ^ nextLogBase2 n ∧ n ≤ 2 ^ nextLogBase2G n := by
  rw [nextLogBase2G_eq n (by omega)]
  exact ⟨le_pow_nextLogBase2 n h0 h, le_pow_nextLogBase2 n h0 h⟩

/-- rounding down: a returned buffer is filed under a bucket it is large enough for. -/
theorem prev_log2_fits (c : Nat) (h0 : 0 < c) (h : c < 2 ^ 32) :
    2 ^ prevLogBase2 c ≤ c ∧ 2 ^ prevLogBase2G c ≤ c := by
  rw [prevLogBase2G_eq c (by omega)]
  exact ⟨pow_prevLogBase2_le c h0 h, pow_prevLogBase2_le c h0 h⟩

/-- in-range requests and returned capacities never index outside the bucket arrays. -/
theorem bucket_in_range (n k : Nat) (h0 : 0 < n) (h : n ≤ 2 ^ k) (hk : k < 32) :
    nextLogBase2 n ≤ k ∧ prevLogBase2 n ≤ k ∧ nextLogBase2G n ≤ k ∧ prevLogBase2G n ≤ k := by
  rw [nextLogBase2G_eq n (by omega), prevLogBase2G_eq n (by omega)]
  exact ⟨nextLogBase2_le n k h0 h, prevLogBase2_le n k h0 h hk, nextLogBase2_le n k h0 h, prevLogBase2_le n k h0 h hk⟩

/-- an in-range request: `uint32(l)` is `l`, its bucket exists, and `2^bucket` covers it -/
theorem request_bucket {l : Int} {m k : Nat} (h0 : 0 < l) (h : ¬ l > (m : Int)) (hm : m = 2 ^ k) (hk : k ≤ 18) :
    toU32 l = l.toNat ∧ l.toNat ≠ 0 ∧ nextLogBase2 l.toNat ≤ k ∧ l.toNat ≤ 2 ^ nextLogBase2 l.toNat := by
  have : 2 ^ k ≤ 2 ^ 18 := Nat.pow_le_pow_right (by omega) hk
  have : (two32 : Int) = 4294967296 := by decide
  have hle : l.toNat ≤ 2 ^ k := by omega
  exact ⟨toU32_of_nonneg l (by omega) (by omega), by omega, nextLogBase2_le _ k (by omega) hle,
    le_pow_nextLogBase2 _ (by omega) (by omega)⟩

theorem cap_bucket {c m k : Nat} (h : ¬ (c = 0 ∨ c > m)) (hm : m = 2 ^ k) (hk : k ≤ 18) :
    2 ^ prevLogBase2 c ≤ c ∧ prevLogBase2G c = prevLogBase2 c := by
  have : 2 ^ k ≤ 2 ^ 18 := Nat.pow_le_pow_right (by omega) hk
  exact ⟨pow_prevLogBase2_le c (by omega) (by omega), prevLogBase2G_eq c (by omega)⟩

theorem eff_eq (n : Int) : (effLen 16 n).toNat = eff n := by
  unfold eff effLen; split <;> rfl

theorem getByteBuffer_ok (p : Pools) (n : Int) (c : Option Nat) (hinv : Inv (fun b => b.len = 0) p) :
    Inv (fun b => b.len = 0) (getByteBuffer p n c).1 ∧ (0 ≤ n → GoodBytes n (getByteBuffer p n c).2) := by
  unfold getByteBuffer
  split
  · next h => subst h; exact ⟨hinv, fun _ => ⟨_, rfl, rfl, Nat.zero_le _⟩⟩
  · split
    · exact ⟨hinv, fun _ => ⟨_, rfl, Buf.fresh_len .., by rw [Buf.fresh_cap _ _ (Nat.zero_le _)]; exact Nat.le_refl _⟩⟩
    · next hne hmax =>
      have hreq := fun h0 : 0 ≤ n => request_bucket (l := n) (by omega) hmax (show maxBufferLength = 2 ^ 18 by decide)
        (Nat.le_refl _)
      simp only
      split
      · next hidx =>
        refine ⟨hinv, fun h0 => absurd hidx ?_⟩
        obtain ⟨hu, _, hk, _⟩ := hreq h0
        rw [hu]; unfold nBytePools; omega
      · split
        · next b p' hget =>
          obtain ⟨hI', hcap, hlen⟩ := hinv.poolGet hget
          refine ⟨hI', fun h0 => ⟨b, rfl, hlen, ?_⟩⟩
          obtain ⟨hu, _, _, hpow⟩ := hreq h0
          rw [hu] at hcap; omega
        · refine ⟨hinv, fun h0 => ⟨_, rfl, Buf.fresh_len .., ?_⟩⟩
          obtain ⟨hu, _, _, hpow⟩ := hreq h0
          rw [Buf.fresh_cap _ _ (Nat.zero_le _), hu]; exact hpow

theorem putByteBuffer_inv (p : Pools) (b : Buf) (hinv : Inv (fun b => b.len = 0) p) :
    Inv (fun b => b.len = 0) (putByteBuffer p b).1 :=
  hinv.put fun hc =>
    ⟨by rw [Buf.reslice0_cap]; exact (cap_bucket hc (by decide : maxBufferLength = 2 ^ 18) (Nat.le_refl _)).1, rfl⟩

theorem getByteSlicesBuf_ok (p : Pools) (n : Int) (c : Option Nat) (hinv : Inv (fun _ => True) p) :
    Inv (fun _ => True) (getByteSlicesBuf p n c).1 ∧ GoodSlices n (getByteSlicesBuf p n c).2 := by
  unfold getByteSlicesBuf
  simp only
  split
  · refine ⟨hinv, _, rfl, Buf.fresh_len .., ?_⟩
    rw [Buf.fresh_cap _ _ (Nat.zero_le _), eff_eq]; exact Nat.le_refl _
  · next hmax =>
    obtain ⟨hu, hp, hk, hpow⟩ := request_bucket (l := effLen 16 n) (by unfold effLen; split <;> omega) hmax
      (show maxByteSlicesBufLength = 2 ^ 12 by decide) (by omega)
    rw [eff_eq] at hu hp hk hpow
    rw [hu, nextLogBase2G_eq _ hp, if_neg (by unfold nSlicePools; omega)]
    split
    · next b p' hget =>
      obtain ⟨hI', hcap, _⟩ := hinv.poolGet hget
      exact ⟨hI', _, rfl, rfl, by rw [Buf.reslice0_cap]; omega⟩
    · exact ⟨hinv, _, rfl, Buf.fresh_len .., by rw [Buf.fresh_cap _ _ (Nat.zero_le _)]; exact hpow⟩

theorem putByteSlicesBuf_inv (p : Pools) (b : Buf) (hinv : Inv (fun _ => True) p) :
    Inv (fun _ => True) (putByteSlicesBuf p b).1 :=
  hinv.put fun hc => by
    obtain ⟨h1, h2⟩ := cap_bucket hc (by decide : maxByteSlicesBufLength = 2 ^ 12) (by omega)
    exact ⟨by rw [Buf.reslice0_cap, Buf.clearVis_cap, h2]; exact h1, trivial⟩

theorem getItemBuf_ok (p : Pools) (n : Int) (c : Option Nat) (hinv : Inv Buf.clean p) :
    Inv Buf.clean (getItemBuf p n c).1 ∧ GoodItems n (getItemBuf p n c).2 := by
  unfold getItemBuf defaultMaxMessagesInFrame
  simp only
  split
  · refine ⟨hinv, _, rfl, ?_, ?_, (Buf.fresh_clean _ _).vis⟩
    · rw [Buf.fresh_len, eff_eq]
    · rw [Buf.fresh_cap _ _ (Nat.le_refl _), eff_eq]; exact Nat.le_refl _
  · next hmax =>
    obtain ⟨hu, hp, hk, hpow⟩ := request_bucket (l := effLen 16 n) (by unfold effLen; split <;> omega) hmax
      (show maxItemBufLength = 2 ^ 12 by decide) (by omega)
    rw [eff_eq] at hu hp hk hpow ⊢
    rw [hu, nextLogBase2G_eq _ hp, if_neg (by unfold nItemPools; omega)]
    split
    · next b p' hget =>
      obtain ⟨hI', hcap, hclean⟩ := hinv.poolGet hget
      obtain ⟨b', hre, hlen, hcap', hcl⟩ := Buf.reslice_some b (eff n) (by omega)
      rw [hre]
      exact ⟨hI', b', rfl, hlen, by omega, (hcl hclean).vis⟩
    · exact ⟨hinv, _, rfl, Buf.fresh_len .., by rw [Buf.fresh_cap _ _ hpow]; exact hpow, (Buf.fresh_clean _ _).vis⟩

theorem putItemBufV_inv (fix : Bool) (p : Pools) (b : Buf) (hinv : Inv Buf.clean p)
    (hb : fix = true ∨ ∀ x ∈ b.hid, x = false) : Inv Buf.clean (putItemBufV fix p b).1 :=
  hinv.put fun hc => by
    obtain ⟨h1, h2⟩ := cap_bucket hc (by decide : maxItemBufLength = 2 ^ 12) (by omega)
    constructor
    · rw [Buf.reslice0_cap, show (if fix = true then b.clearAll else b.clearVis).cap = b.cap by split <;> simp, h2]
      exact h1
    · cases fix with
      | true => exact Buf.clearAll_reslice0_clean b
      | false => exact Buf.clearVis_reslice0_clean b (hb.resolve_left nofun)

/-- every `put` of the sequence returns a buffer whose items beyond its length are zero -/
def PutsTailClean (ops : List Op) : Prop := ∀ b, Op.put b ∈ ops → ∀ x ∈ b.hid, x = false

/-- what is known of a pooled buffer of each kind besides its capacity -/
def Pooled : Kind → Buf → Prop
  | .bytes => fun b => b.len = 0
  | .slices => fun _ => True
  | .items => Buf.clean

def Good : Kind → Int → Res → Prop
  | .bytes => fun n r => 0 ≤ n → GoodBytes n r
  | .slices => GoodSlices
  | .items => GoodItems

theorem stepV_ok (fix : Bool) (k : Kind) (p : Pools) (op : Op) (hI : Inv (Pooled k) p)
    (hA : k = .items → fix = false → ∀ b, op = .put b → ∀ x ∈ b.hid, x = false) :
    Inv (Pooled k) (stepV fix k p op).1 ∧ ∀ n r, (stepV fix k p op).2 = some (n, r) → Good k n r := by
  cases op with
  | get n c =>
    refine (?_ : _ ∧ Good k n _).imp_right fun h _ _ e => by cases e; exact h
    cases k
    · exact getByteBuffer_ok p n c hI
    · exact getByteSlicesBuf_ok p n c hI
    · exact getItemBuf_ok p n c hI
  | put b =>
    refine ⟨?_, nofun⟩
    cases k
    · exact putByteBuffer_inv p b hI
    · exact putByteSlicesBuf_inv p b hI
    · cases fix
      · exact putItemBufV_inv false p b hI (Or.inr (hA rfl rfl b rfl))
      · exact putItemBufV_inv true p b hI (Or.inl rfl)
  | forget i pos => exact ⟨hI.remove i pos, nofun⟩

theorem runV_ok (fix : Bool) (k : Kind) (ops : List Op) (p : Pools) (hI : Inv (Pooled k) p)
    (hA : k = .items → fix = false → PutsTailClean ops) : ∀ x ∈ (runV fix k p ops).2, Good k x.1 x.2 := by
  induction ops generalizing p with
  | nil => nofun
  | cons op ops ih =>
    intro x hx
    obtain ⟨hI', hG⟩ := stepV_ok fix k p op hI fun hk hf b hb => hA hk hf b (hb ▸ List.mem_cons_self ..)
    have ih' := ih _ hI' fun hk hf b hb => hA hk hf b (List.mem_cons_of_mem _ hb)
    unfold runV at hx
    simp only at hx
    cases ho : (stepV fix k p op).2 with
    | none => rw [ho] at hx; exact ih' x hx
    | some y =>
      rw [ho] at hx
      rcases List.mem_cons.mp hx with h | h
      · rw [h]; exact hG y.1 y.2 ho
      · exact ih' x h

/-- **byte buffers**: for every operation sequence (arbitrary puts, every pool behaviour) started from
the empty pools, every `GetByteBuffer(n)` with `n ≥ 0` yields a buffer of length 0 and capacity ≥ n.
(`fix` only concerns `putItemBuf`; `runV_ok` starts from any pools satisfying the bucket invariant.) -/
theorem get_ok_bytes (fix : Bool) (ops : List Op) :
    ∀ x ∈ (runV fix .bytes Pools.empty ops).2, 0 ≤ x.1 → GoodBytes x.1 x.2 :=
  runV_ok fix .bytes ops _ (Inv.empty _) nofun

/-- **byte-slice lists**: every `GetByteSlicesBuf(n)` yields a list of length 0 and capacity
≥ n (≥ 16 for n ≤ 0), after any history. -/
theorem get_ok_slices (fix : Bool) (ops : List Op) :
    ∀ x ∈ (runV fix .slices Pools.empty ops).2, GoodSlices x.1 x.2 :=
  runV_ok fix .slices ops _ (Inv.empty _) nofun

/-- **item buffers, code before the fix of C42-1** (`_partial`: needs `PutsTailClean`): with callers
that return item buffers zero beyond their length, even clearing `[0, len)` only sufficed.  Without the
hypothesis the statement is false for that `putItemBuf` (see the `example` at `dirtyWitness`). -/
theorem get_ok_items_partial (ops : List Op) (h : PutsTailClean ops) :
    ∀ x ∈ (runV false .items Pools.empty ops).2, GoodItems x.1 x.2 :=
  runV_ok false .items ops _ (Inv.empty _) fun _ _ => h

/-- **item buffers, code as it is** (`putItemBuf` clears up to capacity): every `getItemBuf(n)` after any
history yields `len = n` (16 for n ≤ 0), `cap ≥ len`, all visible items zero, and never panics. -/
theorem get_ok_items (ops : List Op) :
    ∀ x ∈ (run .items Pools.empty ops).2, GoodItems x.1 x.2 :=
  runV_ok itemFixApplied .items ops _ (Inv.empty _) fun _ h => Bool.noConfusion h

/-- **`get_ok`** — the property for all three pools as they are in /repo, no hypothesis. -/
theorem get_ok (k : Kind) (ops : List Op) :
    ∀ x ∈ (run k Pools.empty ops).2,
      match k with
      | .bytes => 0 ≤ x.1 → GoodBytes x.1 x.2
      | .slices => GoodSlices x.1 x.2
      | .items => GoodItems x.1 x.2 := by
  cases k with
  | bytes => exact get_ok_bytes itemFixApplied ops
  | slices => exact get_ok_slices itemFixApplied ops
  | items => exact get_ok_items ops

/-- `getItemBuf` never panics (bucket index out of range, `B[:length]` out of bounds): every result is a
buffer.  (Results of `put` are not collected by `run`; that their bucket index is in range is
`bucket_in_range`.) -/
theorem get_never_panics_items (ops : List Op) :
    ∀ x ∈ (run .items Pools.empty ops).2, x.2 ≠ Res.panic := by
  intro x hx
  obtain ⟨b, hb, _⟩ := get_ok_items ops x hx
  rw [hb]; intro h; cases h

/-! ## `putItemBuf` before the fix did hand out dirty items -/

/-- a buffer of capacity 2 returned with `B` re-sliced to length 0 over two non-zero items -/
def dirtyWitness : List Op := [.put ⟨[], [true, true]⟩, .get 2 (some 0)]

/- Counter-witness for the code *before* the fix (checked `example`, not an obligation): after
`putItemBuf` of a buffer whose `B` was shortened over non-zero items, `getItemBuf(2)` returned
those items. -/
example :
    (runV false .items Pools.empty dirtyWitness).2 = [(2, .buf ⟨[true, true], []⟩)] ∧
    ¬ GoodItems 2 (.buf ⟨[true, true], []⟩) := by
  refine ⟨by decide, ?_⟩
  rintro ⟨b, hb, _, _, hclean⟩
  cases hb
  exact absurd (hclean true (by simp)) (by decide)

/-- … and the code as it is does not. -/
example : (run .items Pools.empty dirtyWitness).2 = [(2, .buf ⟨[false, false], []⟩)] := by decide

/-- odd capacities, dirty contents, pool hits, misses and forgetting -/
def sampleOps : List Op :=
  [.put ⟨[true, true, true], [false, false, false, false, false, false, false]⟩,  -- cap 10 → bucket 3
   .get 7 (some 0), .get 7 (some 0), .put ⟨[true], []⟩, .forget 0 0, .get 1 (some 0), .get 0 none,
   .get (-3) none]

example : PutsTailClean sampleOps := by
  intro b hb x hx
  simp [sampleOps] at hb
  rcases hb with rfl | rfl
  · simpa using hx
  · cases hx

example : (runV false .items Pools.empty sampleOps).2.map (fun x => (x.1, match x.2 with | .buf b => (b.len, b.cap) | .panic => (0, 0)))
    = [(7, (7, 10)), (7, (7, 8)), (1, (1, 1)), (0, (16, 16)), (-3, (16, 16))] := by decide

example : (runV false .bytes Pools.empty sampleOps).2.map (fun x => (x.1, match x.2 with | .buf b => (b.len, b.cap) | .panic => (99, 99)))
    = [(7, (0, 10)), (7, (0, 8)), (1, (0, 1)), (0, (0, 0)), (-3, (99, 99))] := by decide

example : prevLogBase2 0 = 32 ∧ nextLogBase2 0 = 32 ∧ prevLogBase2G 0 = 0 ∧ prevLogBase2 1 = 0
    ∧ prevLogBase2 10 = 3 ∧ nextLogBase2 10 = 4 ∧ nextLogBase2 262144 = 18 ∧ prevLogBase2 262143 = 17 := by decide

end CentrifugeVerif.BPool
