import CentrifugeVerif.Proofs.Keyed
/-!
# C25 — shared-poll keyed delivery is monotonic and delta-consistent

Model: `Model/Keyed.lean` (sequential `applyRefreshResponse`, `SharedPollPublish`, track / untrack /
revoke / unsubscribe, `keyedWritePublication` with the ghost "bytes the SDK holds").

The `rel` case of `keyed_versions_increase`: a delivery that stalled between the optimistic check and the
re-check under the lock is dropped unless its version is still above the connection's key version.
Finding C25-1 (decided witness `c25_1_witness`): without KeepLatestData a backend `PrevData` patch is
labelled with the entry's *current* version as base; after a SharedPollPublish raced the poll, that is not
the version `PrevData` belongs to, and the connection that received the publish gets a patch it cannot
apply.  Hence the full delta-consistency statement is false for the model (and the code); the proved
version is `keyed_delta_applies_partial`.
Not proved: eventual delivery under fairness (liveness).
-/
namespace CentrifugeVerif.Keyed

/-- **Monotonicity.**  Every push emitted by any operation carries a version strictly greater than the
version the connection held for the key immediately before that push (ghost `prev`). -/
theorem keyed_versions_increase (s : St) (op : Op) : ∀ e ∈ (step s op).2, PushOK e := by
  cases op with
  | sub c d => exact List.forall_mem_nil _
  | trk c k v => exact track_pushOK s c k v
  | utk c k => exact List.forall_mem_nil _
  | unsub c => exact List.forall_mem_nil _
  | close c => exact List.forall_mem_singleton.2 trivial
  | resp ep items => exact applyResp_pushOK s ep items
  | pub k v ep d => exact pushOK_ite (fun _ => List.forall_mem_nil _) fun _ => publish_pushOK s k v ep d
  | rvk k => exact pushOK_ite (fun _ => List.forall_mem_nil _) fun _ => removeKey_pushOK s k
  | bgpub k v ep d => exact pushOK_ite (fun _ => List.forall_mem_nil _) fun _ => publishStall_pushOK s k v ep d
  | rel =>
    show ∀ e ∈ (release s).2, PushOK e
    unfold release
    cases s.stalled with
    | none => exact List.forall_mem_nil _
    | some w =>
      dsimp only
      cases alookup w.cid s.conns with
      | none => exact List.forall_mem_nil _
      | some c => exact writePub3_pushOK c w
  | trkd c k v =>
    rw [step]
    cases alookup c s.conns with
    | none => exact List.forall_mem_nil _
    | some cn =>
      refine pushOK_ite (fun _ => List.forall_mem_nil _) fun _ => ?_
      exact List.forall_mem_singleton.2 trivial
  | tcb =>
    show ∀ e ∈ (trackCallback s).2, PushOK e
    unfold trackCallback
    cases s.ptracks with
    | nil => exact List.forall_mem_nil _
    | cons p rest =>
      dsimp only
      cases alookup p.cid s.conns with
      | none => exact List.forall_mem_nil _
      | some c =>
        refine pushOK_ite (fun _ => track_pushOK _ _ _ _) fun _ => ?_
        exact List.forall_mem_singleton.2 trivial

/-- over whole operation sequences -/
theorem keyed_versions_increase_run (s : St) (ops : List Op) : ∀ e ∈ (run s ops).2, PushOK e := by
  induction ops generalizing s with
  | nil => exact List.forall_mem_nil _
  | cons op rest ih => exact List.forall_mem_append.2 ⟨keyed_versions_increase s op, ih _⟩

/-- the pushed version becomes the connection's key version (so the next push must exceed it) -/
theorem keyed_push_sets_version (cid : ConnId) (c : Conn) (k : Key) (v : Nat) (d : Data) (prep : Prep)
    (ks : KeySt) (h : alookup k c.keys = some ks) (hv : ks.version < v) :
    ∃ ks', alookup k (writePub cid c k v d prep).1.keys = some ks' ∧ ks'.version = v := by
  obtain ⟨_, _, h3⟩ := writePub_spec cid c k v d prep
  obtain ⟨_, _, ks', _, hc, hver, _⟩ := h3 ks h hv
  exact ⟨ks', by rw [hc]; exact alookup_aset_self _ _ _, hver⟩

/-- **Delta base.**  A delta push happens only on a delta channel, for a deltaReady key whose version equals
the version the patch was computed against. -/
theorem keyed_delta_base_ok (cid : ConnId) (c : Conn) (k : Key) (v prev : Nat) (d : Data) (prep : Prep)
    (res : Option Data) (h : Ev.push cid k v prev true res ∈ (writePub cid c k v d prep).2) :
    ∃ ks, alookup k c.keys = some ks ∧ c.delta = true ∧ ks.deltaReady = true ∧
      ks.version = prep.prevVersion ∧ prep.deltaSub = true ∧ prep.prevData.isSome := by
  obtain ⟨h1, h2, h3⟩ := writePub_spec cid c k v d prep
  cases hl : alookup k c.keys with
  | none => rw [h2 hl] at h; cases h
  | some ks =>
    by_cases hv : v ≤ ks.version
    · rw [h1 ks hl hv] at h; cases h
    · obtain ⟨delta, res', ks', he, _, _, hd, _⟩ := h3 ks hl (Nat.not_le.mp hv)
      rw [he] at h
      cases List.mem_singleton.mp h
      obtain ⟨a, b, c', base, hb, hs, _⟩ := hd rfl
      exact ⟨ks, rfl, a, b, c', hs, by rw [hb]; rfl⟩

/-- **Delta consistency (partial).**  Full statement: "a delta push always applies to the data the
connection currently holds".  Proved under the hypothesis that the connection holds the patch's base
bytes whenever its key version equals the patch's base version (true with KeepLatestData, where base
bytes and base version are read together from the entry; false in general, see `c25_1_witness`). -/
theorem keyed_delta_applies_partial (cid : ConnId) (c : Conn) (k : Key) (v : Nat) (d : Data) (prep : Prep)
    (ks : KeySt) (h : alookup k c.keys = some ks) (hv : ks.version < v)
    (hbase : ks.version = prep.prevVersion → ks.held = prep.prevData) :
    ∃ prev delta ks', (writePub cid c k v d prep).2 = [Ev.push cid k v prev delta (some d)] ∧
      alookup k (writePub cid c k v d prep).1.keys = some ks' ∧ ks'.held = some d ∧ ks'.version = v := by
  obtain ⟨_, _, h3⟩ := writePub_spec cid c k v d prep
  obtain ⟨delta, res, ks', he, hc, hver, hd, hf⟩ := h3 ks h hv
  have hk : alookup k (writePub cid c k v d prep).1.keys = some ks' := by
    rw [hc]; exact alookup_aset_self _ _ _
  cases delta with
  | false =>
    obtain ⟨hr, hh⟩ := hf rfl
    exact ⟨ks.version, false, ks', by rw [he, hr], hk, hh, hver⟩
  | true =>
    obtain ⟨_, _, hpv, base, hb, _, happ⟩ := hd rfl
    obtain ⟨hr, hh⟩ := happ (by rw [hbase hpv, hb])
    exact ⟨ks.version, true, ks', by rw [he, hr], hk, hh, hver⟩

example : (alookup "a" ({ delta := true, keys := [("a", { version := 1, deltaReady := true, held := some "a1" })] } : Conn).keys
    = some { version := 1, deltaReady := true, held := some "a1" }) := by decide

/-- **No push after untrack.** -/
theorem keyed_no_push_after_untrack (s : St) (cid : ConnId) (k : Key) (c' : Conn)
    (h : alookup cid (untrack s cid k).conns = some c') (v : Nat) (d : Data) (prep : Prep) :
    writePub cid c' k v d prep = (c', []) := by
  have hnone : alookup k c'.keys = none := by
    unfold untrack at h
    cases hc : alookup cid s.conns with
    | none => simp only [hc] at h; cases h
    | some c =>
      cases hk : alookup k c.keys with
      | none =>
        simp only [hc, hk] at h
        cases h
        exact hk
      | some ks =>
        simp only [hc, hk] at h
        rw [hubRemove_conns, alookup_aset_self] at h
        cases h
        exact alookup_aerase_self _ _
  exact (writePub_spec cid c' k v d prep).2.1 hnone

theorem foldl_hubRemove_conns (cid : ConnId) (l : List (Key × KeySt)) (st : St) :
    (l.foldl (fun acc kv => hubRemove acc kv.1 cid) st).conns = st.conns := by
  induction l generalizing st with
  | nil => rfl
  | cons a t ih => simp only [List.foldl]; rw [ih, hubRemove_conns]

/-- **No push after unsubscribe / close / epoch-flip unsubscribe** (`cleanupKeyed`). -/
theorem keyed_no_push_after_unsubscribe (s : St) (cid : ConnId) (c' : Conn)
    (hex : (alookup cid s.conns).isSome)
    (h : alookup cid (cleanupConn s cid).conns = some c') (k : Key) (v : Nat) (d : Data) (prep : Prep) :
    writePub cid c' k v d prep = (c', []) := by
  have hnone : alookup k c'.keys = none := by
    unfold cleanupConn at h
    cases hc : alookup cid s.conns with
    | none => simp [hc] at hex
    | some c =>
      simp only [hc] at h
      rw [alookup_aset_self] at h
      cases h
      rfl
  exact (writePub_spec cid c' k v d prep).2.1 hnone

/-- **Pairs provided together.**  Every update produced for a response item carries the item's data
together with either the item's version, the fresh synthetic version (versionless), or the stored version
in a branch where the stored payload equals the item's payload (unchanged content); or, with
KeepLatestData, the stored (version, data) pair itself. -/
theorem resp_pairs_provided (cfg : Cfg) (cnt : Nat) (entry : Entry) (e : Item) (u : Update)
    (h : (respItem cfg cnt entry e).2.2 = some u) :
    (u.data = e.data ∧ (u.version = e.version ∨ (cfg.versionless = true ∧ u.version = cnt + 1) ∨
        (cfg.versionless = true ∧ u.version = entry.version ∧
          (entry.data = some e.data ∨ entry.hash = some e.data)))) ∨
    (cfg.keep = true ∧ u.version = entry.version ∧ u.data = entry.data.getD "") := by
  -- `R r`: the claim, if `u` is the update that branch `r` of `respItem` carries
  let R (r : Nat × Entry × Option Update) : Prop := r.2.2 = some u →
    (u.data = e.data ∧ (u.version = e.version ∨ (cfg.versionless = true ∧ u.version = cnt + 1) ∨
        (cfg.versionless = true ∧ u.version = entry.version ∧
          (entry.data = some e.data ∨ entry.hash = some e.data)))) ∨
    (cfg.keep = true ∧ u.version = entry.version ∧ u.data = entry.data.getD "")
  have I := @ite_cases _ R
  have hU : cfg.versionless = true → (entry.data = some e.data ∨ entry.hash = some e.data) →
      R (unchangedVL cnt entry e) :=
    fun hvl hd h => let ⟨h1, h2⟩ := unchangedVL_update h; .inl ⟨h1, .inr (.inr ⟨hvl, h2, hd⟩)⟩
  have hC : cfg.versionless = true → ∀ entry', R (changedVL cfg cnt entry' e) :=
    fun hvl _ h => let ⟨h1, h2⟩ := changedVL_update h; .inl ⟨h1, .inr (.inl ⟨hvl, h2⟩)⟩
  have hV : ∀ n en x, x.data = e.data → x.version = e.version → R (n, en, some x) :=
    fun _ _ _ h1 h2 h => by cases h; exact .inl ⟨h1, .inl h2⟩
  have hN : ∀ n en, R (n, en, none) := fun _ _ h => nomatch h
  suffices R (respItem cfg cnt entry e) from this h
  unfold respItem
  exact I
    (fun hvl => have hvl := (Bool.and_eq_true_iff.mp hvl).1
      I (fun _ => I (fun _ => I (fun hd => hU hvl (.inl hd)) fun _ => hC hvl _)
                    fun _ => I (fun hd => hU hvl (.inr hd)) fun _ => hC hvl _)
        fun _ => hC hvl _)
    fun _ => I
      (fun _ => I (fun _ => I (fun hk h => by cases h; exact .inr ⟨hk, rfl, rfl⟩)
                              fun _ => I (fun _ => hV _ _ _ rfl rfl) fun _ => hN _ _)
                  fun _ => hN _ _)
      fun _ => hV _ _ _ rfl rfl

/-- **Newest version wins (versioned).**  After an item is processed the stored version is the maximum
of the stored and the provided version. -/
theorem resp_version_max (cfg : Cfg) (cnt : Nat) (entry : Entry) (e : Item)
    (hv : (cfg.versionless && e.version == 0) = false) :
    (respItem cfg cnt entry e).2.1.version = max entry.version e.version := by
  rw [respItem, hv, if_neg Bool.false_ne_true]
  by_cases hle : e.version ≤ entry.version
  · rw [if_pos hle, Nat.max_eq_left hle]
    -- a re-broadcast only clears `needsBroadcast`
    have I := @ite_cases _ fun r : Nat × Entry × Option Update => r.2.1.version = entry.version
    exact I (fun _ => I (fun _ => rfl) fun _ => I (fun _ => rfl) fun _ => rfl) fun _ => rfl
  · rw [if_neg hle]
    exact (Nat.max_eq_right (Nat.le_of_lt (Nat.not_le.mp hle))).symm

/-- **Epoch flip.**  A publisher epoch different from the stored one unsubscribes (insufficient state,
code 2500) every client currently present in the keyed hub. -/
theorem epoch_flip_unsubscribes_all (s : St) (ep : String) (hne : s.epoch ≠ ep) (c : ConnId)
    (hc : c ∈ hubClients { s with epoch := ep, entries := s.entries.map fun kv => (kv.1, ({} : Entry)) }) :
    Ev.unsub c 2500 ∈ (flipEpoch s ep).2 := by
  suffices H : ∀ (l : List ConnId) (acc : St × List Ev), (c ∈ l ∨ Ev.unsub c 2500 ∈ acc.2) →
      Ev.unsub c 2500 ∈ (l.foldl (fun acc cid => (cleanupConn acc.1 cid, acc.2 ++ [Ev.unsub cid 2500])) acc).2 by
    unfold flipEpoch
    rw [if_neg hne]
    exact H _ _ (Or.inl hc)
  intro l
  induction l with
  | nil => exact fun acc h => h.resolve_left List.not_mem_nil
  | cons a t ih =>
    refine fun acc h => ih _ (h.elim (fun h => ?_) fun h => .inr (List.mem_append_left _ h))
    rcases List.mem_cons.mp h with rfl | h
    · exact .inr (List.mem_append_right _ (List.mem_singleton_self _))
    · exact .inl h

/-- **A track request never commits onto another subscription.**  When the OnTrack verdict arrives after the
subscription the request was issued on ended (unsubscribed, or unsubscribed and subscribed again: the
generation differs), nothing is tracked: per-connection state and entries are unchanged, the hub is unchanged
or (immediate channel shutdown) dropped, and the request is answered with permission denied. -/
theorem stale_track_rejected (s : St) (p : PendingTrack) (rest : List PendingTrack) (c : Conn)
    (h : s.ptracks = p :: rest) (hc : alookup p.cid s.conns = some c)
    (hg : ¬ (c.subscribed = true ∧ c.gen = p.gen)) :
    (trackCallback s).2 = [Ev.err p.cid 103] ∧ (trackCallback s).1.conns = s.conns ∧
      ((trackCallback s).1.hub = s.hub ∨ (trackCallback s).1.hub = []) ∧
      (trackCallback s).1.entries = s.entries := by
  unfold trackCallback
  simp only [h, hc]
  have : (c.subscribed && c.gen == p.gen) = false := by
    cases hs : c.subscribed <;> simp_all
  simp only [this, Bool.false_eq_true, if_false]
  refine ⟨trivial, maybeShutdown_conns _, ?_, ?_⟩
  · unfold maybeShutdown; split
    · right; rfl
    · left; rfl
  · unfold maybeShutdown; split <;> rfl

/-! ## Finding C25-1: a PrevData patch after a racing publish does not apply -/

def c25_1_ops : List Op :=
  [ .sub "c1" true, .trk "c1" "a" 0,
    .resp "" [{ key := "a", version := 1, data := "a1" }],
    .pub "a" 2 "" "b2",
    .resp "" [{ key := "a", version := 3, data := "a3", prev := some "a1" }] ]

/-- the last response pushes version 3 as a delta against base version 2, but the patch was built from the
payload of version 1: the connection (holding "b2") cannot apply it (`res = none`). -/
theorem c25_1_witness :
    (run { cfg := { versionless := false, keep := false } } c25_1_ops).2 =
      [ Ev.push "c1" "a" 1 0 false (some "a1"), Ev.push "c1" "a" 2 1 false (some "b2"),
        Ev.push "c1" "a" 3 2 true none ] := by
  decide

end CentrifugeVerif.Keyed
