import CentrifugeVerif.Proofs.RedisKeys
import CentrifugeVerif.Proofs.CRC16
/-!
# C34 — Redis cluster keys for one operation share a hash slot

Key builders: `Gen/RedisKeys.lean` (regenerated from the Go `strings.Builder` code on every run),
grouped per Lua script in `Model/RedisKeys.lean`; slot function: `Spec/RedisSlot.lean`
(CRC-16/XMODEM bit by bit + Redis' hash-tag rule); Go's own `redisSlot` (table driven) is proved
equal to the specification (`crc16_table_eq_bitwise`, `goRedisSlot_eq_spec`).

The property as stated ("for every channel name") is **false** for the non-sharded cluster
scheme `prefix.xxx.{channel}`: an empty channel or a channel starting with `}` yields the empty
hash tag `{}`, Redis then hashes the whole key, and the keys of one script land in different
slots (`keys_not_same_slot_*`, findings C34-1 and C34-2).  `keys_same_slot_*` are proved under the precondition
`TagOK channel` (non-empty, first byte ≠ `}`) that the proof forces; the partition-tag scheme
needs no condition on the channel.
-/
namespace CentrifugeVerif.RedisKeys
open CentrifugeVerif.Spec.RedisSlot
open CentrifugeVerif.Gen.RedisKeys

theorem crc16_table_eq_bitwise (bs : List UInt8) : CRC16.goCrc16 bs = crc16 bs :=
  CRC16.crc16_table_eq_bitwise bs

theorem goRedisSlot_eq_spec (key : List UInt8) : CRC16.goRedisSlot key = slot key :=
  CRC16.goRedisSlot_eq_spec key

/-- **RedisBroker, cluster without partitions** (`prefix.stream.{ch}` …): for every prefix without
`{`, every idempotency key, both history kinds, and every channel that is non-empty and does not
start with `}`, the keys + PUB/SUB channel of the add-history script and of the idempotent-publish
script share one slot. -/
theorem keys_same_slot_broker_cluster (e : Env) (useLists : Bool) (hp : NoBrace e.prefix) (hc : TagOK e.ch) :
    (∀ k1 ∈ brokerAddHistoryKeys true false useLists, ∀ k2 ∈ brokerAddHistoryKeys true false useLists,
      slot (render e k1) = slot (render e k2)) ∧
    (∀ k1 ∈ brokerPublishIdempotentKeys true false useLists, ∀ k2 ∈ brokerPublishIdempotentKeys true false useLists,
      slot (render e k1) = slot (render e k2)) :=
  ⟨keys_same_slot_generic e _ .ch (by cases useLists <;> decide) hp hc,
    keys_same_slot_generic e _ .ch (by cases useLists <;> decide) hp hc⟩

/-- **RedisBroker, cluster with sharded PUB/SUB partitions** (`prefix.stream.{tag}.ch` …): for
**every** channel (also empty, with braces, dots), given a brace-free prefix and a partition tag
that is non-empty and does not start with `}` (decimal index or bundled tag, see C35). -/
theorem keys_same_slot_broker_sharded (e : Env) (useLists : Bool) (hp : NoBrace e.prefix) (ht : TagOK e.tag) :
    (∀ k1 ∈ brokerAddHistoryKeys true true useLists, ∀ k2 ∈ brokerAddHistoryKeys true true useLists,
      slot (render e k1) = slot (render e k2)) ∧
    (∀ k1 ∈ brokerPublishIdempotentKeys true true useLists, ∀ k2 ∈ brokerPublishIdempotentKeys true true useLists,
      slot (render e k1) = slot (render e k2)) :=
  ⟨keys_same_slot_generic e _ .tag (by cases useLists <;> decide) hp ht,
    keys_same_slot_generic e _ .tag (by cases useLists <;> decide) hp ht⟩

/-- **RedisPresenceManager, cluster** (`prefix.presence.data.{ch}` …), any partition setting. -/
theorem keys_same_slot_presence (e : Env) (sharded useLists : Bool) (hp : NoBrace e.prefix) (hc : TagOK e.ch) :
    ∀ k1 ∈ presenceKeys true sharded useLists, ∀ k2 ∈ presenceKeys true sharded useLists,
      slot (render e k1) = slot (render e k2) :=
  keys_same_slot_generic e _ .ch (by cases sharded <;> cases useLists <;> decide) hp hc

/-- **RedisMapBroker, cluster** (always partitioned: `prefix:stream:{tag}.ch` …): every channel. -/
theorem keys_same_slot_mapBroker (e : Env) (useLists : Bool) (hp : NoBrace e.prefix) (ht : TagOK e.tag) :
    ∀ k1 ∈ mapBrokerKeys true true useLists, ∀ k2 ∈ mapBrokerKeys true true useLists,
      slot (render e k1) = slot (render e k2) :=
  keys_same_slot_generic e _ .tag (by cases useLists <;> decide) hp ht

theorem keys_same_slot (e : Env) (sharded useLists : Bool) (hp : NoBrace e.prefix)
    (hc : TagOK e.ch) (ht : TagOK e.tag) :
    (∀ k1 ∈ brokerAddHistoryKeys true sharded useLists, ∀ k2 ∈ brokerAddHistoryKeys true sharded useLists,
      slot (render e k1) = slot (render e k2)) ∧
    (∀ k1 ∈ brokerPublishIdempotentKeys true sharded useLists, ∀ k2 ∈ brokerPublishIdempotentKeys true sharded useLists,
      slot (render e k1) = slot (render e k2)) ∧
    (∀ k1 ∈ presenceKeys true sharded useLists, ∀ k2 ∈ presenceKeys true sharded useLists,
      slot (render e k1) = slot (render e k2)) ∧
    (∀ k1 ∈ mapBrokerKeys true true useLists, ∀ k2 ∈ mapBrokerKeys true true useLists,
      slot (render e k1) = slot (render e k2)) := by
  refine ⟨?_, ?_, keys_same_slot_presence e sharded useLists hp hc, keys_same_slot_mapBroker e useLists hp ht⟩
  · cases sharded
    · exact (keys_same_slot_broker_cluster e useLists hp hc).1
    · exact (keys_same_slot_broker_sharded e useLists hp ht).1
  · cases sharded
    · exact (keys_same_slot_broker_cluster e useLists hp hc).2
    · exact (keys_same_slot_broker_sharded e useLists hp ht).2

/-- the hypotheses hold for ordinary values (prefix "centrifuge", channel "news:{x}.y", tag "ms3") -/
example : NoBrace [99, 101, 110, 116] ∧ TagOK [110, 101, 119, 115, 58, 123, 120, 125, 46, 121] ∧ TagOK [109, 115, 51] := by
  refine ⟨by decide, by decide, by decide⟩

/-- the slot is that of the channel's bytes before its first `}` — e.g. channel `a}b` is fine -/
example : TagOK [97, 125, 98] := by decide

/-! ## The excluded channels really break the property (findings C34-2 and C34-1) -/

def envOf (ch : Bytes) : Env := { «prefix» := [99], ch := ch, tag := [], idem := [105, 100] }

/-- channel `}x`: stream key and meta key of the same script hash to different slots -/
theorem keys_not_same_slot_brace :
    slot (render (envOf [125, 120]) (broker_historyStreamKey true false false)) ≠
    slot (render (envOf [125, 120]) (broker_historyMetaKey true false false)) := by decide +kernel

/-- empty channel -/
theorem keys_not_same_slot_empty :
    slot (render (envOf []) (broker_historyStreamKey true false false)) ≠
    slot (render (envOf []) (broker_historyMetaKey true false false)) := by decide +kernel

/-- FULL STATEMENT (false): `keys_same_slot` without `TagOK e.ch`. -/
theorem keys_same_slot_needs_channel_condition :
    ¬ ∀ (e : Env), NoBrace e.prefix → ∀ k1 ∈ brokerAddHistoryKeys true false false,
        ∀ k2 ∈ brokerAddHistoryKeys true false false, slot (render e k1) = slot (render e k2) := by
  intro h
  exact keys_not_same_slot_brace (h (envOf [125, 120]) (by decide) _ (by decide) _ (by decide))

/-- a prefix containing `{` without a closing tag of its own also breaks it -/
theorem keys_not_same_slot_prefix_brace :
    slot (render { «prefix» := [97, 123, 98], ch := [120], tag := [], idem := [] } (broker_historyStreamKey true false false)) ≠
    slot (render { «prefix» := [97, 123, 98], ch := [120], tag := [], idem := [] } (broker_historyMetaKey true false false)) := by
  decide +kernel

/-- `RedisBroker.extractChannel (messageChannelID ch) = ch` for every channel and prefix, in every
configuration `NewRedisBroker` accepts (`sharded → cluster`); with partitions the tag must not
contain `.` (true for decimal indices and the bundled tags). -/
theorem extractChannel_messageChannelID (e : Env) (cluster sharded useLists : Bool)
    (hv : sharded = true → cluster = true) (ht : NoDot e.tag) :
    brokerExtractChannel e.prefix sharded cluster (render e (broker_messageChannelID cluster sharded useLists)) = e.ch := by
  cases sharded
  · cases cluster
    · cases useLists <;>
        simpa [broker_messageChannelID, render, renderPart, clientInfix]
          using brokerExtractChannel_plain e.prefix e.ch
    · cases useLists <;>
        simpa [broker_messageChannelID, render, renderPart, clientInfix]
          using brokerExtractChannel_braced e.prefix e.ch
  · obtain rfl := hv rfl
    cases useLists <;>
      simpa [broker_messageChannelID, render, renderPart, clientInfix]
        using brokerExtractChannel_sharded e.prefix e.tag e.ch true ht

/-- the same for `RedisMapBroker.extractChannel` (accepted configurations: cluster ↔ partitions) -/
theorem mapBroker_extractChannel_messageChannelID (e : Env) (cluster useLists : Bool) (ht : NoDot e.tag) :
    mapBrokerExtractChannel e.prefix cluster (render e (mapBroker_messageChannelID cluster cluster useLists)) = e.ch := by
  have hb := extractChannel_messageChannelID e cluster cluster useLists (fun h => h) ht
  -- equal flags: both `extractChannel`s take the same branch, both builders write the same parts
  cases cluster <;> cases useLists <;> exact hb

end CentrifugeVerif.RedisKeys
