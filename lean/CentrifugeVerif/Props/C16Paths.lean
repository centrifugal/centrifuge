import CentrifugeVerif.Gen.FilterCalls
/-!
# C16 — tie of the filter-path model (Model/FilterPaths.lean) to the current source

`Gen/FilterCalls.lean` is regenerated from `/repo` on every run (props/C16/extract_filters.py): per
delivery-path function, the applications of a tags filter in textual order.  The theorems below are
the hand-written expectation the model was written against; they stop checking when a filter
application is dropped, duplicated, re-targeted to another filter, or when the write path loses one
of its "withhold unless delta" tests.
-/
namespace CentrifugeVerif.C16Paths
open CentrifugeVerif.Gen

/-- a path applies BOTH filters: one application names a server filter, one a client filter -/
def appliesBoth (l : List String) (server client : String) : Bool :=
  l.contains server && l.contains client

/-- hub: server filter, then the client filter only when the server filter passed (`wasFiltered`) -/
theorem hub_pinned : FilterCalls.broadcastPublication =
    ["match:sub.serverTagsFilter.filter", "onlyIfNotServerFiltered:!wasFiltered && sub.tagsFilter != nil",
     "match:sub.tagsFilter.filter"] := rfl

/-- write path: every one of the three write branches (no offset / non-positioned / positioned)
withholds a filtered publication unless the subscription uses delta, and the subscribe window gets
the filtered marker -/
theorem write_path_pinned :
    FilterCalls.writePublicationUpdatePosition =
      ["withhold:prep.wasFiltered && !prep.deltaSub", "withhold:prep.wasFiltered && !prep.deltaSub"] ∧
    FilterCalls.writePublication =
      ["withhold:prep.wasFiltered && !prep.deltaSub", "marker:syncPub = prep.filteredPub"] := ⟨rfl, rfl⟩

theorem stream_recovery_pinned :
    FilterCalls.isStreamRecovered = ["filtered:serverTf", "filtered:tf"] := rfl

theorem cache_recovery_pinned :
    FilterCalls.recoverCache = ["filtered:serverTf", "filtered:tf"] := rfl

/-- `subscribeCmd` hands the subscription's client filter and server filter (in the parameter
order of the callee: `tf`, `serverTf`) to both recovery functions -/
theorem subscribeCmd_passes_both_filters :
    FilterCalls.subscribeCmd =
      ["recoverCache:sub.tagsFilter:sub.serverTagsFilter", "recoverCache:sub.tagsFilter:sub.serverTagsFilter",
       "isStreamRecovered:sub.tagsFilter:sub.serverTagsFilter"] := rfl

theorem map_state_page_pinned :
    FilterCalls.handleMapStatePhase = ["match:state.serverTagsFilter.filter", "match:state.tagsFilter.filter"] := rfl

theorem map_stream_page_pinned :
    FilterCalls.handleMapStreamPhase = ["match:state.serverTagsFilter.filter", "match:state.tagsFilter.filter"] := rfl

/-- live transition: both loops in the positioned branch and both loops in the streamless branch -/
theorem map_transition_pinned :
    FilterCalls.handleMapTransitionToLive =
      ["match:sub.serverTagsFilter.filter", "match:sub.tagsFilter.filter",
       "match:sub.serverTagsFilter.filter", "match:sub.tagsFilter.filter"] := rfl

theorem sub_refresh_pinned :
    FilterCalls.handleSubRefresh =
      ["update:updateServerTagsFilter", "changedAndMap:changed && isMapSub", "invalidate:UnsubscribeCodeStateInvalidated"] ∧
    FilterCalls.updateServerTagsFilter = ["hashEq:sub.serverTagsFilter.hash == tf.hash"] := ⟨rfl, rfl⟩

/-- summary used by the report: every delivery path names both filters -/
theorem every_path_applies_both_filters :
    appliesBoth FilterCalls.broadcastPublication "match:sub.serverTagsFilter.filter" "match:sub.tagsFilter.filter" = true ∧
    appliesBoth FilterCalls.isStreamRecovered "filtered:serverTf" "filtered:tf" = true ∧
    appliesBoth FilterCalls.recoverCache "filtered:serverTf" "filtered:tf" = true ∧
    appliesBoth FilterCalls.handleMapStatePhase "match:state.serverTagsFilter.filter" "match:state.tagsFilter.filter" = true ∧
    appliesBoth FilterCalls.handleMapStreamPhase "match:state.serverTagsFilter.filter" "match:state.tagsFilter.filter" = true ∧
    appliesBoth FilterCalls.handleMapTransitionToLive "match:sub.serverTagsFilter.filter" "match:sub.tagsFilter.filter" = true := by
  decide

end CentrifugeVerif.C16Paths
