import CentrifugeVerif.Proofs.HistoryHubBroker
import CentrifugeVerif.Proofs.HistoryHubSweep
/-!
# C17 — Memory stream broker implements bounded-stream history semantics

Statement: for any sequence of publish / history / remove-history calls (and sweeper wake-ups at
arbitrary times), the in-memory broker behaves like a bounded append-only stream: offsets start
at 1 and increase by one per stored publication, history returns the retained suffix filtered by
since, limit and direction, the epoch changes only when the stream's metadata is discarded, and a
removed or expired stream keeps its top offset and epoch.

Model: `Model/Stream.lean` (memstream), `Model/HistoryHub.lean` (historyHub + MemoryBroker);
specification: `Spec/AbsStream.lean`.  Everything below holds for **all** operation sequences and
all clock values (no monotonicity assumption is needed for these statements).
-/
namespace CentrifugeVerif.HistoryHub
open CentrifugeVerif.MemStream CentrifugeVerif.AbsStream

/-! ## stream level (`internal/memstream`) -/

/-- `Add` keeps the contiguity invariant (retained offsets = `(top − len, top]`), assigns `top + 1`,
keeps `min size (len + 1)` items and the epoch. -/
theorem stream_add_inv (s : MStream Pub) (h : s.Inv) (v : Pub) (size ver : Nat) (ve : String) :
    (s.add v size ver ve).1.Inv ∧ (s.add v size ver ve).2 = s.top + 1 ∧
      (s.add v size ver ve).1.top = s.top + 1 ∧
      (s.add v size ver ve).1.items.length = min size (s.items.length + 1) ∧
      (s.add v size ver ve).1.epoch = s.epoch := MemStream.stream_add_inv s h v size ver ve

/-- `Get` is the filter `getSpec` of the retained items — all useOffset × reverse × limit-sign
combinations, index-miss fallbacks included. -/
theorem get_spec (s : MStream Pub) (h : s.Inv) (offset : Nat) (useOffset : Bool) (limit : Int)
    (reverse : Bool) :
    s.get offset useOffset limit reverse = s.getSpec offset useOffset limit reverse :=
  MemStream.get_spec s h offset useOffset limit reverse

/-- for every operation sequence (any ops, any times): every stream satisfies the contiguity
invariant, logs are never longer than `top`, epochs are pairwise distinct and were handed out -/
theorem run_inv (metaTTL : Nat) (ops : List Op) : (run (Broker.init metaTTL) ops).hub.Inv :=
  run_inv_from _ (init_inv metaTTL) ops

/-- how one broker operation and its output must relate two abstract states -/
def Refines (a : Abs Pub) : Op → Out → Abs Pub → Prop
  | .publish ch data o _, .pub po, a' =>
    (po.suppress = .none ∧ o.history ∧ a' = (a.append ch ⟨data, o.version⟩ o.size).1 ∧
        po.pos = (a.append ch ⟨data, o.version⟩ o.size).2) ∨
      ((po.suppress ≠ .none ∨ ¬ o.history) ∧ a' = a)
  | .history ch f _ _, .hist pubs pos, a' =>
    a' = (a.read ch f).1 ∧ pos = (a.read ch f).2.2 ∧
      (FilterOK (a.ensure ch).2.top f → pubs = (a.read ch f).2.1)
  | .remove ch, .ok, a' => a' = a.clear ch
  | .tick _, .ok, a' => Abs.Tick a a'
  | _, _, _ => False

theorem read_empty (c : AbsChan Pub) (f : Filter) (h : c.log = []) : c.read f = [] := by
  have he : c.entries = [] := by rw [AbsChan.entries, h]; rfl
  unfold AbsChan.read
  rw [he]
  split
  · split <;> exact takeLim_nil _
  · split <;> exact takeLim_nil _

/-- **historyHub_refines_absStream**: every operation of the memory broker, from every well-formed
state, is a step of the bounded-log specification with the same output: a stored publish is an
`append` returning the specification's position, any other publish changes nothing; a history call
is a `read` (creating a missing channel with a fresh epoch) returning the specification's position
and — on the `FilterOK` domain — exactly the specification's publications; remove is `clear`;
a sweeper wake-up keeps, clears or drops each channel. -/
theorem historyHub_refines_absStream (b : Broker) (hi : b.hub.Inv) (op : Op) :
    Refines b.hub.abs op (step b op).2 (step b op).1.hub.abs := by
  cases op with
  | publish ch data o now =>
    simp only [step, Refines]
    rcases publish_cases b ch data o now with ⟨p, h, he⟩ | ⟨hm, hh, s, hst, hv, he⟩ | ⟨hm, hh, r, hr, hs, he⟩ | ⟨hm, hh, he⟩
    · rw [he]; exact .inr ⟨.inl nofun, rfl⟩
    · rw [he]; exact .inr ⟨.inl nofun, rfl⟩
    · subst hr
      rw [he, saved_hub]
      obtain ⟨h1, h2⟩ := add_store_spec _ ch _ o _ hs
      exact .inl ⟨rfl, hh, h1, h2⟩
    · rw [he, saved_hub]; exact .inr ⟨.inr hh, rfl⟩
  | history ch f m now =>
    simp only [step, Refines, Broker.history]
    obtain ⟨h1, h2⟩ := get_abs b.hub ch f m (now / 1000)
    refine ⟨h1, h2, fun hf => ?_⟩
    unfold Abs.read
    cases hst : (b.hub.chans ch).stream with
    | some s =>
      rw [ensure_of_some (abs_chans_of_some hst)] at hf ⊢
      exact get_pubs b.hub ch f m _ s hst (hi.1 _ _ hst) hf
    | none =>
      rw [(get_of_none f m _ hst).2.2, ensure_of_none (abs_chans_of_none hst)]
      exact (read_empty _ f rfl).symm
  | remove ch => exact remove_abs _ _
  | tick n => exact tick_abs _ _

/-! ## the statement's clauses, in concrete terms -/

/-- **offsets start at 1 and increase by one per stored publication**: a stored publish returns
`top + 1` in the stream's epoch, or offset 1 in a fresh epoch when the channel has no stream. -/
theorem stored_publish_offset (b : Broker) (ch data : String) (o : PubOpts) (now : Nat)
    (hs : (b.publish ch data o now).2.suppress = .none) (hh : o.history) :
    (b.publish ch data o now).2.pos =
      match (b.hub.chans ch).stream with
      | some s => ⟨s.top + 1, s.epoch⟩
      | none => ⟨1, b.hub.nextEpoch⟩ := by
  rcases publish_cases b ch data o now with ⟨p, h, he⟩ | ⟨hm, hh', s, hst, hv, he⟩ | ⟨hm, hh', r, hr, hsk, he⟩ | ⟨hm, hh', he⟩
  · rw [he] at hs; cases hs
  · rw [he] at hs; cases hs
  · subst hr
    rw [he]
    have hv := versionSkip_none_of_store hsk
    cases hst : (b.hub.chans ch).stream with
    | some s => exact congrArg AddOut.pos (add_store _ _ hv (s0 := s) (by rw [hst]; rfl)).2.2
    | none => exact congrArg AddOut.pos (add_store _ _ hv (s0 := MStream.new _) (by rw [hst]; rfl)).2.2
  · exact absurd hh hh'

/-- **history = the retained suffix filtered by since, limit and direction** on the `FilterOK`
domain: all forward reads and reads without `since` (offsets being `uint64` values is the only
hypothesis there — see `history_forward_eq_spec`), and reverse reads since a position up to
`top + 1`.  Partial only in the reverse direction: a reverse read since an offset beyond `top + 1`
returns nothing (recorded quirk, counter-witness below).
(Before /repo commit fbc783cb the forward read since 2^64−1 was a second exception: finding C17-1.) -/
theorem history_eq_spec_partial (b : Broker) (hi : b.hub.Inv) (ch : String) (f : Filter) (m now : Nat)
    (s : MStream Pub) (hst : (b.hub.chans ch).stream = some s) (hf : FilterOK s.top f) :
    (b.history ch f m now).2 = ((absS s).read f, ⟨s.top, s.epoch⟩) ∧ (absS s).entries = s.items := by
  refine ⟨?_, entries_absS s (hi.1 _ _ hst)⟩
  have h1 := get_pubs b.hub ch f m (now / 1000) s hst (hi.1 _ _ hst) hf
  obtain ⟨pubs, he, _⟩ := get_of_some f m (now / 1000) hst
  unfold Broker.history
  rw [he] at h1 ⊢
  exact Prod.ext h1 rfl

/-- forward reads and reads without `since` are the specification's read for **every** request
(the hypotheses only say that offsets are `uint64` values) -/
theorem history_forward_eq_spec (b : Broker) (hi : b.hub.Inv) (ch : String) (f : Filter) (m now : Nat)
    (s : MStream Pub) (hst : (b.hub.chans ch).stream = some s) (hrev : f.reverse = false)
    (htop : s.top + 1 < u64) (hsince : ∀ p, f.since = some p → p.offset < u64) :
    (b.history ch f m now).2 = ((absS s).read f, ⟨s.top, s.epoch⟩) := by
  apply (history_eq_spec_partial b hi ch f m now s hst _).1
  unfold FilterOK
  cases hs : f.since with
  | none => trivial
  | some p => simp only [hrev, Bool.false_eq_true, if_false]; exact ⟨hsince p hs, htop⟩

/-- the same for a channel without stream: nothing is returned, at offset 0 of a fresh epoch -/
theorem history_no_stream (b : Broker) (ch : String) (f : Filter) (m now : Nat)
    (hst : (b.hub.chans ch).stream = none) :
    (b.history ch f m now).2 = ([], ⟨0, b.hub.nextEpoch⟩) :=
  (get_of_none f m (now / 1000) hst).2.2

/-- **a removed stream keeps its top offset and epoch** (and its version pair) -/
theorem remove_keeps_top_epoch (b : Broker) (ch : String) (s : MStream Pub)
    (hst : (b.hub.chans ch).stream = some s) :
    ((b.removeHistory ch).hub.chans ch).stream = some { s with items := [] } := by
  show ((b.hub.remove ch).chans ch).stream = _
  rw [remove_stream, if_pos rfl, hst]
  rfl

/-- **an expired stream keeps its top offset and epoch; the stream (hence the epoch) disappears
only when the metadata deadline has passed**: at a sweeper wake-up every channel's stream is
unchanged, or cleared, or dropped — the latter only with a meta deadline `r ≤ now`. -/
theorem tick_keeps_top_epoch (b : Broker) (n : Nat) (x : String) :
    ((b.tick n).hub.chans x).stream = (b.hub.chans x).stream ∨
    ((b.tick n).hub.chans x).stream = (b.hub.chans x).stream.map (fun s => { s with items := [] }) ∨
    (((b.tick n).hub.chans x).stream = none ∧ ∃ r, (b.hub.chans x).removes = some r ∧ r ≤ n) := by
  exact tick_stream b.hub n x

/-- **the epoch changes only when the stream's metadata is discarded**: across any operation a
channel that has a stream keeps its epoch and never loses offsets (`top` does not decrease); the
stream can only vanish at a sweeper wake-up (and then, by `tick_keeps_top_epoch`, only after its
meta deadline).  A stream created later gets a fresh epoch (`stored_publish_offset`,
`history_no_stream`: the epoch counter's current value, larger than every epoch in use by `run_inv`).
This holds in every state, well-formed or not: `hi` is not used. -/
theorem epoch_changes_only_at_meta_expiry (b : Broker) (hi : b.hub.Inv) (op : Op) (x : String)
    (s : MStream Pub) (hst : (b.hub.chans x).stream = some s) :
    (∀ s', ((step b op).1.hub.chans x).stream = some s' → s'.epoch = s.epoch ∧ s.top ≤ s'.top) ∧
    (((step b op).1.hub.chans x).stream = none → ∃ n, op = .tick n) := by
  rcases step_stream b op x s hst with e | e | ⟨data, o, now, _, _, e⟩ | ⟨e, hn⟩ <;> rw [e]
  · exact ⟨fun s' hs' => by cases hs'; exact ⟨rfl, Nat.le_refl _⟩, nofun⟩
  · exact ⟨fun s' hs' => by cases hs'; exact ⟨rfl, Nat.le_refl _⟩, nofun⟩
  · exact ⟨fun s' hs' => by cases hs'; exact ⟨rfl, Nat.le_succ _⟩, nofun⟩
  · exact ⟨nofun, fun _ => hn⟩

/-- epochs in use are below the counter, so a freshly created stream never reuses one -/
theorem epochs_below_counter (metaTTL : Nat) (ops : List Op) (x : String) (s : MStream Pub)
    (hst : ((run (Broker.init metaTTL) ops).hub.chans x).stream = some s) :
    1 ≤ s.epoch ∧ s.epoch < (run (Broker.init metaTTL) ops).hub.nextEpoch := by
  have := (run_inv metaTTL ops).2.1 x (absS s) (abs_chans_of_some hst)
  exact ⟨this.2.1, this.2.2⟩

/-- the two sweeper goroutines wake up at the same instants and take the hub lock in an unspecified
order: the resulting hub state is the same either way (so the model's fixed order loses nothing) -/
theorem sweeper_order_irrelevant (h : Hub) (n : Nat) :
    (h.sweepExpire n).sweepRemove n = (h.sweepRemove n).sweepExpire n := sweeps_commute h n

/-- per channel, a wake-up at second `n'` subsumes any earlier wake-up at `n ≤ n'` -/
theorem sweep_coalesce (n n' : Nat) (hn : n ≤ n') (c : ChanState) :
    sweepExpChan n' (sweepExpChan n c) = sweepExpChan n' c ∧
      sweepRemChan n' (sweepRemChan n c) = sweepRemChan n' c :=
  ⟨sweepExpChan_coalesce n n' hn c, sweepRemChan_coalesce n n' hn c⟩

/-! ## non-vacuity and counter-witnesses -/

def demo : Broker := run (Broker.init 60000) [
  .publish "a" "d1" { size := 2, ttl := 10000 } 500,
  .publish "a" "d2" { size := 2, ttl := 10000 } 600,
  .publish "a" "d3" { size := 2, ttl := 10000 } 700]

/-- offsets 1, 2, 3; bounded to the last two -/
example : ((demo.hub.chans "a").stream.map fun s => (s.top, s.epoch, s.items.map (·.offset))) =
    some (3, 1, [2, 3]) := by decide
example : (demo.history "a" { since := some ⟨2, 1⟩, limit := -1 } 0 800).2 =
    ([⟨3, ⟨"d3", 0⟩⟩], ⟨3, 1⟩) := by decide
example : (demo.history "a" { since := some ⟨4, 1⟩, limit := 1, reverse := true } 0 800).2 =
    ([⟨3, ⟨"d3", 0⟩⟩], ⟨3, 1⟩) := by decide
example : FilterOK 3 { since := some ⟨4, 1⟩, limit := 1, reverse := true } := by
  simp [FilterOK, u64]
example : FilterOK 3 { since := some ⟨u64 - 1, 1⟩, limit := -1 } := by
  simp [FilterOK, u64]
/-- data expiry at second 10 keeps top and epoch; meta expiry at second 60 drops the stream; the
next publication starts at offset 1 in epoch 2 -/
example : (((demo.tick 10).hub.chans "a").stream.map fun s => (s.top, s.epoch, s.items.length)) =
    some (3, 1, 0) := by decide
example : (((demo.tick 10).tick 60).hub.chans "a").stream = none := by decide
example : ((((demo.tick 10).tick 60).publish "a" "d4" { size := 2, ttl := 10000 } 61500).2.pos) = ⟨1, 2⟩ := by
  decide

/-- fixed finding C17-1: a forward read since offset 2^64−1 returns nothing, as the specification says.
(Before /repo commit fbc783cb `since.Offset + 1` wrapped to 0, the index missed and the walk started
at the front: the result was `[2/d2, 3/d3]`; the replay stays in props/C17/corpus.ops.) -/
example : (demo.history "a" { since := some ⟨u64 - 1, 1⟩, limit := -1 } 0 800).2.1 = [] := by decide
example : (absS ((demo.hub.chans "a").stream.get (by decide))).read { since := some ⟨u64 - 1, 1⟩, limit := -1 } = [] := by
  decide
/-- counter-witness (recorded quirk): a reverse read since an offset beyond `top + 1` returns
nothing, although every retained offset is smaller -/
example : (demo.history "a" { since := some ⟨9, 1⟩, limit := -1, reverse := true } 0 800).2.1 = [] := by decide
example : (absS ((demo.hub.chans "a").stream.get (by decide))).read { since := some ⟨9, 1⟩, limit := -1, reverse := true } =
    [⟨3, ⟨"d3", 0⟩⟩, ⟨2, ⟨"d2", 0⟩⟩] := by decide

end CentrifugeVerif.HistoryHub
