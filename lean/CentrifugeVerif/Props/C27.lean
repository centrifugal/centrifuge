import CentrifugeVerif.Proofs.ControlCodec
/-!
# C27 — server-side operations act the same from any node

The definitions these theorems talk about are **regenerated from the Go source on every check run**
(`props/C27/extract` → `props/C27/gen.py` → `Gen/ControlCodec.lean`):

* `GXOptions`          the option record of `Node.X` (fields some public `With*` option can set),
* `encodeX`            the control message `pubX` builds from the call arguments and the option record,
* `localX`             the hub call `Node.X` makes on its own node,
* `remoteX`            the hub call `Node.handleControl` makes on a node that receives that message,
* `XCall.view`         erases, inside the option record handed to the client, the unexported fields that
                       only `Node.X` itself reads (client / session / label filter / all-users targeting;
                       they are compared as explicit hub-call arguments instead).

Statement per operation: for **every** call argument and **every** option record the remote node makes
exactly the hub call the local node makes — same hub method (per-user or across users), same user,
channel, client id, session id, label filter, same custom unsubscribe / disconnect, same whitelist and
the same option record given to `Client.Subscribe` / `Client.Refresh`.

For `subscribe` the full statement

    theorem control_roundtrip_subscribe (u ch) (o : GSubscribeOptions) :
        (remoteSubscribe (encodeSubscribe u ch o)).view = (localSubscribe u ch o).view

is FALSE on the current source: `controlpb.Subscribe` has no field for `RecoveryMode`,
`AutoCacheRecover` and `HistoryMetaTTL`, so `WithRecoveryMode`, `WithAutoCacheRecover` and
`WithSubscribeHistoryMetaTTL` are silently lost on every node but the calling one (findings C27-1..3,
`props/C27/findings.json`).  What is proved is `control_roundtrip_subscribe_partial` (those three fields
at their zero value) together with one `decide`d counter-witness per lost option.
-/
namespace CentrifugeVerif.Gen.ControlCodec

/-- unsubscribe: every option (`WithUnsubscribeClient`, `…Session`, `WithCustomUnsubscribe`,
`…LabelFilter`, `…AllUsers`) reaches a remote node unchanged. -/
theorem control_roundtrip_unsubscribe (u ch : String) (o : GUnsubscribeOptions) :
    (remoteUnsubscribe (encodeUnsubscribe u ch o)).view = (localUnsubscribe u ch o).view := by
  simp only [remoteUnsubscribe, encodeUnsubscribe, localUnsubscribe]
  cases o.unsubscribe <;> by_cases h : (u = "" ∧ o.allUsers = true) <;> simp [h, filter_comp]

/-- disconnect: every option (`WithCustomDisconnect`, `…Client`, `…Session`, `…ClientWhitelist`,
`…LabelFilter`, `…AllUsers`) reaches a remote node unchanged. -/
theorem control_roundtrip_disconnect (u : String) (o : GDisconnectOptions) :
    (remoteDisconnect (encodeDisconnect u o)).view = (localDisconnect u o).view := by
  simp only [remoteDisconnect, encodeDisconnect, localDisconnect]
  cases o.Disconnect <;> by_cases h : (u = "" ∧ o.allUsers = true) <;> simp [h, filter_comp]

/-- refresh: every option (`WithRefreshClient`, `…Session`, `…Expired`, `…ExpireAt`, `…Info`,
`…LabelFilter`, `…AllUsers`) reaches a remote node unchanged. -/
theorem control_roundtrip_refresh (u : String) (o : GRefreshOptions) :
    (remoteRefresh (encodeRefresh u o)).view = (localRefresh u o).view := by
  simp only [remoteRefresh, encodeRefresh, localRefresh]
  by_cases h : (u = "" ∧ o.allUsers = true) <;> simp [h, filter_comp]

/-- subscribe, partial: every option record whose `RecoveryMode`, `AutoCacheRecover` and
`HistoryMetaTTL` are at their zero value reaches a remote node unchanged (all other options:
`WithExpireAt`, `WithChannelInfo`, `WithEmitPresence`, `WithEmitJoinLeave`, `WithPushJoinLeave`,
`WithPositioning`, `WithRecovery`, `WithSubscribeClient`, `…Session`, `…Data`, `WithRecoverSince`,
`WithSubscribeSource`, `…LabelFilter`, `…AllUsers`). -/
theorem control_roundtrip_subscribe_partial (u ch : String) (o : GSubscribeOptions)
    (h1 : o.RecoveryMode = 0) (h2 : o.AutoCacheRecover = false) (h3 : o.HistoryMetaTTL = 0) :
    (remoteSubscribe (encodeSubscribe u ch o)).view = (localSubscribe u ch o).view := by
  simp only [remoteSubscribe, encodeSubscribe, localSubscribe]
  by_cases h : (u = "" ∧ o.allUsers = true) <;> simp [h, filter_comp, h1, h2, h3] <;>
    (cases o.RecoverSince <;> simp)

/-- a non-trivial record satisfying the hypotheses of `control_roundtrip_subscribe_partial` -/
example :
    let o : GSubscribeOptions :=
      WithRecoverSince (some { Offset := 7, Epoch := "e" }) (WithSubscribeSource 200
        (WithSubscribeLabelFilter (some sampleFilter) (WithRecovery true (WithExpireAt 99 {}))))
    o.RecoveryMode = 0 ∧ o.AutoCacheRecover = false ∧ o.HistoryMetaTTL = 0 ∧
      roundtripSubscribe "" "ch" o = true := by decide

/-- `roundtripX` (the executable check used by the probes and the driver) decides the statement. -/
theorem roundtripSubscribe_iff (u ch : String) (o : GSubscribeOptions) :
    roundtripSubscribe u ch o = true ↔
      (remoteSubscribe (encodeSubscribe u ch o)).view = (localSubscribe u ch o).view := by
  simp [roundtripSubscribe]

/-! ### counter-witnesses: the three options the control message does not carry (findings C27-1..3) -/

/-- C27-1: `WithRecoveryMode(RecoveryModeCache)` is lost remotely. -/
theorem subscribe_drops_RecoveryMode :
    (remoteSubscribe (encodeSubscribe "u" "ch" (WithRecoveryMode 1 {}))).view ≠
      (localSubscribe "u" "ch" (WithRecoveryMode 1 {})).view := by decide

/-- C27-2: `WithAutoCacheRecover(true)` is lost remotely. -/
theorem subscribe_drops_AutoCacheRecover :
    (remoteSubscribe (encodeSubscribe "u" "ch" (WithAutoCacheRecover true {}))).view ≠
      (localSubscribe "u" "ch" (WithAutoCacheRecover true {})).view := by decide

/-- C27-3: `WithSubscribeHistoryMetaTTL(5s)` is lost remotely. -/
theorem subscribe_drops_HistoryMetaTTL :
    (remoteSubscribe (encodeSubscribe "u" "ch" (WithSubscribeHistoryMetaTTL 5000000000 {}))).view ≠
      (localSubscribe "u" "ch" (WithSubscribeHistoryMetaTTL 5000000000 {})).view := by decide

/-- the remote node sees exactly the zero value for the three lost fields, whatever was requested -/
theorem subscribe_remote_lost_fields (u ch : String) (o : GSubscribeOptions) :
    (remoteSubscribe (encodeSubscribe u ch o)).opts.RecoveryMode = 0 ∧
    (remoteSubscribe (encodeSubscribe u ch o)).opts.AutoCacheRecover = false ∧
    (remoteSubscribe (encodeSubscribe u ch o)).opts.HistoryMetaTTL = 0 := by
  simp only [remoteSubscribe, encodeSubscribe]
  by_cases h : (u = "" ∧ o.allUsers = true) <;> simp [h]

end CentrifugeVerif.Gen.ControlCodec
