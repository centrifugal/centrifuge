import CentrifugeVerif.Proofs.HistoryHub
import CentrifugeVerif.Model.HistoryCmd
/-!
# C43 — History and presence client commands honour their limits

All statements are for every broker state `b`, every request (any since / limit incl. negative /
direction), every configured limit and every time.
-/
namespace CentrifugeVerif.HistoryCmd
open CentrifugeVerif.MemStream CentrifugeVerif.HistoryHub

/-- the clamp: with a configured limit `m > 0` the effective limit is in `[0, m]` -/
theorem effFilter_limit_range (m : Int) (req : HistReq) (hm : 0 < m) :
    0 ≤ (effFilter m req).limit ∧ (effFilter m req).limit ≤ m := by
  unfold effFilter
  simp only
  split <;> omega

/-- the clamp changes nothing but the limit, and nothing at all when no limit is configured or the
request is within it -/
theorem effFilter_eq (m : Int) (req : HistReq) :
    (effFilter m req).since = req.since ∧ (effFilter m req).reverse = req.reverse ∧
      ((m ≤ 0 ∨ (0 ≤ req.limit ∧ req.limit ≤ m)) → (effFilter m req).limit = req.limit) := by
  refine ⟨rfl, rfl, ?_⟩
  intro h
  unfold effFilter
  simp only
  split
  · omega
  · rfl

/-- **history_cmd_eq_node**: with a handler installed and a non-empty channel the command's outcome
(reply or error, and the broker state afterwards) is exactly `Node.History` for the effective filter. -/
theorem history_cmd_eq_node (m : Int) (b : Broker) (req : HistReq) (now : Nat) (hc : req.channel ≠ "") :
    historyCmd true m b req now = nodeHistory b req.channel (effFilter m req) now := by
  simp [historyCmd, hc]

/-- the memory broker never returns more publications than a non-negative limit -/
theorem hub_get_length_le (h : Hub) (ch : String) (f : Filter) (mt nowS : Nat) (hl : 0 ≤ f.limit) :
    (h.get ch f mt nowS).2.1.length ≤ f.limit.toNat := by
  cases hst : (h.chans ch).stream with
  | none => rw [(get_of_none f mt nowS hst).2.2]; exact Nat.zero_le _
  | some s =>
    obtain ⟨pubs, he, hp | ⟨o, u, hp⟩⟩ := get_of_some f mt nowS hst <;> rw [he, hp]
    · exact Nat.zero_le _
    · exact get_length_le_limit s o u f.limit f.reverse hl

/-- node-level: a reply never has more publications than a non-negative limit -/
theorem nodeHistory_length_le (b : Broker) (ch : String) (f : Filter) (now : Nat) (hl : 0 ≤ f.limit)
    (r : HistResult) (b' : Broker) (h : nodeHistory b ch f now = (b', .ok r)) :
    r.1.length ≤ f.limit.toNat := by
  have key := hub_get_length_le b.hub ch f 0 (now / 1000) hl
  unfold nodeHistory at h
  split at h
  · split at h
    · cases h
    · simp only at h
      split at h
      · cases h; exact key
      · cases h
  · cases h; exact key

/-- **history_cmd_clamped**: with `HistoryMaxPublicationLimit = m > 0` a history reply never carries
more than `m` publications — whatever the requested limit (negative, zero, huge), since and direction. -/
theorem history_cmd_clamped (handler : Bool) (m : Int) (hm : 0 < m) (b b' : Broker) (req : HistReq)
    (now : Nat) (r : HistResult) (h : historyCmd handler m b req now = (b', .ok r)) :
    (r.1.length : Int) ≤ m := by
  unfold historyCmd at h
  split at h
  · cases h
  · split at h
    · cases h
    · have hr := effFilter_limit_range m req hm
      have := nodeHistory_length_le b req.channel (effFilter m req) now hr.1 r b' h
      omega

/-- **reverse_since0_bad**: a reverse request since offset zero is rejected as a bad request (107),
at node level and through the command, and the broker is not touched. -/
theorem reverse_since0_bad (b : Broker) (ch : String) (f : Filter) (now : Nat) (e : Nat)
    (hs : f.since = some ⟨0, e⟩) (hr : f.reverse = true) :
    nodeHistory b ch f now = (b, .error errBadRequest) := by
  simp [nodeHistory, hs, hr]

theorem reverse_since0_bad_cmd (m : Int) (b : Broker) (req : HistReq) (now : Nat) (e : Nat)
    (hc : req.channel ≠ "") (hs : req.since = some ⟨0, e⟩) (hr : req.reverse = true) :
    historyCmd true m b req now = (b, .error errBadRequest) := by
  rw [history_cmd_eq_node m b req now hc]
  exact reverse_since0_bad b req.channel (effFilter m req) now e hs hr

/-- no handler ⇒ not available (108) -/
theorem history_cmd_no_handler (m : Int) (b : Broker) (req : HistReq) (now : Nat) :
    historyCmd false m b req now = (b, .error errNotAvailable) := by
  simp [historyCmd]

/-- empty channel ⇒ bad-request disconnect (3501) -/
theorem history_cmd_empty_channel (m : Int) (b : Broker) (req : HistReq) (now : Nat)
    (hc : req.channel = "") : historyCmd true m b req now = (b, .disconnect discBadRequest) := by
  simp [historyCmd, hc]

/-- **presence_cmd_eq_node**: the presence reply carries exactly the node-level entries -/
theorem presence_cmd_eq_node (p : Presence) (ch : String) (hc : ch ≠ "") :
    presenceCmd true p ch = .ok (nodePresence p ch) := by
  simp [presenceCmd, hc]

/-- **presence_stats_cmd_eq_node** (counts below 2^32; the reply fields are `uint32`) -/
theorem presence_stats_cmd_eq_node (p : Presence) (ch : String) (hc : ch ≠ "")
    (hn : (p ch).length < 4294967296) :
    presenceStatsCmd true p ch = .ok (nodePresenceStats p ch) := by
  have hu : (distinctUsers (p ch)).length ≤ (p ch).length := by
    generalize p ch = l
    induction l with
    | nil => simp [distinctUsers]
    | cons i rest ih =>
      unfold distinctUsers
      split <;> simp <;> omega
  simp only [presenceStatsCmd, hc, nodePresenceStats, Bool.not_true, Bool.false_eq_true, if_false]
  congr 2 <;> (apply Nat.mod_eq_of_lt; omega)

/-- **distinct effective filters ⇒ distinct single-flight keys**: two history calls share an
in-flight result only when channel, since, limit, direction and meta TTL all agree — so sharing
cannot hand a caller the result of another filter (in particular not of another limit). -/
theorem historyKey_injective (ch ch' : String) (f f' : Filter) (m m' : Nat)
    (h : historyKey ch f m = historyKey ch' f' m') : ch = ch' ∧ f = f' ∧ m = m' := by
  obtain ⟨s, l, r⟩ := f
  obtain ⟨s', l', r'⟩ := f'
  simp only [historyKey, HistoryKey.mk.injEq] at h
  obtain ⟨h1, h2, h3, h4, h5⟩ := h
  refine ⟨h1, ?_, h5⟩
  subst h3; subst h4
  have : s = s' := Option.map_injective (fun ⟨o, e⟩ ⟨o', e'⟩ hp => by cases hp; rfl) h2
  subst this; rfl

example : historyKey "a" { limit := 0 } 0 ≠ historyKey "a" { limit := -1 } 0 := by decide

/-! Non-vacuity -/
example : (effFilter 2 { channel := "a", limit := -1 }).limit = 2 := by decide
example : (effFilter 2 { channel := "a", limit := 7 }).limit = 2 := by decide
example : (effFilter 2 { channel := "a", limit := 0 }).limit = 0 := by decide
example : (effFilter 0 { channel := "a", limit := -1 }).limit = -1 := by decide

/-- three publications, limit 2 configured, unlimited request ⇒ two publications -/
example :
    let b := run (Broker.init 1000) [
      .publish "a" "d1" { size := 5, ttl := 10000 } 500,
      .publish "a" "d2" { size := 5, ttl := 10000 } 600,
      .publish "a" "d3" { size := 5, ttl := 10000 } 700]
    (historyCmd true 2 b { channel := "a", limit := -1 } 800).2 =
      .ok ([⟨1, ⟨"d1", 0⟩⟩, ⟨2, ⟨"d2", 0⟩⟩], ⟨3, 1⟩) := by decide

end CentrifugeVerif.HistoryCmd
