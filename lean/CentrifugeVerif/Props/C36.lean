import CentrifugeVerif.Proofs.Timers
/-!
# C36 — liveness timers close exactly the connections they should

Statement (properties.jsonl): a connection that does not answer a server ping within the pong timeout is
disconnected with the no-pong code; an unauthenticated connection is closed after the stale delay; a
connection or subscription past its expiry (plus grace delay) that was not refreshed is closed or
unsubscribed with the expired code, and one that was refreshed in time is not.

Model: `Model/Timers.lean` — the single-timer multiplexer of client.go as a state machine with `now`
as an input (`step c s now op`; `Op.fire` = the armed timer fires).  Theorems quantify over every
configuration, every state satisfying the invariant `Inv` (which holds initially and is preserved by
every admissible operation at every time, `timer_is_min`), every operation and every time.

Former findings, all FIXED upstream-style in /repo and mirrored in the model (their replays stay in the
check's corpus, so a regression is a VIOLATION):
* C36-1 (fix dc7a0abf) `Client.Refresh(ExpireAt = 0)` used to clear `exp` but leave `nextExpire` pending;
  the expire op then returned without re-arming and NO timer was armed.  Now `disableExpiration` clears
  both and reschedules: `timer_is_min` holds for those timelines too (`refresh_zero_keeps_timer_armed`).
* C36-2a/b (fix dc7a0abf) a RefreshHandler answer `ExpireAt = 0` ("no expiration") was not honoured
  (`refresh_zero_disables_expiry_client` / `_server`).
* C36-3 (fix 0280a82e) `handleSubRefresh` ignored `SubRefreshReply.Expired`
  (`subrefresh_expired_disconnects`).
-/
namespace CentrifugeVerif.C36
open CentrifugeVerif.Timers

/-- run a timeline of (time, operation) pairs -/
def runOps (c : Cfg) : St → List (Nat × Op) → St
  | s, [] => s
  | s, (now, op) :: rest => runOps c (step c s now op).1 rest

/-- every operation of the timeline is admissible in the state it is applied to (no `Client.Refresh`
before authentication, `NewClient` only once) and happens at a positive time -/
def AdmissibleTrace (c : Cfg) : St → List (Nat × Op) → Prop
  | _, [] => True
  | s, (now, op) :: rest => 0 < now ∧ Admissible s op ∧ AdmissibleTrace c (step c s now op).1 rest

instance (s : St) (op : Op) : Decidable (Admissible s op) := by
  cases op with
  | srefresh a => cases a <;> (simp only [Admissible]; exact inferInstance)
  | new => simp only [Admissible]; exact inferInstance
  | _ => simp only [Admissible]; exact inferInstance

instance decAdmissibleTrace (c : Cfg) : (s : St) → (tl : List (Nat × Op)) → Decidable (AdmissibleTrace c s tl)
  | _, [] => isTrue trivial
  | s, (now, op) :: rest =>
    have := decAdmissibleTrace c (step c s now op).1 rest
    by unfold AdmissibleTrace; exact inferInstance

/-- **timer_is_min**: after EVERY operation of EVERY admissible timeline — connect, pings, pongs,
refreshes (client- and server-side, including `ExpireAt = 0`), sub refreshes, timer firings at arbitrary
times, in any order — an open authenticated connection has its single timer armed, for exactly the
minimum of the pending deadlines (next expire / presence / ping / pong), and `timerOp` is the kind of
that deadline.  Hence no pending deadline is ever missed.
(Exclusions kept: `Client.Refresh` on a not yet authenticated connection, a second `NewClient`.) -/
theorem timer_is_min (c : Cfg) (hsec : 0 < c.sec) (rhr srhr : List Ans) (tl : List (Nat × Op))
    (hadm : AdmissibleTrace c { rhr := rhr, srhr := srhr } tl) :
    let s := runOps c { rhr := rhr, srhr := srhr } tl
    s.status = .connected →
      ∃ t, s.armed = some t ∧ t ∈ pending s ∧ (∀ x ∈ pending s, t ≤ x) ∧ deadlineOf s s.timerOp = t := by
  intro s hst
  have hinv : ∀ tl s, Inv c s → AdmissibleTrace c s tl → Inv c (runOps c s tl) := by
    intro tl
    induction tl with
    | nil => exact fun _ h _ => h
    | cons e rest ih => exact fun s h hadm => ih _ (step_inv c s e.1 e.2 hsec hadm.1 hadm.2.1 h) hadm.2.2
  rcases hinv tl _ (inv_init c rhr srhr) hadm with h | ⟨h, _⟩ | ⟨_, _, ⟨o, t, hpk, har, hop⟩, _, _⟩
  · rw [hst] at h; cases h
  · rw [hst] at h; cases h
  · obtain ⟨_, hdl, _, hmem, hmin⟩ := pick_some _ o t hpk
    exact ⟨t, har, hmem, hmin, by rw [hop]; exact hdl⟩

/-- the scan itself (for every state): `scheduleNextTimer` arms the earliest pending deadline -/
theorem schedule_arms_min (s : St) (hcl : s.status ≠ .closed) (hne : pending s ≠ []) :
    ∃ t, (schedule s).armed = some t ∧ t ∈ pending s ∧ ∀ x ∈ pending s, t ≤ x := by
  unfold schedule
  rw [if_neg hcl]
  cases hpk : pick s with
  | none => exact absurd (pick_none s hpk) hne
  | some ot =>
    obtain ⟨o, t⟩ := ot
    obtain ⟨_, _, _, hmem, hmin⟩ := pick_some s o t hpk
    exact ⟨t, rfl, hmem, hmin⟩

/-! ### C36-1 (fixed): `Client.Refresh(ExpireAt = 0)` keeps the timer armed -/

def cfgW : Cfg := { sec := 1000, pingInterval := 1000, pongTimeout := 400, staleDelay := 2000, ecd := 1000,
                    escd := 1000, presInterval := 3000 }

def cfgNP : Cfg := { cfgW with pingInterval := 0, pongTimeout := 0 }

/-- `Client.Refresh(ExpireAt = 0)` / a refresh answer `ExpireAt = 0` on an open connection: expiry is off,
no expire deadline stays pending, the connection stays open. -/
theorem refresh_zero_disables_expiry (s : St) (hst : s.status = .connected) :
    (disableExpiration s).exp = 0 ∧ (disableExpiration s).nextExpire = 0 ∧
    (disableExpiration s).status = .connected := by
  rw [disableExpiration_eq]
  exact ⟨rfl, rfl, hst⟩

/-- the former counter-witness timeline (connect with ExpireAt = now+3 s, `Client.Refresh(ExpireAt=0)` at
1.5 s, a presence tick): the timer stays armed for the remaining deadline, nothing fires at 3.3 s. -/
theorem refresh_zero_keeps_timer_armed :
    let s := runOps cfgNP {} [(100, .new), (300, .connect 3 0 2252), (1500, .srefresh .zero), (2552, .fire), (3300, .fire)]
    s.status = .connected ∧ s.armed = some 5552 ∧ pending s = [5552] ∧ s.exp = 0 := by decide

/-! ### no pong ⇒ NoPong at the pong deadline; pong in time ⇒ survives -/

/-- a ping sets the pong deadline `now + PongTimeout`, the next ping, and remembers the ping time -/
theorem ping_sets_pong_deadline (c : Cfg) (s : St) (now : Nat) (hT : 0 < c.pongTimeout) (hbi : c.uni = false) :
    let s' := (sendPing c s now).1
    s'.nextPong = now + c.pongTimeout ∧ s'.nextPing = now + c.pingInterval ∧ s'.lastPing = now ∧
    s'.ponged = false ∧ s'.lastSeen = s.lastSeen ∧ (sendPing c s now).2 = [.ping] := by
  rw [sendPing_eq, if_pos ⟨hT, hbi⟩, schedule_eq]
  exact ⟨rfl, rfl, rfl, rfl, rfl, rfl⟩

/-- a unidirectional transport cannot answer pings: a ping sets NO pong deadline for it (so, with
`timer_is_min`, the pong check — the only source of DisconnectNoPong — is never armed by a ping). -/
theorem uni_ping_sets_no_pong_deadline (c : Cfg) (s : St) (now : Nat) (hu : c.uni = true) :
    (sendPing c s now).1.nextPong = s.nextPong ∧ (sendPing c s now).2 = [.ping] := by
  rw [sendPing_eq, if_neg fun h => Bool.noConfusion (hu.symm.trans h.2), schedule_eq]
  exact ⟨rfl, rfl⟩

/-- only an accepted pong command moves `lastSeen`; every other operation that is not a timer firing
leaves "no pong since the last ping" (`lastSeen < lastPing`) untouched (or closes the connection) -/
theorem no_pong_preserved (c : Cfg) (s : St) (now : Nat) (op : Op) (hop : op ≠ .pong) (hf : op ≠ .fire)
    (h : s.lastSeen < s.lastPing) :
    (step c s now op).1.status = .closed ∨ (step c s now op).1.lastSeen < (step c s now op).1.lastPing := by
  -- every operation ends in `close`, or keeps the ping bookkeeping (possibly rescheduling)
  have hcl : ∀ code, (close s code).1.status = .closed ∨ (close s code).1.lastSeen < (close s code).1.lastPing :=
    fun code => Or.inl (close_status s code)
  have hsch : ∀ s' : St, s'.lastSeen = s.lastSeen → s'.lastPing = s.lastPing →
      (schedule s').status = .closed ∨ (schedule s').lastSeen < (schedule s').lastPing := by
    intro s' h1 h2
    rw [schedule_eq]
    exact Or.inr (h1 ▸ h2 ▸ h)
  let P : St × List Out → Prop := fun r => r.1.status = .closed ∨ r.1.lastSeen < r.1.lastPing
  have I := @ite_cases _ P
  have G := fun b body => guard_cases (P := P) s b body (fun _ => Or.inr h) (hcl _)
  show P (step c s now op)
  cases op with
  | pong => exact absurd rfl hop
  | fire => exact absurd rfl hf
  | new => exact I (fun _ => Or.inr h) fun _ => Or.inr h
  | connect e jp jr => exact G s.auth _ fun _ _ _ => hsch _ rfl rfl
  | connectFail => exact G s.auth _ fun _ _ _ => I (fun _ => hcl _) fun _ => Or.inr h
  | refresh a =>
    refine G (!s.auth) _ fun _ _ _ => I (fun _ => Or.inr h) fun _ => I (fun _ => hcl _) fun _ => ?_
    cases a with
    | error => exact Or.inr h
    | expired => exact hcl _
    | zero => exact hsch _ rfl rfl
    | «at» d => exact I (fun _ => hsch _ rfl rfl) fun _ => Or.inr h
  | srefresh a =>
    cases a with
    | error => exact Or.inr h
    | expired => exact hcl _
    | zero => exact I (fun _ => Or.inr h) fun _ => hsch _ rfl rfl
    | «at» d => exact I (fun _ => I (fun _ => Or.inr h) fun _ => hsch _ rfl rfl) fun _ => hcl _
  | sub ch ttl csr => exact G (!s.auth) _ fun _ _ _ => I (fun _ => Or.inr h) fun _ => Or.inr h
  | subrefresh ch a =>
    refine G (!s.auth) _ fun _ _ _ => ?_
    cases s.subs.find? (·.ch == ch) with
    | none => exact Or.inr h
    | some sb =>
      refine I (fun _ => Or.inr h) fun _ => I (fun _ => hcl _) fun _ => ?_
      cases a with
      | error => exact Or.inr h
      | expired => exact hcl _
      | zero => exact Or.inr h
      | «at» d => exact I (fun _ => Or.inr h) fun _ => Or.inr h

/-- **no_pong_disconnects**: when the pong-check deadline fires (at the pong deadline, by `timer_is_min`)
and no pong was accepted since the ping, the connection is closed with DisconnectNoPong. -/
theorem no_pong_disconnects (c : Cfg) (s : St) (now d : Nat)
    (harm : s.armed = some d) (hd : d ≤ now) (hst : s.status = .connected) (hop : s.timerOp = .pong)
    (hnp : s.lastSeen < s.lastPing) :
    (fire c s now).2 = [.disc dNoPong] ∧ (fire c s now).1.status = .closed := by
  have hcl := connected_ne_closed hst
  have e : fire c s now = close { s with armed := none } dNoPong :=
    (fire_pong c harm hd hcl hop).trans (if_pos hnp)
  rw [e]
  exact close_open dNoPong hcl

/-- **pong_in_time_survives**: a pong accepted at or after the ping (`lastSeen ≥ lastPing`) makes the
pong check clear the deadline and re-arm the timer — no disconnect. -/
theorem pong_in_time_survives (c : Cfg) (s : St) (now d : Nat)
    (harm : s.armed = some d) (hd : d ≤ now) (hst : s.status = .connected) (hop : s.timerOp = .pong)
    (hp : s.lastPing ≤ s.lastSeen) :
    (fire c s now).2 = [] ∧ (fire c s now).1.status = .connected ∧ (fire c s now).1.nextPong = 0 := by
  have hcl := connected_ne_closed hst
  have e : fire c s now = (schedule { s with armed := none, nextPong := 0 }, []) :=
    (fire_pong c harm hd hcl hop).trans (if_neg (Nat.not_lt.mpr hp))
  rw [e, schedule_eq]
  exact ⟨rfl, hst, rfl⟩

/-- the pong command: accepted only while a ping is outstanding; then `lastSeen = now` -/
theorem pong_accepted (c : Cfg) (s : St) (now : Nat) (hst : s.status = .connected) (hau : s.auth = true)
    (hus : s.unusable = false) (hping : s.lastPing ≠ 0) (hnp : s.ponged = false) :
    (step c s now .pong).1.lastSeen = now ∧ (step c s now .pong).1.lastPing = s.lastPing ∧
    (step c s now .pong).2 = [] := by
  have hcl := connected_ne_closed hst
  simp [step, hcl, hau, hus, hping, hnp]

/-! ### stale -/

/-- **stale_closed_after_delay** (a): `NewClient` at `t0` arms the stale timer for `t0 + delay`; when it
fires on a connection that has not successfully connected — not authenticated, OR marked `unusable` because
its connect command was answered with an error (even after authentication) — the connection is closed with
DisconnectStale. -/
theorem stale_closed_after_delay (c : Cfg) (s : St) (now d : Nat)
    (harm : s.armed = some d) (hd : d ≤ now) (hop : s.timerOp = .stale)
    (hst : s.status = .connecting) (hnc : s.auth = false ∨ s.unusable = true) :
    (fire c s now).2 = [.disc dStale] ∧ (fire c s now).1.status = .closed := by
  have hcl : s.status ≠ .closed := by rw [hst]; decide
  have hcond : (!s.auth || s.unusable) = true := by rcases hnc with h | h <;> simp [h]
  rw [fire_stale c harm hd hcl hop, if_pos hcond]
  exact close_open dStale hcl

/-- `NewClient` arms exactly that timer -/
theorem new_arms_stale (c : Cfg) (s : St) (t0 : Nat) (hstale : 0 < c.staleDelay) :
    (step c s t0 .new).1.armed = some (t0 + c.staleDelay) ∧ (step c s t0 .new).1.timerOp = .stale := by
  simp [step, hstale]

/-- a connect that fails after authentication leaves the connection authenticated but `unusable`, still
`connecting`, with the stale timer untouched: the stale close above applies to it. -/
theorem connect_fail_marks_unusable (c : Cfg) (s : St) (now : Nat) (hst : s.status = .connecting)
    (hau : s.auth = false) (hus : s.unusable = false) (hbi : c.uni = false) :
    let s' := (step c s now .connectFail).1
    s'.unusable = true ∧ s'.auth = true ∧ s'.status = .connecting ∧ s'.armed = s.armed ∧ s'.timerOp = s.timerOp ∧
    (step c s now .connectFail).2 = [.err eExpired] := by
  simp [step, hau, hus, hbi, hst]

/-- **stale_closed_after_delay** (b): once authenticated (any state satisfying the invariant), no timer
firing ever closes the connection with DisconnectStale. -/
theorem stale_not_after_auth (c : Cfg) (s : St) (now : Nat) (hinv : Inv c s) (hst : s.status = .connected) :
    Out.disc dStale ∉ (fire c s now).2 := by
  intro hm
  rcases disc_mem_fire hinv hst hm with h | h | h <;> exact absurd h (by decide)

/-! ### connection expiry -/

/-- **expired_closed_unless_refreshed** (a): when the expire deadline fires on a connection whose expiry
stamp has passed, without server-side refresh (client-side refresh mode, or no handler), the connection is
closed with DisconnectExpired. -/
theorem expired_closed (c : Cfg) (s : St) (now : Nat) (hst : s.status = .connected)
    (hexp : 0 < s.exp) (hpast : s.exp ≤ unix c now) (hmode : (!c.csr && c.hasRH) = false) :
    (expire c s now).2 = [.disc dExpired] ∧ (expire c s now).1.status = .closed := by
  have hcl := connected_ne_closed hst
  have h1 : ¬ (s.status = .closed ∨ s.exp = 0) := by simp [hcl]; omega
  have h2 : ¬ s.exp > unix c now := by omega
  unfold expire
  rw [if_neg h1, hmode]
  simp only [Bool.false_eq_true, if_false]
  unfold checkExpired
  rw [if_neg h1, if_neg h2]
  exact close_open dExpired hcl

/-- … and by the invariant the stamp HAS passed whenever the expire deadline fires: under `Inv` the
pending expire deadline is never earlier than the stamp (so the close is never early, and it happens at
the deadline `stamp + grace` by `timer_is_min`). -/
theorem expire_deadline_after_stamp (c : Cfg) (s : St) (hinv : Inv c s) (hst : s.status = .connected)
    (hne : 0 < s.nextExpire) : 0 < s.exp ∧ s.exp * c.sec ≤ s.nextExpire := by
  rcases hinv with h | ⟨h, _⟩ | ⟨_, _, _, _, he⟩
  · rw [hst] at h; cases h
  · rw [hst] at h; cases h
  · exact he hne

/-- **expired_closed_unless_refreshed** (b): a refresh in time (client command in client-side mode, or
`Client.Refresh`, with a stamp `d > 0` seconds ahead) moves the expire deadline to
`now + d s + ClientExpiredCloseDelay` and keeps the connection open. -/
theorem refreshed_moves_deadline (c : Cfg) (s : St) (now : Nat) (d : Int) (hd : 0 < d)
    (hst : s.status = .connected) :
    let s' := applyRefresh c s now d
    s'.status = .connected ∧ s'.nextExpire = now + d.toNat * c.sec + c.ecd ∧
    s'.exp = (Int.ofNat (unix c now) + d).toNat := by
  unfold applyRefresh
  rw [schedule_eq]
  exact ⟨hst, rfl, rfl⟩

theorem refresh_command_refreshes (c : Cfg) (s : St) (now : Nat) (d : Int) (hd : 0 < d)
    (hst : s.status = .connected) (hau : s.auth = true) (hus : s.unusable = false) (hrh : c.hasRH = true)
    (hcsr : c.csr = true) :
    step c s now (.refresh (.at d)) = (applyRefresh c s now d, [.rrefresh true d.toNat]) := by
  have hcl := connected_ne_closed hst
  simp [step, hcl, hau, hus, hrh, hcsr, hd]

theorem server_refresh_refreshes (c : Cfg) (s : St) (now : Nat) (d : Int) (hd : 0 < d)
    (hst : s.status = .connected) :
    step c s now (.srefresh (.at d)) = (applyRefresh c s now d, [.prefresh true d.toNat]) := by
  have hcl := connected_ne_closed hst
  simp [step, hcl, hd]

/-- the expire op cannot run before its deadline: a firing attempt before the armed deadline is a no-op -/
theorem not_before_deadline (c : Cfg) (s : St) (now d : Nat) (harm : s.armed = some d) (h : now < d) :
    fire c s now = (s, []) :=
  fire_early c harm h

/-! ### C36-2 (fixed): an answer "no expiration" (ExpireAt = 0) is honoured -/

def cfgCSR : Cfg := { cfgW with csr := true, hasRH := true }
def cfgSSR : Cfg := { cfgW with csr := false, hasRH := true }

/-- client-side: refresh command at 1.5 s answered ExpireAt = 0 → reply `expires=false`, expiry off; the old
deadline (4.3 s) does nothing and the connection stays open. -/
theorem refresh_zero_disables_expiry_client :
    let s1 := runOps cfgCSR {} [(100, .new), (300, .connect 3 5360 2252)]
    let s2 := runOps cfgCSR s1 [(1500, .refresh .zero), (2552, .fire)]
    (step cfgCSR s1 1500 (.refresh .zero)).2 = [.rrefresh false 0] ∧
    (fire cfgCSR s2 4300).2 = [] ∧ s2.status = .connected ∧ s2.exp = 0 ∧ s2.nextExpire = 0 := by decide

/-- server-side: the handler called at the deadline answers ExpireAt = 0 → no close, expiry off, the timer
re-armed for the next deadline. -/
theorem refresh_zero_disables_expiry_server :
    let s1 := runOps cfgSSR { rhr := [.zero] } [(100, .new), (300, .connect 3 5360 5252)]
    (fire cfgSSR s1 3300).2 = [.rh .zero] ∧ (fire cfgSSR s1 3300).1.status = .connected ∧
    (fire cfgSSR s1 3300).1.exp = 0 ∧ (fire cfgSSR s1 3300).1.armed = some 5552 := by decide

/-! ### subscription expiry (checked on the presence tick) -/

/-- **sub_expired_unsubscribed_unless_refreshed** (a): on a presence tick later than
`expireAt + ⌊ClientExpiredSubCloseDelay⌋ s` a subscription that cannot be refreshed server-side
(client-side-refresh subscription, or no SubRefreshHandler) is unsubscribed with the expired code. -/
theorem sub_expired_unsubscribed (c : Cfg) (now : Nat) (sb : SubC) (script : List Ans)
    (hexp : 0 < sb.expireAt) (hpast : sb.expireAt + c.escd / c.sec < unix c now)
    (hmode : (sb.csr || !c.hasSRH) = true) :
    tickSub c now sb script = (none, [.unsub sb.ch uExpired], script) := by
  unfold tickSub
  have : sb.expireAt > 0 ∧ unix c now > sb.expireAt + c.escd / c.sec := ⟨hexp, hpast⟩
  rw [if_pos this, if_pos hmode]

/-- (b) before that moment, or without an expiry, the tick leaves the subscription alone -/
theorem sub_not_expired_kept (c : Cfg) (now : Nat) (sb : SubC) (script : List Ans)
    (h : sb.expireAt = 0 ∨ unix c now ≤ sb.expireAt + c.escd / c.sec) :
    tickSub c now sb script = (some sb, [], script) := by
  unfold tickSub
  have : ¬ (sb.expireAt > 0 ∧ unix c now > sb.expireAt + c.escd / c.sec) := by omega
  rw [if_neg this]

/-- (c) a client sub refresh with a stamp `d ≥ 0` s ahead replaces the subscription's expiry -/
theorem sub_refresh_moves_expiry (c : Cfg) (s : St) (now : Nat) (ch : Nat) (d : Int) (hd : 0 ≤ d) (sb : SubC)
    (hst : s.status = .connected) (hau : s.auth = true) (hus : s.unusable = false) (hsrh : c.hasSRH = true)
    (hfind : s.subs.find? (·.ch == ch) = some sb) (hcsr : sb.csr = true) :
    (step c s now (.subrefresh ch (.at d))).1.subs =
      s.subs.map (fun x => if x.ch == ch then { x with expireAt := (Int.ofNat (unix c now) + d).toNat } else x) := by
  have hcl := connected_ne_closed hst
  have hdn : ¬ d < 0 := by omega
  simp [step, hcl, hau, hus, hsrh, hfind, hcsr, hdn]

/-! ### C36-3 (fixed): `SubRefreshReply.Expired` closes the connection with DisconnectExpired -/

theorem subrefresh_expired_disconnects :
    let s1 := runOps { cfgW with hasSRH := true } {} [(100, .new), (300, .connect 0 536 2252), (400, .sub 1 2 true)]
    (step { cfgW with hasSRH := true } s1 2500 (.subrefresh 1 .expired)).2 = [.disc dExpired] ∧
    (step { cfgW with hasSRH := true } s1 2500 (.subrefresh 1 .expired)).1.status = .closed := by
  decide

/-! ### concrete instances of the hypotheses -/

-- an admissible timeline: connect, a ping fires, pong, a refresh, the pong check fires
example : AdmissibleTrace cfgCSR {} [(100, .new), (300, .connect 3 536 2252), (836, .fire), (900, .pong),
    (1000, .refresh (.at 5)), (1236, .fire)] := by decide
-- a timeline with `Client.Refresh(ExpireAt = 0)` is admissible too
example : AdmissibleTrace cfgNP {} [(100, .new), (300, .connect 3 0 2252), (1500, .srefresh .zero), (2552, .fire),
    (3300, .fire)] := by decide
-- … after which the timer is armed for the minimum (here the next ping)
example : (runOps cfgCSR {} [(100, .new), (300, .connect 3 536 2252), (836, .fire), (900, .pong),
    (1000, .refresh (.at 5)), (1236, .fire)]).armed = some 1836 := by decide
-- the no-pong hypotheses hold after a ping that is not answered
example :
    let s := runOps cfgW {} [(100, .new), (300, .connect 0 536 2252), (836, .fire)]
    s.armed = some 1236 ∧ s.timerOp = .pong ∧ s.status = .connected ∧ s.lastSeen < s.lastPing := by decide
-- a connect that failed after authentication, then silence: closed Stale when the stale timer fires
example :
    let s := runOps cfgW {} [(100, .new), (300, .connectFail)]
    s.auth = true ∧ s.unusable = true ∧ (fire cfgW s 2100).2 = [.disc dStale] := by decide
-- PongTimeout ≥ PingInterval (documented as unsupported): the next ping fires first and moves the pong
-- deadline, so an unanswered ping is never detected
example :
    let c : Cfg := { cfgW with pongTimeout := 1000 }
    (runOps c {} [(100, .new), (300, .connect 0 536 2252), (836, .fire), (1836, .fire), (2836, .fire)]).status
      = .connected := by decide

end CentrifugeVerif.C36
