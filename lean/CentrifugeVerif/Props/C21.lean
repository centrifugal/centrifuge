import CentrifugeVerif.Proofs.MapPageHub
/-!
# C21 — map state pagination enumerates every key exactly once (memory broker part)

Generic theorems are proved in `Proofs/MapPage.lean` for any strict total order; here they are instantiated
with the comparator of `mapHub.getState` (`elemLt asc` on `(score, key)`, keys compared bytewise).
The Redis/Lua half of the property is out of scope (partial).
-/
namespace CentrifugeVerif.C21
open CentrifugeVerif.MapPage

/-- the comparator of `getState` / `find…CursorPosition` is a strict total order on `(score, key)`
(hence on byte strings for unordered channels, where every score is `0`). -/
theorem comparator_strict_total (asc : Bool) : StrictTotal (elemLt asc) := elemLt_strictTotal asc

/-- the binary search of `sort.Search` returns the first index satisfying a monotone predicate. -/
theorem search_first_index (n : Nat) (f : Nat → Bool)
    (hmono : ∀ i j, i ≤ j → j < n → f i = true → f j = true) :
    search n f ≤ n ∧ (∀ k, k < search n f → f k = false) ∧ (search n f < n → f (search n f) = true) :=
  search_spec n f hmono

/-- the cursor position is the number of elements not strictly after the cursor — for *any* cursor,
also one that is not (or no longer) in the list. -/
theorem cursor_position_is_first_beyond (asc : Bool) (keys : List Elem) (hnd : keys.Nodup) (c : Elem) :
    afterCursor (elemLt asc) (isort (elemLt asc) keys) c
      = ((isort (elemLt asc) keys).takeWhile (fun x => !elemLt asc c x)).length :=
  afterCursor_spec (elemLt_strictTotal asc) _ (isort_sorted (elemLt_strictTotal asc) keys hnd) c

/-- for every finite key set with scores, every `limit ≥ 1`, either direction,
requesting pages from the empty cursor while the returned cursor is non-empty terminates within
`size + 1` requests and the concatenation of the pages is the sorted key list. -/
theorem pages_concat_eq_sorted (asc : Bool) (keys : List Elem) (hnd : keys.Nodup) (limit : Int) (hl : 0 < limit) :
    paginateAll (elemLt asc) keys limit = (isort (elemLt asc) keys, true) :=
  MapPage.pages_concat_eq_sorted (elemLt_strictTotal asc) keys hnd limit hl

/-- a negative limit returns everything in one page. -/
theorem pages_concat_negative_limit (asc : Bool) (keys : List Elem) (limit : Int) (hl : limit < 0) :
    paginateAll (elemLt asc) keys limit = (isort (elemLt asc) keys, true) :=
  MapPage.pages_concat_negative_limit (elemLt asc) keys limit hl

/-- every key exactly once, in the channel's sort order. -/
theorem pages_each_key_once (asc : Bool) (keys : List Elem) (hnd : keys.Nodup) (limit : Int) (hl : 0 < limit) :
    (paginateAll (elemLt asc) keys limit).1.Perm keys ∧ (paginateAll (elemLt asc) keys limit).1.Nodup ∧
    (paginateAll (elemLt asc) keys limit).1.Pairwise (fun a b => elemLt asc a b = true) := by
  have h := MapPage.pages_each_key_once (elemLt_strictTotal asc) keys hnd limit hl
  refine ⟨h.1, h.2, ?_⟩
  rw [pages_concat_eq_sorted asc keys hnd limit hl]
  exact isort_sorted (elemLt_strictTotal asc) keys hnd

/-- progress: a page that returns a cursor is non-empty, the cursor is its last element and lies strictly
after the request cursor. -/
theorem page_progress (asc : Bool) (keys : List Elem) (hnd : keys.Nodup) (limit : Int) (hl : 0 < limit)
    (cur : Option Elem) (c' : Elem)
    (hc' : (getPage (elemLt asc) (isort (elemLt asc) keys) cur limit).cursor = some c') :
    (getPage (elemLt asc) (isort (elemLt asc) keys) cur limit).items ≠ [] ∧
    (getPage (elemLt asc) (isort (elemLt asc) keys) cur limit).items.getLast? = some c' ∧
    ∀ c, cur = some c → elemLt asc c c' = true :=
  getPage_progress (elemLt_strictTotal asc) _ (isort_sorted (elemLt_strictTotal asc) keys hnd) limit hl cur c' hc'

open CentrifugeVerif.MapHub in
/-- on the hub model of `mapHub.getState`: for every hub state, every existing channel of
any mode, ordered or not, every `limit ≥ 1`, either direction: requesting `ReadState` pages from the empty cursor
while the returned cursor is non-empty terminates within `size + 1` requests; the concatenation of the pages is
the list of the stored publications in the channel's sort order, one per key (same length as the state, the
sorted element list is a permutation of the channel's `(score, key)` elements and strictly sorted). -/
theorem hub_pages_concat (rc : RawCfg) (cfg : Cfg) (h : Hub) (ch : Nat) (c : Chan) (limit : Int) (asc : Bool)
    (hres : resolve rc = some cfg) (hc : aget h.chans ch = some c) (hnd : (akeys c.state).Nodup) (hl : 0 < limit) :
    hubPaginate rc h ch limit asc (c.state.length + 1) none []
      = some ((isort (elemLt (c.dir asc)) c.elems).filterMap (statePubOf c), true) ∧
    ((isort (elemLt (c.dir asc)) c.elems).filterMap (statePubOf c)).length = c.state.length ∧
    (isort (elemLt (c.dir asc)) c.elems).Perm c.elems ∧
    (isort (elemLt (c.dir asc)) c.elems).Pairwise (fun a b => elemLt (c.dir asc) a b = true) :=
  MapHub.hub_pages_concat rc cfg h ch c limit asc hres hc hnd hl

open CentrifugeVerif.MapHub in
/-- `ReadState` with `Key` set returns exactly the stored entry (or nothing), whatever
`Limit`, `Cursor` and direction are. -/
theorem single_key_read (rc : RawCfg) (cfg : Cfg) (h : Hub) (ch : Nat) (c : Chan) (o : StateOpts)
    (hres : resolve rc = some cfg) (hc : aget h.chans ch = some c) (hk : o.key ≠ [])
    (hrev : ∀ rv, o.rev = some rv → rv.epoch = c.stream.epoch) :
    getState rc h ch o
      = (h, ⟨.state (match aget c.state o.key with | some e => [e.pub] | none => []) c.stream.pos none c.ordered, []⟩) :=
  MapHub.single_key_read rc cfg h ch c o hres hc hk hrev

/-! a concrete hub on which the hypotheses hold: ordered channel, ties, prefix keys -/
section Example
open CentrifugeVerif.MapHub
private def exPub (k : Key) (d : Nat) (s : Int) : Pub := ⟨k, d, 0, s, 0, false, 0⟩
private def exChan : Chan :=
  { stream := ⟨0, [], 1⟩, ordered := true,
    state := [([1], ⟨exPub [1] 10 5, 5, 0, 0, 0⟩), ([1, 0], ⟨exPub [1, 0] 11 5, 5, 0, 0, 0⟩), ([2], ⟨exPub [2] 12 (-3), -3, 0, 0, 0⟩)],
    scores := [([1], 5), ([1, 0], 5), ([2], -3)] }
private def exHub : Hub := { Hub.init with chans := [(0, exChan)], nextEpoch := 2 }
example : resolve ⟨1, 1000, 0, true⟩ = some ⟨1, 1000, 0, true⟩ := by decide
example : aget exHub.chans 0 = some exChan := by decide
example : (akeys exChan.state).Nodup := by decide
example : hubPaginate ⟨1, 1000, 0, true⟩ exHub 0 2 false 4 none []
    = some ([exPub [1, 0] 11 5, exPub [1] 10 5, exPub [2] 12 (-3)], true) := by decide
end Example

/-! Non-vacuity: ties, Min/MaxInt64, a key that is a prefix of another, a NUL byte. -/
example : paginateAll (elemLt false)
    [((5 : Int), [1]), (5, [1, 0]), (-9223372036854775808, [2]), (9223372036854775807, [])] 1
    = ([(9223372036854775807, []), (5, [1, 0]), (5, [1]), (-9223372036854775808, [2])], true) := by decide
example : ([((5 : Int), [1]), (5, [1, 0]), (-3, [2]), (7, [])] : List Elem).Nodup := by decide

end CentrifugeVerif.C21
