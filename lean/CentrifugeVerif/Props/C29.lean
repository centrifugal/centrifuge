import CentrifugeVerif.Proofs.WSReader
import CentrifugeVerif.Proofs.WSEquiv
import CentrifugeVerif.Spec.WSSpec
/-!
# C29 — the WebSocket frame reader conforms to RFC 6455 and RFC 7692
-/
namespace CentrifugeVerif.WS
open Reader Spec

/-- Go's table of close codes accepted from the peer respects RFC 6455 §7.4: never accepts a code
that must not appear on the wire, accepts every code the RFC defines. -/
theorem goValidCloseCode_conforms : CodePolicy goValidCloseCode := by
  intro c
  simp only [mustRejectCode, mustAcceptCode, goValidCloseCode, Bool.or_eq_true, Bool.and_eq_true,
    decide_eq_true_eq, beq_iff_eq, Bool.or_eq_false_iff, Bool.and_eq_false_iff, decide_eq_false_iff_not,
    beq_eq_false_iff_ne]
  omega

/-! ## The reader against the receiver specification -/

/-- For every configuration (side, negotiated compression, limits, inflate function) and every byte
stream — hence every truncation of every stream — the events the Go reader reports (data messages
with type and bytes, pings, pongs, close with code and reason, protocol error, too big, incomplete,
bad compressed data) are exactly those of the RFC 6455 §5 / RFC 7692 receiver specification with the
one relaxation left in `Quirks.go`: a 64-bit length with the top bit set is reported as "too big". -/
theorem reader_eq_quirk_spec (cfg : Cfg) (input : Bytes) :
    (runReader cfg input).events = decodeWith Quirks.go cfg goValidCloseCode input := by
  have h := run_eq_decodeQ cfg (fuelFor input) none { input := input } ⟨rfl, rfl, rfl⟩
  simpa [runReader, decodeWith, fuelFor] using h

/-- Full statement `reader_eq_spec` (false, see the witness below):
`(runReader cfg input).events = decode cfg goValidCloseCode input` for all `cfg`, `input`.
Proved, for all `cfg` and `input`: the reader's events are those of the strict RFC decoder, or the
two lists differ only in their last element, which is "too big" for the reader where the RFC says
"protocol error" (finding C29-4: 64-bit length with the most significant bit set; the repo's
TestReadLimit pins ErrReadLimit for that input).  RSV1 on control/continuation frames and 1-byte
close bodies are rejected like the RFC says since a4ffe486 and 13f4dfc8. -/
theorem reader_eq_spec_partial (cfg : Cfg) (input : Bytes) :
    (runReader cfg input).events = decode cfg goValidCloseCode input ∨
    ∃ pre, (runReader cfg input).events = pre ++ [Event.tooBig] ∧
      decode cfg goValidCloseCode input = pre ++ [Event.protoError] := by
  rw [reader_eq_quirk_spec]
  exact decodeQ_go_vs_rfc cfg goValidCloseCode _ none input

/-- in particular: equality on every stream the RFC decoder does not reject as a protocol violation -/
theorem reader_eq_spec_of_no_violation (cfg : Cfg) (input : Bytes)
    (h : Event.protoError ∉ decode cfg goValidCloseCode input) :
    (runReader cfg input).events = decode cfg goValidCloseCode input := by
  rcases reader_eq_spec_partial cfg input with he | ⟨pre, _, h2⟩
  · exact he
  · exact absurd (by rw [h2]; simp) h

/-- and: every stream the RFC decoder rejects is rejected by the reader at the same place (with a
protocol error or, in the MSB case, with "too big"); everything before that is identical -/
theorem reader_rejects_what_rfc_rejects (cfg : Cfg) (input : Bytes) (pre : List Event)
    (h : decode cfg goValidCloseCode input = pre ++ [Event.protoError]) :
    (runReader cfg input).events = pre ++ [Event.protoError] ∨
    (runReader cfg input).events = pre ++ [Event.tooBig] := by
  rcases reader_eq_spec_partial cfg input with he | ⟨p, h1, h2⟩
  · left; rw [he, h]
  · right
    rw [h] at h2
    have := List.append_inj' h2 rfl
    rw [h1, this.1]

/-! Witness that the unrestricted `reader_eq_spec` is false on the real reader (finding C29-4,
replayed on the Go code by the check), and regression instances for the fixed findings. -/
def deflateClient : Cfg := { server := false, deflate := true, readLimit := 0, inflatedLimit := 0, inflate := fun _ => none }
def plainClient0 : Cfg := { server := false, deflate := false, readLimit := 0, inflatedLimit := 0, inflate := fun _ => none }

-- 64-bit length with the most significant bit set
example : (runReader plainClient0 [0x82, 0x7f, 0x80, 0, 0, 0, 0, 0, 0, 0]).events = [.tooBig] ∧
    decode plainClient0 goValidCloseCode [0x82, 0x7f, 0x80, 0, 0, 0, 0, 0, 0, 0] = [.protoError] := by decide
-- fixed (C29-1, C29-2, C29-3): RSV1 on a pong, RSV1 on a continuation, 1-byte close body are protocol errors
example : ∃ m, (runReader deflateClient [0xca, 0x01, 0x78]).result = some (.proto m) := ⟨_, rfl⟩
example : ∃ m, (runReader deflateClient [0x01, 0x01, 0x61, 0xc0, 0x01, 0x62]).result = some (.proto m) := ⟨_, rfl⟩
example : ∃ m, (runReader plainClient0 [0x88, 0x01, 0xff]).result = some (.proto m) := ⟨_, rfl⟩
/-- non-vacuity: a fragmented message with an interleaved ping, then close -/
example : Event.protoError ∉ decode plainClient0 goValidCloseCode
      [0x01, 0x01, 0x61, 0x89, 0x00, 0x80, 0x01, 0x62, 0x88, 0x02, 0x03, 0xe8] ∧
    decode plainClient0 goValidCloseCode [0x01, 0x01, 0x61, 0x89, 0x00, 0x80, 0x01, 0x62, 0x88, 0x02, 0x03, 0xe8]
      = [.ping [], .msg 1 [0x61, 0x62], .close 1000 []] := by decide

/-! ## Frames written back, totality -/

/-- Whenever the reader reports a protocol error (any of the header, fragmentation, masking, close
code or close reason checks), the last frame it wrote to the peer is a Close frame with status
1002. For every configuration and every byte stream. -/
theorem protocol_error_sends_1002 (cfg : Cfg) (input : Bytes) (msg : String)
    (h : (runReader cfg input).result = some (.proto msg)) :
    LastClose 1002 (runReader cfg input) :=
  (runReader_good cfg input).1 msg h

/-- Full statement (false, see the witness below):
`(runReader cfg input).result = some .readLimit → LastClose 1009 (runReader cfg input)`.
Proved: whenever the reader reports "read limit exceeded" and did not take the one remaining
deviating exit (64-bit length with the top bit set, finding C29-4), the last frame it wrote is a
Close frame with status 1009 — for the wire-size limit, the int64 overflow of the accumulated
message length (fixed by 7b24129f) and the inflated-size limit. -/
theorem too_big_sends_1009_partial (cfg : Cfg) (input : Bytes)
    (h : (runReader cfg input).result = some .readLimit)
    (h1 : Dev.len64Msb ∉ (runReader cfg input).devs) :
    LastClose 1009 (runReader cfg input) := by
  rcases (runReader_good cfg input).2.1 h with h | h
  · exact h
  · exact absurd h h1

/-- No slice or index operation of the reader can go out of range, and the read loop always ends
with an error value (totality; "never panics"), and the fuel of the model's loop is never the
reason it ends. -/
theorem reader_never_panics (cfg : Cfg) (input : Bytes) :
    (∀ w, (runReader cfg input).result ≠ some (.panic w)) ∧
    (runReader cfg input).result ≠ none ∧ (runReader cfg input).result ≠ some .fuel :=
  (runReader_good cfg input).2.2

/-! Witness: the unrestricted `too_big_sends_1009` is false on the real reader (finding C29-4):
"read limit exceeded" with nothing written at all.  The length-overflow exit (former C29-5) now
writes the 1009 frame. -/
def plainClient : Cfg := { server := false, deflate := false, readLimit := 0, inflatedLimit := 0, inflate := fun _ => none }

example : (runReader plainClient [0x82, 0x7f, 0x80, 0, 0, 0, 0, 0, 0, 0]).result = some .readLimit ∧
    (runReader plainClient [0x82, 0x7f, 0x80, 0, 0, 0, 0, 0, 0, 0]).written = [] := by decide
example : (runReader plainClient [0x01, 0x01, 0x61, 0x80, 0x7f, 0x7f, 0xff, 0xff, 0xff, 0xff, 0xff, 0xff, 0xff]).result
      = some .readLimit ∧
    (runReader plainClient [0x01, 0x01, 0x61, 0x80, 0x7f, 0x7f, 0xff, 0xff, 0xff, 0xff, 0xff, 0xff, 0xff]).written
      = [⟨8, [3, 241]⟩] := by
  decide
/-- non-vacuity of `too_big_sends_1009_partial` and `protocol_error_sends_1002` -/
example : (runReader { plainClient with readLimit := 3 } [0x82, 0x04, 1, 2, 3, 4]).result = some .readLimit ∧
    (runReader { plainClient with readLimit := 3 } [0x82, 0x04, 1, 2, 3, 4]).written = [⟨8, [3, 241]⟩] ∧
    (runReader { plainClient with readLimit := 3 } [0x82, 0x04, 1, 2, 3, 4]).devs = [] := by decide

example : ∃ m, (runReader plainClient [0x83, 0x00]).result = some (.proto m) := ⟨_, rfl⟩

end CentrifugeVerif.WS
