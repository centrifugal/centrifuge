import CentrifugeVerif.Proofs.PresenceHub
import CentrifugeVerif.Proofs.PresenceProto
/-!
# C06 — presence reflects live subscriptions; presence statistics count exactly the distinct
clients and users

Part (a), the store (`presenceHub` behind `MemoryPresenceManager`): for ANY sequence of add/remove
calls and any channel, `NumClients` is the number of distinct client ids (map keys) and `NumUsers`
the number of distinct user ids of the presence set that `Presence()` returns.
"The number of distinct x" is stated without any library notion of cardinality: there is a
duplicate-free list containing exactly those x, and the statistic is its length.
-/
namespace CentrifugeVerif.PresenceHub

/-- `presenceHub_stats`: after any add/remove sequence, for a channel whose presence set is `m`. -/
theorem presenceHub_stats (ops : List Op) (ch : String) (m : Inner)
    (hg : get ch (runOps ops) = some m) :
    ∃ cs us : List String,
      cs.Nodup ∧ us.Nodup ∧
      (∀ c, c ∈ cs ↔ ∃ i, (c, i) ∈ m) ∧
      (∀ u, u ∈ us ↔ ∃ c i, (c, i) ∈ m ∧ i.userID = u) ∧
      getStats ch (runOps ops) = ⟨cs.length, us.length⟩ := by
  have hinv := inv_runOps ops ch m (get_mem hg)
  obtain ⟨us, hn, hm, hc⟩ := countUsers_spec m []
  refine ⟨keys m, us, hinv, hn, ?_, ?_, ?_⟩
  · intro c
    simp only [keys, List.mem_map]
    constructor
    · rintro ⟨⟨c', i⟩, h1, rfl⟩; exact ⟨i, h1⟩
    · rintro ⟨i, h1⟩; exact ⟨(c, i), h1, rfl⟩
  · intro u
    rw [hm u]
    simp only [usersOf, List.mem_map, List.not_mem_nil, not_false_eq_true, and_true]
    constructor
    · rintro ⟨⟨c, i⟩, h1, rfl⟩; exact ⟨c, i, h1, rfl⟩
    · rintro ⟨c, i, h1, rfl⟩; exact ⟨(c, i), h1, rfl⟩
  · simp [getStats, hg, hc, keys]

/-- absent channel (`Presence()` returns a nil map): zero statistics. -/
theorem presenceHub_stats_absent (ops : List Op) (ch : String)
    (hg : get ch (runOps ops) = none) : getStats ch (runOps ops) = ⟨0, 0⟩ := by
  simp [getStats, hg]

/-! Non-vacuity: two clients of the same user plus one other user, a re-add and a removal of an
absent client. -/
example :
    let ops := [Op.add "ch" "c1" ⟨"c1", "u1"⟩, .add "ch" "c2" ⟨"c2", "u1"⟩, .add "ch" "c3" ⟨"c3", "u2"⟩,
                .add "ch" "c1" ⟨"c1", "u1"⟩, .remove "ch" "zz", .remove "other" "c1"]
    getStats "ch" (runOps ops) = ⟨3, 2⟩ ∧ (get "ch" (runOps ops)).isSome = true := by decide
example : getStats "ch" (runOps [Op.add "ch" "c1" ⟨"c1", "u1"⟩, .remove "ch" "c1"]) = ⟨0, 0⟩ ∧
    get "ch" (runOps [Op.add "ch" "c1" ⟨"c1", "u1"⟩, .remove "ch" "c1"]) = none := by decide

end CentrifugeVerif.PresenceHub

/-!
## Part (b), the protocol (`Model/PresenceProto.lean`)

Threads: subscribe attempt (with both failure points), `Client.Unsubscribe`, `close`, presence tick
(with `compensateRacedPresence`), any number of each over time, all interleavings.

Full statements (DESIGN §4 `presence_while_subscribed`, `presence_after_settle`): in every
reachable settled state, subscribed ⇒ present and not subscribed ⇒ not present.
Both are FALSE of the code as it is when a re-subscribe overlaps an unsubscribe or a tick that is
still in flight (three decided counter-witnesses below, each replayed on the real code by the check:
C06-1, C06-2, C06-3).  Proved: both statements for ALL interleavings under the assumption
`quietResub` (a subscribe attempt for the channel starts only while no unsubscribe call and no
presence tick of this connection is in flight) — hence the `_partial` names — plus the self-healing
theorem `presence_restored_by_tick` that needs no assumption.
-/
namespace CentrifugeVerif.PresenceProto

/-- `presence_while_subscribed` (partial: quiet re-subscribe).  Holds in every reachable state, not
only in settled ones. -/
theorem presence_while_subscribed_partial (cfg : Cfg) (hq : cfg.quietResub = true) (s : State)
    (hr : Reachable cfg s) (g : Nat) (hc : s.chan = some (g, true)) : s.present = true :=
  (inv_reachable hq hr).present_of_sub g hc

/-- `presence_after_settle` (partial: quiet re-subscribe): once nothing is in flight and the channel
is not subscribed, the presence entry is gone. -/
theorem presence_after_settle_partial (cfg : Cfg) (hq : cfg.quietResub = true) (s : State)
    (hr : Reachable cfg s) (hs : Settled s = true) (hc : ∀ g, s.chan ≠ some (g, true)) :
    s.present = false := by
  have hi := inv_reachable hq hr
  obtain ⟨chan, closed, closing, present, mu, nextGen, S, U, C, T⟩ := s
  obtain ⟨rfl, rfl, rfl, rfl | rfl⟩ := settled_iff.mp hs <;> exact hi.absent hc id id id id

/-- a settled state never holds a dangling reservation (so "not subscribed" = no entry at all) -/
theorem settled_no_reservation (cfg : Cfg) (hq : cfg.quietResub = true) (s : State)
    (hr : Reachable cfg s) (hs : Settled s = true) (g : Nat) : s.chan ≠ some (g, false) := by
  have h := (inv_reachable hq hr).sOk
  rw [(settled_iff.mp hs).1] at h
  exact h g

/-- Self-healing, no assumption on the history: from ANY state (reachable or not) in which the
connection is open, the channel subscribed, no tick running and `presenceMu` free, one complete
presence tick run on its own ends with the connection present. -/
theorem presence_restored_by_tick (cfg : Cfg) (s : State) (g : Nat)
    (hc : s.chan = some (g, true)) (hcl : s.closed = false) (hclg : s.closing = false)
    (hT : s.T = none) (hmu : s.presenceMu = none) :
    ∃ s', run cfg s [.tStart, .tCheck, .tAdd, .tCompensate] = some s' ∧
      s'.present = true ∧ s'.chan = some (g, true) ∧ s'.T = none := by
  refine ⟨{ s with present := true, presenceMu := none, T := none }, ?_, rfl, hc, rfl⟩
  obtain ⟨chan, closed, closing, present, mu, nextGen, S, U, C, T⟩ := s
  cases hc; cases hcl; cases hclg; cases hT; cases hmu
  rfl

/-! ### non-vacuity -/

def quiet : Cfg := { quietResub := true }
def free : Cfg := { quietResub := false }

/-- subscribe, tick racing an unsubscribe (compensated), settle: not present. -/
example :
    ∃ s, run quiet State.init
      [.sSpawn, .sCheck, .sAdd, .sCommit, .tStart, .tCheck, .uSpawn, .uRemove, .uPresence, .tAdd,
       .tCompensate, .tRemove] = some s ∧ Settled s = true ∧ s.chan = none ∧ s.present = false := by decide

/-- subscribe and stay: settled, subscribed, present. -/
example :
    ∃ s, run quiet State.init [.sSpawn, .sCheck, .sAdd, .sCommit, .tStart, .tCheck, .tAdd, .tCompensate]
      = some s ∧ Settled s = true ∧ s.chan = some (1, true) ∧ s.present = true := by decide

/-! ### counter-witnesses without the assumption (the code as it is) -/

/-- C06-1: unsubscribe's `removePresence` lands after the re-subscribe's `addPresence`. -/
example :
    ∃ s, run free State.init
      [.sSpawn, .sCheck, .sAdd, .sCommit, .uSpawn, .uRemove,
       .sSpawn, .sCheck, .sAdd, .sCommit, .uPresence] = some s ∧
      Settled s = true ∧ s.chan = some (2, true) ∧ s.present = false := by decide

/-- C06-2: the tick's add lands after the unsubscribe's remove; the compensation is skipped because a
new reservation exists; that attempt fails: entry left behind with nothing subscribed. -/
example :
    ∃ s, run free State.init
      [.sSpawn, .sCheck, .sAdd, .sCommit, .tStart, .tCheck, .uSpawn, .uRemove, .uPresence,
       .sSpawn, .tAdd, .tCompensate, .sFail] = some s ∧
      Settled s = true ∧ s.chan = none ∧ s.present = true := by decide

/-- C06-3: the tick's compensating remove lands after a fast re-subscribe's add. -/
example :
    ∃ s, run free State.init
      [.sSpawn, .sCheck, .sAdd, .sCommit, .tStart, .tCheck, .uSpawn, .uRemove, .uPresence, .tAdd,
       .tCompensate, .sSpawn, .sCheck, .sAdd, .sCommit, .tRemove] = some s ∧
      Settled s = true ∧ s.chan = some (2, true) ∧ s.present = false := by decide

end CentrifugeVerif.PresenceProto
