import CentrifugeVerif.Proofs.RedisPush
/-!
# C33 — Redis PUB/SUB payload framing round-trips and parsing is total

Model: `Model/RedisPush.lean` — Go `extractPushData` / `parseDeltaPush` as they are in `/repo`
(with the bounds checks of commits e8dc9ebe and efc5e395), slice-bounds panics as the explicit
outcome `Outcome.panic`; builders: the Lua `..` chains translated into `Gen/RedisPushFmt.lean` on
every run.

* Totality (`extract_total`, `parseDeltaPush_total`): for **every** byte string the decoder returns
  a value, never the `panic` outcome — the guards in front of the length-driven slices suffice.
* Round trip (`extract_build_roundtrip_*`): holds for all payload bytes, previous payloads,
  offsets and epochs under the stated (necessary, see the `example`s) restrictions.
* History: findings C33-1…4 (fixed by e8dc9ebe) — the functions with suffix `Pre` are the code
  before the fixes; `extractPre_panics_iff` characterises exactly which inputs made it panic,
  `extract_agrees_prefix` shows the fixes changed nothing on any other input, and the old witnesses
  are now decoded as malformed (`ok = false`).  Finding C33-6 (first version of the guard,
  `len(input) < prevPayloadLength+1`, overflowed for a declared length of MaxInt64; fixed by
  efc5e395 with `len(input) <= prevPayloadLength`): its witness is `decide`d below as well.
-/
namespace CentrifugeVerif.RedisPush
open CentrifugeVerif.Gen.RedisPushFmt

/-! ## Totality -/

/-- **Decoding an arbitrary PUB/SUB payload never crashes the node**: for every byte string,
`extractPushData` returns a value (possibly flagged malformed), never the panic outcome. -/
theorem extract_total (data : Bytes) : extractPushData data ≠ .panic :=
  (extractPushData_guards data).1

/-- the same for `parseDeltaPush` on every input string -/
theorem parseDeltaPush_total (input : Bytes) : parseDeltaPush input ≠ .panic :=
  (parseDeltaPush_guards input).1

/-- the four inputs that crashed the pre-fix code are now reported as malformed -/
example : extractPushData [95,95,112,49,95,95,120] = .val (failWith [120]) := by decide
example : extractPushData [95,95,100,49,58,49,58,101,58,51,58,97,98,99] = .val (failWith []) := by decide
example : extractPushData [95,95,100,49,58,49,58,101,58,45,49,58,97,98,99,58,49,58,120] = .val (failWith []) := by decide
example : extractPushData [95,95,100,49,58,49,58,101,58,48,58,58,45,50,58,97,98] = .val (failWith []) := by decide

/-- `__d1:1:e:9223372036854775807:abc` (declared prev-payload length = MaxInt64, finding C33-6):
malformed, no panic -/
example : extractPushData
    [95,95,100,49,58,49,58,101,58,57,50,50,51,51,55,50,48,51,54,56,53,52,55,55,53,56,48,55,58,97,98,99] =
    .val (failWith []) := by decide

/-! ## The code before the fixes (findings C33-1…4) -/

/-- Exactly the inputs classified by `panicClass` made the pre-fix `extractPushData` panic. -/
theorem extractPre_panics_iff (data : Bytes) :
    extractPushDataPre data = .panic ↔ (panicClass data).isSome = true :=
  (extractPushData_guards data).panic_iff

theorem parseDeltaPushPre_panics_iff (input : Bytes) :
    parseDeltaPushPre input = .panic ↔ (deltaPanicClass input).isSome = true :=
  (parseDeltaPush_guards input).panic_iff

/-- the pre-fix code was total outside the four panic shapes -/
theorem extractPre_total_partial (data : Bytes) (h : panicClass data = none) :
    extractPushDataPre data ≠ .panic :=
  mt (extractPre_panics_iff data).1 (by rw [h]; exact Bool.false_ne_true)

/-- the excluding hypothesis is satisfiable by non-trivial inputs (well-formed frames) -/
example : panicClass [95,95,100,49,58,49,58,101,58,51,58,97,98,99,58,49,58,120] = none := by decide
example : panicClass [95,95,112,49,58,53,58,97,98,95,95,120] = none := by decide

/-- witnesses: `__p1__x`, `__d1:1:e:3:abc`, `__d1:1:e:-1:abc:1:x`, `__d1:1:e:0::-2:ab` -/
example : extractPushDataPre [95,95,112,49,95,95,120] = .panic := by decide
example : extractPushDataPre [95,95,100,49,58,49,58,101,58,51,58,97,98,99] = .panic := by decide
example : extractPushDataPre [95,95,100,49,58,49,58,101,58,45,49,58,97,98,99,58,49,58,120] = .panic := by decide
example : extractPushDataPre [95,95,100,49,58,49,58,101,58,48,58,58,45,50,58,97,98] = .panic := by decide
example : (parseDeltaPushPre [100,49,58,49,58,101,58,51,58,97,98,99]).isPanic = true := by decide
example : panicClass [95,95,112,49,95,95,120] = some .pHeaderShort := by decide
example : panicClass [95,95,100,49,58,49,58,101,58,51,58,97,98,99] = some .prevLenEqRemaining := by decide
example : panicClass [95,95,100,49,58,49,58,101,58,45,49,58,97,98,99,58,49,58,120] = some .prevLenNegative := by decide
example : panicClass [95,95,100,49,58,49,58,101,58,48,58,58,45,50,58,97,98] = some .payloadLenNegative := by decide

/-- the pre-fix code was not total -/
theorem extractPre_not_total : ¬ ∀ data : Bytes, extractPushDataPre data ≠ .panic := by
  intro h
  exact h [95,95,112,49,95,95,120] (by decide)

/-- the fixes are conservative: wherever the pre-fix code returned a value, the current code
returns the same value -/
theorem extract_agrees_prefix (data : Bytes) (r : Push) (h : extractPushDataPre data = .val r) :
    extractPushData data = .val r :=
  (extractPushData_guards data).agrees h

/-! ## Round trip -/

def positionedFrame (off : Nat) (epoch payload : Bytes) : Bytes :=
  [95, 95] ++ ((([112, 49, 58] ++ decimal off ++ 58 :: epoch) ++ 95 :: 95 :: payload))

def deltaFrame (off : Nat) (epoch prev payload : Bytes) : Bytes :=
  [95, 95] ++ ([100, 49, 58] ++ (decimal off ++ 58 :: (epoch ++ 58 :: (decimal prev.length ++ 58 ::
    (prev ++ 58 :: (decimal payload.length ++ 58 :: payload))))))

/-- the generated Lua chains denote exactly these frames (breaks when a script changes) -/
theorem render_plain (e : Env) (h : e.offset < 10 ^ 14) :
    render e streamPlain = some (positionedFrame e.offset e.epoch e.payload) ∧
    render e listPlain = some (positionedFrame e.offset e.epoch e.payload) := by
  simp [render, renderPiece, streamPlain, listPlain, luaNum, h, positionedFrame]

theorem render_delta (e : Env) (h : e.offset < 10 ^ 14) (hp : e.prev.length < 10 ^ 14)
    (hq : e.payload.length < 10 ^ 14) :
    render e streamDelta = some (deltaFrame e.offset e.epoch e.prev e.payload) ∧
    render e listDelta = some (deltaFrame e.offset e.epoch e.prev e.payload) := by
  simp [render, renderPiece, streamDelta, listDelta, luaNum, h, hp, hq, deltaFrame]

/-- the current decoder on a positioned frame -/
theorem extract_positionedFrame (off : Nat) (epoch payload : Bytes)
    (hoff : off < 2 ^ 64) (hep : ∀ b ∈ epoch, b ≠ 95) :
    extractPushData (positionedFrame off epoch payload) = .val (expectPub off epoch payload false []) := by
  refine extract_agrees_prefix _ _ ?_
  unfold extractPushDataPre positionedFrame
  rw [if_neg (by simp)]
  simp only [show ∀ l : Bytes, List.drop 2 ([95, 95] ++ l) = l from fun _ => rfl]
  simp only [List.cons_append, List.nil_append]
  rw [if_neg (by decide), if_neg (by decide), if_pos trivial]
  simpa using extractPositionedPre_frame (95 :: 95 :: 112 :: 49 :: 58 :: (decimal off ++ 58 :: epoch ++ 95 :: 95 :: payload))
    off epoch payload hoff hep

/-- the current decoder on a delta frame -/
theorem extract_deltaFrame (off : Nat) (epoch prev payload : Bytes)
    (hoff : off < 2 ^ 64) (hep : ∀ b ∈ epoch, b ≠ 58)
    (hpv : prev.length < 2 ^ 63) (hpl : payload.length < 2 ^ 63) :
    extractPushData (deltaFrame off epoch prev payload) = .val (expectPub off epoch payload true prev) := by
  refine extract_agrees_prefix _ _ ?_
  unfold extractPushDataPre deltaFrame
  rw [if_neg (by simp)]
  simp only [show ∀ l : Bytes, List.drop 2 ([95, 95] ++ l) = l from fun _ => rfl]
  have hp := parseDeltaPushPre_frame off epoch prev payload hoff hep hpv hpl
  simp only [List.cons_append, List.nil_append] at hp ⊢
  rw [if_neg (by decide), if_neg (by decide), if_neg (by decide), if_pos trivial]
  unfold extractDeltaPre
  rw [hp]
  rfl

/-- **Positioned publications** (`__p1:offset:epoch__payload`, stream and list script): for all
payload bytes, all offsets below the Lua `%.14g` decimal range and all epochs without `_`, the
script's frame exists and the receiving node decodes exactly (payload, offset, epoch,
delta = false, no previous payload). -/
theorem extract_build_roundtrip_positioned (e : Env) (hoff : e.offset < 10 ^ 14)
    (hep : ∀ b ∈ e.epoch, b ≠ 95) :
    ∃ frame, render e streamPlain = some frame ∧ render e listPlain = some frame ∧
      extractPushData frame = .val (expectPub e.offset e.epoch e.payload false []) :=
  ⟨_, (render_plain e hoff).1, (render_plain e hoff).2,
    extract_positionedFrame _ _ _ (by omega) hep⟩

/-- **Delta publications** (`__d1:offset:epoch:len:prev:len:payload`): for all payload and
previous-payload bytes (also containing `:` and `__`), offsets/lengths in the Lua decimal range,
epochs without `:`. -/
theorem extract_build_roundtrip_delta (e : Env) (hoff : e.offset < 10 ^ 14)
    (hpv : e.prev.length < 10 ^ 14) (hpl : e.payload.length < 10 ^ 14)
    (hep : ∀ b ∈ e.epoch, b ≠ 58) :
    ∃ frame, render e streamDelta = some frame ∧ render e listDelta = some frame ∧
      extractPushData frame = .val (expectPub e.offset e.epoch e.payload true e.prev) :=
  ⟨_, (render_delta e hoff hpv hpl).1, (render_delta e hoff hpv hpl).2,
    extract_deltaFrame _ _ _ _ (by omega) hep (by omega) (by omega)⟩

/-- hypotheses are satisfiable by a non-trivial instance (epoch as generated by `epoch.Generate`) -/
example : ∃ frame, render ⟨7, [97, 98], [1, 58, 95, 95], [58, 0, 255]⟩ streamDelta = some frame ∧
    extractPushData frame = .val (expectPub 7 [97, 98] [58, 0, 255] true [1, 58, 95, 95]) := by
  obtain ⟨f, h1, _, h3⟩ := extract_build_roundtrip_delta ⟨7, [97, 98], [1, 58, 95, 95], [58, 0, 255]⟩
    (by decide) (by decide) (by decide) (by decide)
  exact ⟨f, h1, h3⟩

/-- the epoch restrictions are necessary: `_` at the end of an epoch breaks the positioned
framing, `:` inside an epoch breaks the delta framing -/
example : extractPushData (positionedFrame 5 [97, 95] [120]) ≠ .val (expectPub 5 [97, 95] [120] false []) := by
  decide
example : extractPushData (deltaFrame 5 [97, 58, 98] [] [120]) ≠ .val (expectPub 5 [97, 58, 98] [120] true []) := by
  decide

/-- **Join / leave** (`__j__` / `__l__` followed by the ClientInfo bytes): every payload. -/
theorem extract_build_roundtrip_join (payload : Bytes) :
    extractPushData (buildJoin payload) =
      .val { data := payload, typ := 1, epoch := [], offset := 0, delta := false, prev := [], ok := true } := by
  simp [buildJoin, joinPrefix, extractPushData, extractJoinLeave, indexSep]

theorem extract_build_roundtrip_leave (payload : Bytes) :
    extractPushData (buildLeave payload) =
      .val { data := payload, typ := 2, epoch := [], offset := 0, delta := false, prev := [], ok := true } := by
  simp [buildLeave, leavePrefix, extractPushData, extractJoinLeave, indexSep]

/-- **Plain publications** (no history: the raw protobuf bytes are published): every payload that
does not start with `__` (a protobuf message never does: `0x5f` = field 11 with wire type 7). -/
theorem extract_build_roundtrip_raw (payload : Bytes) (h : payload.take 2 ≠ [95, 95]) :
    extractPushData payload =
      .val { data := payload, typ := 0, epoch := [], offset := 0, delta := false, prev := [], ok := true } := by
  simp [extractPushData, h]

example : ([0x22, 2, 0x7b, 0x7d] : Bytes).take 2 ≠ [95, 95] := by decide

/-! ## List script with delta: the "previous payload" is the framed list entry

`broker_history_add_list.lua` stores `__p1:offset:epoch__payload` with `lpush` and, for delta,
reads the previous payload back with `lindex list_key 0` — i.e. *with* the framing
(`listPrevIsFramedListHead`, extracted from the script).  The delta frame of the second
publication therefore carries the first *frame*, not the first payload, and the receiver decodes
that.  (The Go side then fails to unmarshal it; replayed by the check, finding C33-5.) -/
theorem list_delta_prev_is_framed_entry (e1 e2 : Env) (h1 : e1.offset < 10 ^ 14) (h2 : e2.offset < 10 ^ 14)
    (hl1 : e1.payload.length + e1.epoch.length + 30 < 10 ^ 14) (hl2 : e2.payload.length < 10 ^ 14)
    (hep : ∀ b ∈ e2.epoch, b ≠ 58) (_hfr : listPrevIsFramedListHead = true) :
    ∃ stored frame2, render e1 listPlain = some stored ∧
      render { e2 with prev := stored } listDelta = some frame2 ∧
      extractPushData frame2 = .val (expectPub e2.offset e2.epoch e2.payload true stored) ∧
      stored ≠ e1.payload := by
  have hlen : (positionedFrame e1.offset e1.epoch e1.payload).length < 10 ^ 14 := by
    have : (decimal e1.offset).length ≤ 20 := decimalF_length_le 20 e1.offset
    simp [positionedFrame]; omega
  refine ⟨positionedFrame e1.offset e1.epoch e1.payload,
    deltaFrame e2.offset e2.epoch (positionedFrame e1.offset e1.epoch e1.payload) e2.payload,
    (render_plain e1 h1).2, ?_, ?_, ?_⟩
  · exact (render_delta { e2 with prev := positionedFrame e1.offset e1.epoch e1.payload } h2 hlen hl2).2
  · exact extract_deltaFrame _ _ _ _ (by omega) hep (by omega) (by omega)
  · intro h
    have := congrArg List.length h
    simp [positionedFrame] at this
    omega

example : listPrevIsFramedListHead = true := by decide

end CentrifugeVerif.RedisPush
