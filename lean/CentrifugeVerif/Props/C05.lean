import CentrifugeVerif.Proofs.SubProtoNT11
import CentrifugeVerif.Model.SubProtoWitness
/-!
# C05 — nothing of a connection survives its end

Proved for every reachable state (all labels, all interleavings, failures, timeouts):
* `closed_is_final` — a closed connection never becomes open again;
* `connections_gauge_lockstep` — the connections gauge is 1 exactly while the connection is
  registered in the hub;
* `closed_settled_unregistered` — closed and nothing in flight ⇒ not registered, gauge back to 0;
* `closed_no_new_subscription` (in `Props/C04.lean`) — nothing is committed after the close point.

Proved for executions in which the 5 s unsubscribe wait gate never times out (`ReachableNT`):
* `closed_settled_empty` — after the connection closed (at whatever point of whatever subscribe /
  unsubscribe was in progress, with whatever injected failures) and every operation has returned:
  no `c.channels` entry, no routing entry, no presence entry, not registered, both gauges back.

With the timeout the statement is false, for the model and for the implementation:
* `closed_settled_empty_fails_with_timeout_replayed` — kernel-checked execution in which a presence entry
  survives; the check replays it on the real code on every run (finding C05-1, `props/C05/findings.json`);
* `closed_settled_empty_fails_with_timeout` — a second such execution, which needs a goroutine switch
  between two lock regions of one `unsubscribe` call; the gate-controlled harness cannot force that, so it
  is a model-level counterexample only.
-/
namespace CentrifugeVerif.SubProto

/-- a closed connection never becomes open again, whatever runs afterwards -/
theorem closed_is_final (s s' : State) (l : Label) (h : s.status = .closed) (hn : next s l = some s') :
    s'.status = .closed := by
  cases l with
  | spawn k ch o =>
    simp only [next, Option.some.injEq] at hn
    subst hn; exact h
  | step tid o =>
    obtain ⟨t, effs, t', _, _, rfl⟩ := next_step_some hn
    exact applyEffs_closed _ _ h

/-- the connections-inflight gauge is 1 exactly while the connection is registered -/
theorem connections_gauge_lockstep (s : State) (h : Reachable s) :
    s.connGauge = if s.registered then 1 else 0 :=
  (reachable_regOk s h).gauge

/-- closed and nothing in flight ⇒ the connection is not registered on the node any more and the
connections gauge is back to its value before the connection (0) -/
theorem closed_settled_unregistered (s : State) (h : Reachable s) (hc : s.status = .closed) (hs : s.settled) :
    s.registered = false ∧ s.connGauge = 0 := by
  have hr := reachable_regOk s h
  have hreg : s.registered = false := by
    rcases hr.closedReg hc with h1 | ⟨tid, t, h1, h2⟩
    · exact h1
    · have := hs (tid, t) (aget_mem _ _ _ h1)
      simp only at this
      rw [this] at h2; cases h2
  exact ⟨hreg, by rw [hr.gauge, hreg]; rfl⟩

/-- … and, the subscriptions gauge being the number of routing entries, it is back to 0 exactly when
no routing entry of the connection is left -/
theorem closed_subscriptions_gauge (s : State) (h : Reachable s) : s.subGauge = 0 ↔ s.hub = [] := by
  rw [(reachable_struct s h).gauge]
  cases s.hub <;> simp; omega

/-- `closed_settled_empty` (no wait-gate timeout): after the close, once everything in flight has
returned, nothing of the connection is left — no `c.channels` entry, no routing entry in the hub, no
presence entry, no registration, and both inflight gauges are back to 0. -/
theorem closed_settled_empty (s : State) (h : ReachableNT s) (hc : s.status = .closed) (hs : s.settled) :
    s.channels = [] ∧ s.hub = [] ∧ s.presence = [] ∧ s.registered = false ∧ s.connGauge = 0 ∧ s.subGauge = 0 := by
  have hi := reachableNT_invAll s h
  obtain ⟨h1, h2, h3⟩ := closed_settled_maps_empty s hi.base hi.l4 hi.l5 hc hs
  obtain ⟨h4, h5⟩ := closed_settled_unregistered s (reachableNT_reachable s h) hc hs
  refine ⟨h1, h2, h3, h4, h5, ?_⟩
  rw [(reachable_struct s (reachableNT_reachable s h)).gauge, h2]; rfl

/-- the executable form of the statement used by the explorer and the oracle -/
theorem closed_settled_c05Ok (s : State) (h : ReachableNT s) (hs : s.settled) : c05Ok s = true := by
  unfold c05Ok
  cases hst : s.status with
  | closed =>
    obtain ⟨h1, h2, h3, h4, h5, h6⟩ := closed_settled_empty s h hst hs
    simp [h1, h2, h3, h4, h5, h6]
  | connecting => simp
  | connected => simp

/-- the hypotheses are satisfiable: a subscribe completed, then close() ran to the end -/
example : ∃ s, ReachableNT s ∧ s.status = .closed ∧ s.settled ∧ s.log ≠ [] :=
  ⟨_, ⟨[.spawn .csub 0 ⟨true, true⟩, .step 0 .ok, .step 0 .ok, .step 0 .ok, .step 0 .ok, .step 0 .ok, .step 0 .ok,
      .step 0 .ok, .step 0 .ok, .step 0 .ok, .step 0 .ok, .step 0 .ok, .spawn .close 0 ⟨false, false⟩,
      .step 1 .ok, .step 1 .ok, .step 1 .ok, .step 1 .ok, .step 1 .ok, .step 1 (.pick 0), .step 1 .ok, .step 1 .ok,
      .step 1 .ok, .step 1 .ok, .step 1 .ok, .step 1 .ok, .step 1 .ok, .step 1 .ok, .step 1 .ok], by decide, rfl⟩,
    by decide, by decide, by decide⟩

/-- with the wait-gate timeout the model reaches a closed, settled state that still holds a presence
entry of the connection -/
theorem closed_settled_empty_fails_with_timeout :
    (run State.init wPresenceSurvives).map (fun s => (s.status, settledB s, s.presence, c05Ok s)) =
      some (.closed, true, [0], false) := by decide

/-- … and so does the execution the check replays on the implementation (finding C05-1) -/
theorem closed_settled_empty_fails_with_timeout_replayed :
    (run State.init wPresenceSurvivesAdopt).map (fun s => (s.status, settledB s, s.presence, s.hub.length, s.channels.length, c05Ok s)) =
      some (.closed, true, [0], 0, 0, false) := by decide

end CentrifugeVerif.SubProto
