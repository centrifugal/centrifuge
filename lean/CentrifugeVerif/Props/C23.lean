import CentrifugeVerif.Proofs.RedisMapRead
import CentrifugeVerif.Gen.Lua.BrokerHistoryStream
/-!
# C23 — Redis and Memory map brokers agree (Redis half: theorems about the translated scripts)

Level: **partial**.  The agreement of the two map brokers is established by the differential run of
`props/C23/check.py` (the real `RedisMapBroker` over the Redis model behind a fake endpoint vs. the real
`MemoryMapBroker`); the full statement
`theorem redis_map_sim_memory : ∀ ops, Agree (runRedisMap ops) (MapHub.runOut ops)` is **not** proved.

Proved here, for all keys, argument strings and states of the (trusted) Redis model, about the
translated `map_broker_stream_read.lua`:

* `map_stream_read_creates_epoch_and_wipes_stream` — when the meta hash has no epoch, the script stores
  `new_epoch_if_empty`, reports top offset 0 **and deletes the stream key** before reading, so entries of
  a dead epoch are never returned (contrast: `stream_broker_read_keeps_old_entries`, finding C18-11,
  where `broker_history_stream.lua` lacks the `DEL`);
* `map_stream_read_keeps_epoch` — an existing epoch is never replaced by a read and nothing is written
  by the epoch step.

Decided witnesses: the Lua number formatting facts behind findings C23-11 / C23-12.
-/
namespace CentrifugeVerif.C23
open CentrifugeVerif CentrifugeVerif.Redis CentrifugeVerif.Lua CentrifugeVerif.LuaRedis CentrifugeVerif.Gen.Lua
open CentrifugeVerif.MapRead

/-- No epoch in the meta hash: the epoch is created from `new_epoch_if_empty`, the top offset is 0 and
the stream key is deleted before anything is read. -/
theorem map_stream_read_creates_epoch_and_wipes_stream (sk mk : String) (a : ReadArgs) (s : Redis)
    (hm : List (String × String)) (hk : HashAt s mk hm) (he : hlookup hm "e" = none) :
    run (map_broker_stream_read (keys2 sk mk) a.argv) s
      = run (P2 sk mk a (.tbl [.bool false, respToLua (optBulk (hlookup hm "s"))]) (.str a.fresh) (.num 0))
          ((putHash s mk (hset1 hm "e" a.fresh)).put sk none) := by
  -- eight reads of `KEYS`/`ARGV`, `HMGET`, two reads of its reply
  iterate 8 refine (run_liftE_bind _ rfl).trans ?_
  refine (run_call_bind _ (call_hmget2 hk "e" "s")).trans ?_
  rw [he]
  iterate 2 refine (run_liftE_bind _ rfl).trans ?_
  exact (run_call_bind _ (call_hset1 hk "e" a.fresh)).trans (run_call_bind _ (call_del1 _ sk))

/-- An existing epoch is kept; the epoch step writes nothing. -/
theorem map_stream_read_keeps_epoch (sk mk : String) (a : ReadArgs) (s : Redis)
    (hm : List (String × String)) (e : String) (hk : HashAt s mk hm) (he : hlookup hm "e" = some e) :
    run (map_broker_stream_read (keys2 sk mk) a.argv) s
      = run (P2 sk mk a (.tbl [.str e, respToLua (optBulk (hlookup hm "s"))]) (.str e)
              (respToLua (optBulk (hlookup hm "s")))) s := by
  iterate 8 refine (run_liftE_bind _ rfl).trans ?_
  refine (run_call_bind _ (call_hmget2 hk "e" "s")).trans ?_
  rw [he]
  rfl

/-- the hypotheses are satisfiable -/
example : HashAt ({} : Redis) "m" [] ∧ hlookup ([] : List (String × String)) "e" = none := ⟨rfl, rfl⟩

/-! ### witnesses -/

/-- C18-11 vs. the map script: after the meta hash is gone, `broker_history_stream.lua` still returns the
old entry (offset 1) under the new epoch with top offset 0 … -/
theorem stream_broker_read_keeps_old_entries :
    let s : Redis := { db := fun k => if k = "s" then some ⟨.stream [⟨1, 0, ["d", "p"]⟩] 1 0, none⟩ else none }
    (runScript broker_history_stream ["s", "m"] ["1", "0", "0", "0", "0", "E2"] 1000 s).1.toOption.map
        (fun r => match r with | .arr [.int t, .bulk e, .arr l] => (t, e, l.length) | _ => (0, "", 0))
      = some (0, "E2", 1) := by decide +kernel

/-- … while `map_broker_stream_read.lua` returns nothing. -/
theorem map_stream_read_returns_nothing_after_meta_loss :
    let s : Redis := { db := fun k => if k = "s" then some ⟨.stream [⟨1, 0, ["d", "p"]⟩] 1 0, none⟩ else none }
    (runScript map_broker_stream_read ["s", "m"] ["1", "-", "0", "0", "0", "E2"] 1000 s).1.toOption.map
        (fun r => match r with | .arr [.int t, .bulk e, .arr l] => (t, e, l.length) | _ => (9, "", 9))
      = some (0, "E2", 0) := by decide +kernel

/-- C23-12 / C21 (Redis half): the ordered cursor is built with `tostring(score)` = `"%.14g"`: the score
100000000000001 becomes `"1e+14"`, which reads back as a different number. -/
theorem ordered_cursor_loses_precision :
    fmtG14 100000000000001 = "1e+14" ∧
    tonumber (.str "1e+14") = (.ok (.num 100000000000000) : Except LuaErr LVal) := ⟨by decide, by rfl⟩

/-- C23-11: per-key versions above 2^53 collide. -/
theorem map_version_collision :
    tonumber (.str "9007199254740993") = tonumber (.str "9007199254740992") :=
  tonumber_collision_2_53

end CentrifugeVerif.C23
