import CentrifugeVerif.Model.FilterPaths
/-!
# C16 — tags filters are enforced on every delivery path

One theorem per delivery path, all of the shape "every delivered publication passes BOTH the server
tags filter and the client tags filter" (for live pushes: when the subscription does not use
delta — the code deliberately delivers filtered publications to delta subscribers to keep the delta
chain intact), for every filter predicate `pass` (C15's `Match` is a parameter), every filter pair
(`none` = not configured) and every publication list.  Plus `server_filter_change_invalidates_map`.
The tie of these functions to the source is Props/C16Paths.lean (regenerated call sites) and the
differential run of props/C16.
-/
namespace CentrifugeVerif.C16
open CentrifugeVerif.FilterPaths

variable {F T : Type}

/-- the property's predicate: not excluded by either filter -/
def Passes (pass : F → T → Bool) (sf cf : Option F) (p : Pub T) : Prop :=
  ok pass sf p.tags = true ∧ ok pass cf p.tags = true

theorem not_wasFiltered_iff (pass : F → T → Bool) (sf cf : Option F) (p : Pub T) :
    (!wasFiltered pass sf cf p.tags) = true ↔ Passes pass sf cf p := by
  unfold wasFiltered Passes
  cases ok pass sf p.tags <;> cases ok pass cf p.tags <;> simp

theorem not_excluded_iff (pass : F → T → Bool) (sf cf : Option F) (p : Pub T) :
    (!(!(ok pass sf p.tags) || !(ok pass cf p.tags))) = true ↔ Passes pass sf cf p := by
  unfold Passes
  cases ok pass sf p.tags <;> cases ok pass cf p.tags <;> simp

/-- hub decision: a subscription without delta gets a push only for publications passing both
filters; a withheld publication is exactly one that some filter excludes -/
theorem hub_push_iff (pass : F → T → Bool) (sf cf : Option F) (p : Pub T) :
    hubDecision pass sf cf false p = .push ↔ Passes pass sf cf p := by
  unfold hubDecision
  rw [← not_wasFiltered_iff]
  cases wasFiltered pass sf cf p.tags <;> simp

theorem mem_live (pass : F → T → Bool) (sf cf : Option F) (ps : List (Pub T)) (p : Pub T) :
    p ∈ live pass sf cf false ps ↔ p ∈ ps ∧ Passes pass sf cf p := by
  simp only [live, List.mem_filter, decide_eq_true_eq, hub_push_iff]

theorem live_filtered (pass : F → T → Bool) (sf cf : Option F) (ps : List (Pub T)) :
    ∀ p ∈ live pass sf cf false ps, Passes pass sf cf p :=
  fun p hp => ((mem_live pass sf cf ps p).1 hp).2

/-- … and nothing that passes is withheld (the filtered marker is only for excluded ones) -/
theorem live_complete (pass : F → T → Bool) (sf cf : Option F) (ps : List (Pub T)) (p : Pub T)
    (hp : p ∈ ps) (hpass : Passes pass sf cf p) : p ∈ live pass sf cf false ps :=
  (mem_live pass sf cf ps p).2 ⟨hp, hpass⟩

/-- delta subscribers get everything (why the property is stated for subscriptions without delta) -/
theorem live_delta_unfiltered (pass : F → T → Bool) (sf cf : Option F) (ps : List (Pub T)) :
    live pass sf cf true ps = ps := by
  simp [live, hubDecision]

theorem stream_recovery_filtered (pass : F → T → Bool) (sf cf : Option F) (hist buffered : List (Pub T)) :
    ∀ p ∈ streamRecovery pass sf cf hist buffered, Passes pass sf cf p := by
  intro p hp
  simp only [streamRecovery, List.mem_append, List.mem_filter, not_excluded_iff,
    not_wasFiltered_iff] at hp
  exact hp.elim And.right And.right

theorem cache_recovery_filtered (pass : F → T → Bool) (sf cf : Option F) (rev : List (Pub T)) (p : Pub T)
    (h : cacheRecovery pass sf cf rev = some p) : Passes pass sf cf p := by
  unfold cacheRecovery at h
  split at h
  · exact ⟨rfl, rfl⟩
  · have := List.find?_some h
    exact (not_excluded_iff pass sf cf p).1 this

/-- the cache-mode subscribe reply (recovered publication merged with the window, last one only) -/
theorem cache_reply_filtered (pass : F → T → Bool) (sf cf : Option F) (rev buffered : List (Pub T)) :
    ∀ p ∈ cacheReply pass sf cf rev buffered, Passes pass sf cf p := by
  intro p hp
  unfold cacheReply at hp
  simp only at hp
  split at hp
  · next q hlast =>
    rw [List.mem_singleton] at hp
    subst hp
    have hmem := List.mem_of_getLast? hlast
    rw [List.mem_append, Option.mem_toList, List.mem_filter, not_wasFiltered_iff] at hmem
    exact hmem.elim (cache_recovery_filtered pass sf cf rev p) And.right
  · cases hp

theorem mem_mapPage (pass : F → T → Bool) (sf cf : Option F) (ps : List (Pub T)) (p : Pub T) :
    p ∈ mapPage pass sf cf ps ↔ p ∈ ps ∧ Passes pass sf cf p := by
  simp only [mapPage, List.mem_filter, Passes, and_assoc]

theorem map_state_page_filtered (pass : F → T → Bool) (sf cf : Option F) (ps : List (Pub T)) :
    ∀ p ∈ mapPage pass sf cf ps, Passes pass sf cf p :=
  fun p hp => ((mem_mapPage pass sf cf ps p).1 hp).2

/-- stream pages use the same two loops (`handleMapStreamPhase`) -/
theorem map_stream_page_filtered (pass : F → T → Bool) (sf cf : Option F) (ps : List (Pub T)) :
    ∀ p ∈ mapPage pass sf cf ps, Passes pass sf cf p := map_state_page_filtered pass sf cf ps

theorem map_live_transition_filtered (pass : F → T → Bool) (sf cf : Option F) (state stream buffered : List (Pub T)) :
    (∀ p ∈ (mapTransition pass sf cf state stream buffered).1, Passes pass sf cf p) ∧
    (∀ p ∈ (mapTransition pass sf cf state stream buffered).2, Passes pass sf cf p) :=
  ⟨map_state_page_filtered pass sf cf state, map_state_page_filtered pass sf cf _⟩

theorem streamless_buffered_filtered (pass : F → T → Bool) (sf cf : Option F) (buffered : List (Pub T)) :
    ∀ p ∈ streamlessBuffered pass sf cf buffered, Passes pass sf cf p :=
  map_state_page_filtered pass sf cf _

/-- completeness of the page loops: nothing that passes both filters is dropped -/
theorem mapPage_complete (pass : F → T → Bool) (sf cf : Option F) (ps : List (Pub T)) (p : Pub T)
    (hp : p ∈ ps) (hpass : Passes pass sf cf p) : p ∈ mapPage pass sf cf ps :=
  (mem_mapPage pass sf cf ps p).2 ⟨hp, hpass⟩

/-- **server_filter_change_invalidates_map**: a sub-refresh that carries a server tags filter whose
hash differs from the one in the hub (or when there was none) unsubscribes a map subscription with
state-invalidated; an equal hash, or a stream subscription, gets the normal reply, and the hub entry
holds the new filter afterwards in every case where one was supplied. -/
theorem server_filter_change_invalidates_map {H : Type} [DecidableEq H] (cur : Option H) (new : H) :
    ((subRefresh true cur (some new)).2 = .unsubscribedInvalidated ↔ cur ≠ some new) ∧
    (subRefresh false cur (some new)).2 = .replied ∧
    (subRefresh true cur (some new)).1 = some new ∧ (subRefresh false cur (some new)).1 = some new := by
  cases cur with
  | none => simp [subRefresh, updateServerFilter]
  | some h => by_cases hh : h = new <;> simp [subRefresh, updateServerFilter, hh]

/-- quirk kept by the model: a refresh reply WITHOUT a server filter never clears an existing one -/
theorem refresh_without_filter_keeps {H : Type} [DecidableEq H] (isMap : Bool) (cur : Option H) :
    subRefresh isMap cur (none : Option H) = (cur, .replied) := rfl

/-- non-trivial instance: tags = (a, b), filters = required value of a / of b -/
example : (live (fun (f : Nat × Nat) (t : Nat × Nat) => if f.1 = 0 then t.1 == f.2 else t.2 == f.2)
    (some (0, 1)) (some (1, 2)) false
    [{ id := 0, tags := (1, 2) }, { id := 1, tags := (1, 3) }, { id := 2, tags := (0, 2) }]).map (·.id) = [0] := by decide

end CentrifugeVerif.C16
