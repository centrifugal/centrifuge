import CentrifugeVerif.Proofs.Live
import CentrifugeVerif.Proofs.SubReply
import CentrifugeVerif.Proofs.Sync
import CentrifugeVerif.Props.C39
/-!
# C01 — positioned stream delivery is gap-free, duplicate-free and ordered

Part (a): the live path (`writePublicationUpdatePosition`), for EVERY sequence of incoming
deliveries (any offsets, epochs, lag flags — i.e. every drop / duplicate / reorder / delay fault
sequence of the PUB/SUB layer).
Part (b): the subscribe reply (history read + publications buffered during the subscribe).
Part (c): the interleaving of the subscribe sequence with the channel's broadcaster
(`PubSubSync`), as invariants of the transition system `Model/Sync.lean` — every reachable state of
every interleaving, for arbitrary deliveries arriving at arbitrary moments.
-/
namespace CentrifugeVerif.C01
open CentrifugeVerif.Live CentrifugeVerif.SubReply CentrifugeVerif.Merge

/-! ## (a) live path -/

/-- The offsets the position moves over (pushed, or withheld by the tags filter) are exactly
`pos+1, pos+2, …` in order, with no gap and no repetition, and the final position is the last of
them — whatever arrives from the broker, in whatever order. -/
theorem live_contiguous (s : Sub) (incs : List Inc) :
    consumed (run s incs).2 = List.range' (s.pos + 1) (consumed (run s incs).2).length ∧
    (run s incs).1.pos = s.pos + (consumed (run s incs).2).length := by
  obtain ⟨n, hp, hc⟩ := run_contiguous s incs
  rw [hc, List.length_range']
  exact ⟨rfl, hp⟩

/-- Pushed offsets strictly increase (no duplicate, no reordering reaches the client). -/
theorem live_delivered_increasing (s : Sub) (incs : List Inc) :
    (delivered (run s incs).2).Pairwise (· < ·) := by
  obtain ⟨n, _, hc⟩ := run_contiguous s incs
  exact List.Pairwise.sublist (hc ▸ delivered_sublist_consumed _) List.pairwise_lt_range'

/-- Every pushed offset lies above the position the subscription started from. -/
theorem live_delivered_above (s : Sub) (incs : List Inc) :
    ∀ o ∈ delivered (run s incs).2, s.pos < o := by
  intro o ho
  obtain ⟨n, _, hc⟩ := run_contiguous s incs
  have := List.mem_range'_1.mp (hc ▸ (delivered_sublist_consumed _).subset ho)
  omega

/-- A delivery is pushed only if it is exactly the next offset, not lagging, in the
subscription's epoch (or the subscription had no epoch yet) and not withheld by the filter. -/
theorem live_deliver_only_next (s : Sub) (i : Inc) (o : Nat)
    (h : (liveStep s i).2 = .deliver o) :
    o = s.pos + 1 ∧ i.offset = o ∧ i.lag = false ∧ (i.epoch = s.epoch ∨ s.epoch = 0) ∧ i.filtered = false := by
  rcases liveStep_spec s i with ⟨_, hs⟩ | ⟨_, _, _, hs⟩ |
    ⟨hl, he, ⟨_, hs⟩ | ⟨_, hs⟩ | ⟨_, _, hs⟩ | ⟨ho, hf, hs⟩⟩ <;> rw [hs] at h <;> cases h
  exact ⟨rfl, ho, hl, he, hf⟩

/-- Excessive PUB/SUB lag ends in insufficient state; nothing is consumed. -/
theorem live_lag_insufficient (s : Sub) (i : Inc) (h : i.lag = true) :
    liveStep s i = (s, .insufficient .lag) := by
  simp [liveStep, h]

/-- An epoch change ends in insufficient state; nothing is consumed. -/
theorem live_epoch_change_insufficient (s : Sub) (i : Inc) (hl : i.lag = false)
    (he : i.epoch ≠ s.epoch) (h0 : s.epoch ≠ 0) :
    liveStep s i = (s, .insufficient .epoch) := by
  simp [liveStep, hl, he, h0]

/-- A gap (offset beyond the next expected one) ends in insufficient state instead of being
delivered; the position does not move past the gap. -/
theorem live_gap_insufficient (s : Sub) (i : Inc) (hl : i.lag = false)
    (he : i.epoch = s.epoch) (hg : i.offset > s.pos + 1) :
    (liveStep s i).2 = .insufficient .offset ∧ (liveStep s i).1.pos = s.pos := by
  simp [liveStep, hl, he, hg]

/-! non-vacuity / sanity -/
example : (run ⟨5, 1⟩ [⟨6, 1, false, false⟩, ⟨6, 1, false, false⟩, ⟨7, 1, false, true⟩, ⟨9, 1, false, false⟩,
    ⟨8, 1, false, false⟩]).2 =
    [.deliver 6, .skipOld, .advanceFiltered 7, .insufficient .offset, .deliver 8] := by decide

/-! ## (b) subscribe reply -/

/-- What a correct stream broker returns for `since`: a run of consecutive offsets (possibly
trimmed or limited — `isStreamRecovered` then refuses). This is C17's stream invariant. -/
def BrokerContig (h : Hist) : Prop :=
  ∃ a, h.pubs.map (·.offset) = List.range' a h.pubs.length

/-- Fault-freeness of the PUB/SUB deliveries that land inside the subscribe window: no hole
above the history top.  (Stale deliveries — offsets at or below the requested one — are allowed:
since fix c43e0c0e "recovery does not deliver again a publication the client already has" they are
dropped from the reply, see `dropStale`.) -/
structure WindowOK (req : Req) (h : Hist) (buffered : List MPub) : Prop where
  gapFree : ∀ b ∈ buffered, ∀ o, h.top < o → o < b.offset → o ∈ buffered.map (·.offset)

theorem subscribe_reply {req : Req} {h : Hist} {buffered pubs : List MPub} {r : Bool} {off pos e : Nat}
    (hs : subscribe req h buffered = .reply r pubs off pos e) :
    (r = false ∧ pubs = [] ∧ off = pos) ∨
    ∃ merged maxSeen, r = true ∧ recoveredOK h req.offset = true ∧
      merge (toMPubs 0 h.pubs) buffered = some (merged, maxSeen) ∧
      pubs = dropStale req.offset buffered merged ∧ off = req.offset ∧
      pos = latestOf h.top pubs maxSeen := by
  unfold subscribe at hs
  split at hs
  · cases hs
  rename_i d hd
  unfold finish at hs
  split at hs
  · cases hs
  rename_i merged maxSeen hm
  cases d with
  | none =>
    simp only [Option.isSome_none, Bool.false_eq_true, if_false, Outcome.reply.injEq] at hs
    exact .inl ⟨hs.1.symm, hs.2.1.symm, hs.2.2.1.symm.trans hs.2.2.2.1⟩
  | some l =>
    obtain ⟨rfl, hok⟩ := recDecision_recovered hd
    simp only [Option.isSome_some, if_true, Outcome.reply.injEq] at hs
    obtain ⟨rfl, rfl, rfl, rfl, -⟩ := hs
    exact .inr ⟨merged, maxSeen, rfl, hok, hm, rfl, rfl, rfl⟩

theorem recovered_hist_offsets {h : Hist} {since : Nat} (hb : BrokerContig h)
    (hok : recoveredOK h since = true) (o : Nat) :
    o ∈ (toMPubs 0 h.pubs).map (·.offset) ↔ since < o ∧ o ≤ h.top := by
  obtain ⟨a, ha⟩ := hb
  rw [toMPubs_offsets, ha]
  unfold recoveredOK at hok
  cases hp : h.pubs with
  | nil =>
    rw [hp] at hok
    simp only [beq_iff_eq] at hok
    simp only [List.length_nil, List.range'_zero, List.not_mem_nil, false_iff]
    omega
  | cons p ps =>
    rw [hp] at hok ha
    simp only [Bool.and_eq_true, beq_iff_eq] at hok
    have ha0 : p.offset = a := by simpa [List.range'_succ] using congrArg List.head? ha
    have hlast : (List.range' a (ps.length + 1)).getLast? = some h.top := by
      rw [← List.length_cons, ← ha, List.getLast?_map]
      exact hok.2
    have := range'_last a (ps.length + 1) h.top (by omega) hlast
    rw [List.mem_range'_1, List.length_cons]
    omega

/-- Without recovery (or when recovery is refused) the reply carries no publications and the
client is positioned at the committed stream position. -/
theorem reply_not_recovered_empty (req : Req) (h : Hist) (buffered pubs : List MPub) (off pos e : Nat)
    (hs : subscribe req h buffered = .reply false pubs off pos e) : pubs = [] ∧ off = pos :=
  (subscribe_reply hs).elim (·.2) fun ⟨_, _, h, _⟩ => nomatch h

/-- FULL STATEMENT (not provable for the current code, see the counter-witnesses below): for
every buffered list, a recovered reply covers `(req.offset, pos]` exactly once, in order.
PROVED PART: the same under `WindowOK` (no missing in-window delivery above the history top);
stale and duplicated in-window deliveries are covered. -/
theorem reply_contiguous_partial (req : Req) (h : Hist) (buffered pubs : List MPub) (off pos e : Nat)
    (hb : BrokerContig h) (hw : WindowOK req h buffered)
    (hs : subscribe req h buffered = .reply true pubs off pos e) :
    off = req.offset ∧
    pubs.Pairwise (fun x y => x.offset < y.offset) ∧
    (∀ p ∈ pubs, p.filtered = false ∧ req.offset < p.offset ∧ p.offset ≤ pos) ∧
    (∀ o, req.offset < o → o ≤ pos →
      o ∈ pubs.map (·.offset) ∨ o ∈ fOffsets (toMPubs 0 h.pubs ++ buffered)) := by
  obtain ⟨hr, _⟩ | ⟨merged, maxSeen, -, hok, hm, rfl, rfl, rfl⟩ := subscribe_reply hs
  · cases hr
  have hhist := recovered_hist_offsets hb hok
  have hnp := merge_no_placeholder _ _ _ _ hm
  obtain ⟨hle, hatt⟩ := merge_max_seen _ _ _ _ hm
  -- history entries are never stale
  have hmemP : ∀ p, p ∈ dropStale req.offset buffered merged ↔ p ∈ merged ∧ req.offset < p.offset :=
    fun p => mem_dropStale fun hbe p hp => by
      have := (hnp p hp).2
      rw [hbe, List.append_nil] at this
      exact ((hhist p.offset).mp (List.mem_map_of_mem this)).1
  have hpos : latestOf h.top (dropStale req.offset buffered merged) maxSeen = max h.top maxSeen :=
    latestOf_eq_max fun p hp => hle p (hnp p ((hmemP p).mp hp).1).2
  rw [hpos]
  refine ⟨rfl, (merge_sorted_nodup _ _ _ _ hm).sublist (dropStale_sublist _ _ _), ?_, ?_⟩
  · intro p hp
    obtain ⟨hpm, hgt⟩ := (hmemP p).mp hp
    exact ⟨(hnp p hpm).1, hgt, Nat.le_trans (hle p (hnp p hpm).2) (Nat.le_max_right _ _)⟩
  · intro o ho1 ho2
    -- above the history top `maxSeen` is attained by a buffered entry; below that the window has no hole
    have hin : ∃ p ∈ toMPubs 0 h.pubs ++ buffered, p.offset = o := by
      by_cases hot : o ≤ h.top
      · obtain ⟨m, hm', hmo⟩ := List.mem_map.mp ((hhist o).mpr ⟨ho1, hot⟩)
        exact ⟨m, List.mem_append_left _ hm', hmo⟩
      · rcases hatt with h0 | ⟨p, hp, hpm⟩
        · omega
        · by_cases hop : o = p.offset
          · exact ⟨p, hp, hop.symm⟩
          · rcases List.mem_append.mp hp with hp' | hp'
            · have := ((hhist p.offset).mp (List.mem_map_of_mem hp')).2
              omega
            · obtain ⟨b, hb', hbo⟩ := List.mem_map.mp (hw.gapFree p hp' o (by omega) (by omega))
              exact ⟨b, List.mem_append_right _ hb', hbo⟩
    obtain ⟨p, hp, rfl⟩ := hin
    cases hf : p.filtered
    · left
      obtain ⟨q, hq, hqo⟩ := List.mem_map.mp
        ((merge_set _ _ _ _ hm p.offset).mpr ((mem_nfOffsets _ _).mpr ⟨p, hp, hf, rfl⟩))
      exact List.mem_map.mpr ⟨q, (hmemP q).mpr ⟨hq, hqo ▸ ho1⟩, hqo⟩
    · right
      simp only [fOffsets, List.mem_map, List.mem_filter]
      exact ⟨p, ⟨hp, hf⟩, rfl⟩

/-! ### Counter-witnesses: why the full statement fails for the current code
(each is replayed on the real `subscribeCmd` by the check; see known findings C01-1a/b/c). -/

/-- C01-1 (leading hole): client at 10, history top 10, an in-window delivery of offset 13 —
the reply says recovered and carries only 13; 11 and 12 are silently skipped. -/
example : subscribe ⟨true, false, 10, 1⟩ ⟨[], 10, 1⟩ [⟨13, false, 0⟩] =
    .reply true [⟨13, false, 0⟩] 10 13 1 := by decide

/-- C01-1 (trailing hole): recovered 6..10, in-window delivery 12 withheld by the filter —
position jumps to 12 although 11 was never seen. -/
example : subscribe ⟨true, false, 9, 1⟩ ⟨[⟨10, false⟩], 10, 1⟩ [⟨12, true, 1⟩] =
    .reply true [⟨10, false, 0⟩] 9 12 1 := by decide

/-- C01-2, FIXED in the repository ("fix: recovery does not deliver again a publication the
client already has"): the client holds 10; the lagging PUB/SUB copy of 10 that lands inside the
subscribe window is no longer delivered again (before the fix the reply carried `[10]`). -/
example : subscribe ⟨true, false, 10, 1⟩ ⟨[], 10, 1⟩ [⟨10, false, 0⟩] =
    .reply true [] 10 10 1 := by decide

/-- non-vacuity of `reply_contiguous_partial`: a recovered reply with overlap, a filtered
history entry and in-window continuation satisfies the hypotheses. -/
example : BrokerContig ⟨[⟨6, false⟩, ⟨7, true⟩, ⟨8, false⟩], 8, 1⟩ := ⟨6, by decide⟩
example : WindowOK ⟨true, false, 5, 1⟩ ⟨[⟨6, false⟩, ⟨7, true⟩, ⟨8, false⟩], 8, 1⟩
    [⟨8, false, 3⟩, ⟨9, false, 4⟩] :=
  ⟨by
    intro b hb o h1 h2
    simp only [List.mem_cons, List.not_mem_nil, or_false] at hb
    rcases hb with rfl | rfl <;> exact absurd h2 (by dsimp only at h1 ⊢; omega)⟩
example : subscribe ⟨true, false, 5, 1⟩ ⟨[⟨6, false⟩, ⟨7, true⟩, ⟨8, false⟩], 8, 1⟩
    [⟨8, false, 3⟩, ⟨9, false, 4⟩] =
    .reply true [⟨6, false, 0⟩, ⟨8, false, 2⟩, ⟨9, false, 4⟩] 5 9 1 := by decide

/-! ## (a)+(b): reply followed by live pushes -/

/-- End to end: after a recovered reply, the live phase continues exactly at `pos+1`; together
with `reply_contiguous_partial` every offset in `(req.offset, last]` is delivered or withheld. -/
theorem reply_then_live_contiguous (req : Req) (h : Hist) (buffered pubs : List MPub) (off pos e : Nat)
    (_hs : subscribe req h buffered = .reply true pubs off pos e) (incs : List Inc) :
    consumed (run ⟨pos, e⟩ incs).2 = List.range' (pos + 1) (consumed (run ⟨pos, e⟩ incs).2).length :=
  (live_contiguous ⟨pos, e⟩ incs).1

/-! ## (c) interleavings of subscribe and broadcast (`PubSubSync`) -/
open CentrifugeVerif.Sync in
/-- The subscribe reply is the first thing the client sees for the channel; everything after it
is a publication push or the insufficient-state signal. -/
theorem sync_reply_first (req : Req) (hist : Hist) (s : St) (h : Reachable req hist s) :
    s.log = [] ∨ ∃ r pubs off rest, s.log = .reply r pubs off :: rest ∧
      ∀ ev ∈ rest, (∃ o, ev = .push o) ∨ ev = .insufficient := by
  rcases (inv_reachable h).seen with ⟨hl, _⟩ | ⟨r, pubs, off, _, _, rest, _, _, hl, hr, _⟩
  · exact .inl hl
  · exact .inr ⟨r, pubs, off, rest, hl, hr⟩

open CentrifugeVerif.Sync in
/-- In every reachable state of every interleaving the live pushes are a sublist of
`pos+1, …, pos+n`, where `pos` is the position committed with the reply and `pos+n` the current
position: strictly increasing, above the reply's position, and the position never moved over an
offset that was not consumed. -/
theorem sync_pushes_contiguous (req : Req) (hist : Hist) (s : St) (h : Reachable req hist s)
    (r : Bool) (pubs : List MPub) (off pos e : Nat)
    (hr : subscribe req hist s.taken = .reply r pubs off pos e) :
    ∃ n, (pushes s.log).Sublist (List.range' (pos + 1) n) ∧
      (s.sub = none ∨ ∃ ep, s.sub = some ⟨pos + n, ep⟩) := by
  rcases (inv_reachable h).seen with ⟨hl, hs⟩ | ⟨_, _, _, pos', _, rest, n, h1, hl, _, hsl, hs⟩
  · exact ⟨0, by simp [hl, pushes], .inl hs⟩
  · rw [hr] at h1
    cases h1
    exact ⟨n, by simpa [hl, pushes] using hsl, hs.imp (·.1) id⟩

open CentrifugeVerif.Sync in
/-- No publication is pushed before the subscription is committed (hence none before the reply). -/
theorem sync_no_push_before_commit (req : Req) (hist : Hist) (s : St) (h : Reachable req hist s)
    (hn : s.sub = none) : pushes s.log = [] := by
  rcases (inv_reachable h).seen with ⟨hl, _⟩ | ⟨_, _, _, _, _, rest, n, _, hl, _, hsl, ⟨_, rfl⟩ | ⟨_, hs⟩⟩
  · simp [hl, pushes]
  · simpa [hl, pushes] using hsl
  · rw [hn] at hs
    cases hs

open CentrifugeVerif.Sync in
/-- The subscribe window loses nothing: unless the subscribe itself failed, a delivery routed to
the client after the hub add is never dropped for "not subscribed yet" — it is buffered (and merged
into the reply) or applied against the committed position. -/
theorem sync_no_window_drop (req : Req) (hist : Hist) (s : St) (h : Reachable req hist s)
    (hf : s.spc ≠ .failed) : s.dropped = [] :=
  (inv_reachable h).dropped hf

open CentrifugeVerif.Sync in
/-- A broadcaster reaches the live path only after `StopBuffering` (or after a failed subscribe):
while the subscribe is in flight every routed delivery is parked or buffered. -/
theorem sync_live_only_after_stop (req : Req) (hist : Hist) (s : St) (h : Reachable req hist s)
    (d : Inc) (hb : s.bpc = .live d) : s.spc = .s7 ∨ s.spc = .failed :=
  (inv_reachable h).afterStop d hb

open CentrifugeVerif.Sync in
/-- END TO END, every interleaving: whatever the broadcaster delivers and whenever, what the client
has seen for the channel is the subscribe reply — covering `(req.offset, pos]` exactly once, in
order, up to offsets withheld by the tags filter — followed by live pushes that form a sublist of
`pos+1, pos+2, …` (no duplicate, no reordering, nothing before the reply), with the subscription's
position never ahead of what was consumed.  (`WindowOK`: no PUB/SUB loss inside the subscribe
window above the history top; without it the reply part fails, see the counter-witnesses.) -/
theorem sync_client_view_contiguous (req : Req) (hist : Hist) (s : St) (h : Reachable req hist s)
    (pubs : List MPub) (off pos e : Nat)
    (hr : subscribe req hist s.taken = .reply true pubs off pos e)
    (hb : BrokerContig hist) (hw : WindowOK req hist s.taken) :
    (s.log = [] ∨ ∃ rest, s.log = .reply true pubs off :: rest) ∧
    off = req.offset ∧
    pubs.Pairwise (fun x y => x.offset < y.offset) ∧
    (∀ p ∈ pubs, p.filtered = false ∧ req.offset < p.offset ∧ p.offset ≤ pos) ∧
    (∀ o, req.offset < o → o ≤ pos →
      o ∈ pubs.map (·.offset) ∨ o ∈ fOffsets (toMPubs 0 hist.pubs ++ s.taken)) ∧
    (∃ n, (pushes s.log).Sublist (List.range' (pos + 1) n) ∧
      (s.sub = none ∨ ∃ ep, s.sub = some ⟨pos + n, ep⟩)) := by
  obtain ⟨h1, h2, h3, h4⟩ := reply_contiguous_partial req hist s.taken pubs off pos e hb hw hr
  refine ⟨?_, h1, h2, h3, h4, sync_pushes_contiguous req hist s h true pubs off pos e hr⟩
  rcases (inv_reachable h).seen with ⟨hl, _⟩ | ⟨_, _, _, _, _, rest, _, h1', hl, _⟩
  · exact .inl hl
  · rw [hr] at h1'
    cases h1'
    exact .inr ⟨rest, hl⟩

/-! non-vacuity: a concrete interleaving with one buffered and one parked delivery reaches the
settled state, delivers the buffered publication in the reply and the parked one live. -/
open CentrifugeVerif.Sync in
example :
    (runLabels ⟨true, false, 5, 1⟩ ⟨[⟨6, false⟩], 6, 1⟩ {}
      [.sStart, .sHubAdd, .bStart ⟨7, 1, false, false⟩, .bCheck, .bLock, .sHist, .sLock,
       .bStart ⟨8, 1, false, false⟩, .bCheck, .sReply, .sCommit, .sStop, .bLock, .bLive]).map
      (fun s => (s.log, s.sub, s.dropped)) =
    some ([.reply true [⟨6, false, 0⟩, ⟨7, false, 0⟩] 5, .push 8], some ⟨8, 1⟩, []) := by decide

end CentrifugeVerif.C01
