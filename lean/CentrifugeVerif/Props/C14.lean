import CentrifugeVerif.Model.Delta
import CentrifugeVerif.Model.DeltaTok
import CentrifugeVerif.Proofs.Delta
/-!
# C14 — delta-encoded publications reconstruct the published data

All theorems are parametric in the codec (`create`, `apply`, `len`, `escape`, `unescape`) with the
hypotheses `RoundTrip` (`apply b (create b t) = some t`, sampled on every run against the real
`fdelta`) and `EscOK` (`unescape (escape x) = x`).  They hold for every payload sequence, every
`UseDelta` pattern and every outcome of the "patch not smaller ⇒ send full" test.

What is NOT true of the current code (decided counter-witnesses at the end, known findings):
* C14-1  `EscOK` fails for the JSON protocol on patches that are not valid UTF-8;
* C14-2  after a recovery whose newest publication was withheld by a tags filter the first live
         publication is a delta against the withheld publication;
* C14-3  a recovery with nothing to recover sets `flagDeltaAllowed` although the client may never
         have received the publication at its position;
* C14-4  a map subscription with a tags filter gets live deltas against state values it never got.
So the end-to-end statements carry the hypothesis that the client holds the base (`Chained`,
`MapChained`), and `stream_delta_reconstructs` derives it from C01's contiguity for unfiltered
positioned subscriptions.
-/
namespace CentrifugeVerif.C14
open CentrifugeVerif.Delta

variable {B : Type}

/-! ## stream subscriptions -/

theorem recovered_tail_reconstructs (c : Codec B) (hc : c.RoundTrip) (he : c.EscOK) (prev : B) (ps : List (Pub B)) :
    Client.recvAll c { held := some prev } (recoveredTail c prev ps) = some (ps.map (·.data)) := by
  induction ps generalizing prev with
  | nil => rfl
  | cons p ps ih => exact Client.recvAll_cons (recv_encodeAgainst c hc he _ _ p fun _ h => h) (ih p.data)

/-- the recovered list of `makeRecoveredPubsDeltaFossil` is reconstructed from ANY client state
(first publication full, every further one against its predecessor in the list) -/
theorem recovered_reconstructs (c : Codec B) (hc : c.RoundTrip) (he : c.EscOK) (held : Option B) (ps : List (Pub B)) :
    Client.recvAll c { held := held } (makeRecovered c ps) = some (ps.map (·.data)) := by
  cases ps with
  | nil => rfl
  | cons p ps =>
    exact Client.recvAll_cons (recv_encodeFull c he held p) (recovered_tail_reconstructs c hc he p.data ps)

/-- the base condition of a run of live publications: whenever the subscription is allowed to
receive a delta and the broker (or the channel medium) reported a previous publication, the client
holds exactly that payload.  With `flag = false` the first publication needs no base. -/
def Chained : Bool → Option B → List (Option B × Pub B) → Prop
  | _, _, [] => True
  | flag, held, (prev, p) :: rest =>
    (flag = true → ∀ b, prev = some b → held = some b) ∧ Chained true (some p.data) rest

/-- live pushes under the first-full rule: every push is reconstructed -/
theorem live_reconstructs (c : Codec B) (hc : c.RoundTrip) (he : c.EscOK) (flag : Bool) (held : Option B)
    (ls : List (Option B × Pub B)) (hch : Chained flag held ls) :
    Client.recvAll c { held := held } (liveRun c flag ls) = some (ls.map (·.2.data)) := by
  induction ls generalizing flag held with
  | nil => rfl
  | cons e rest ih =>
    obtain ⟨h1, h2⟩ := hch
    refine Client.recvAll_cons ?_ (ih true (some e.2.data) h2)
    cases flag with
    | false => exact recv_encodeFull c he held e.2
    | true => exact recv_encodeAgainst c hc he held e.1 e.2 (h1 rfl)

/-- subscribe reply with a recovered list followed by live pushes (`flagDeltaAllowed` set by the
successful recovery) -/
theorem recovered_then_live_reconstructs (c : Codec B) (hc : c.RoundTrip) (he : c.EscOK) (held : Option B)
    (rec : List (Pub B)) (ls : List (Option B × Pub B))
    (hch : Chained true (lastOr held (rec.map (·.data))) ls) :
    Client.recvAll c { held := held } (makeRecovered c rec ++ liveRun c true ls)
      = some (rec.map (·.data) ++ ls.map (·.2.data)) := by
  exact recvAll_append c (recovered_reconstructs c hc he held rec) (live_reconstructs c hc he true _ ls hch)

/-- publications `a+1 … a+n` of a stream whose payload at offset `o` is `s o` -/
def streamPubs (s : Nat → B) : Nat → Nat → List (Pub B)
  | _, 0 => []
  | a, n + 1 => { off := a + 1, data := s (a + 1) } :: streamPubs s (a + 1) n

/-- live deliveries `a+1 … a+m` as a broker with contiguous offsets reports them: `prevPub` is the
publication at the previous offset, or absent (`UseDelta` off, history trimmed/expired) -/
def streamLives (s : Nat → B) (u : Nat → Bool) : Nat → Nat → List (Option B × Pub B)
  | _, 0 => []
  | a, m + 1 => (if u (a + 1) then some (s a) else none, { off := a + 1, data := s (a + 1) }) :: streamLives s u (a + 1) m

theorem chained_streamLives (s : Nat → B) (u : Nat → Bool) (a m : Nat) :
    Chained true (some (s a)) (streamLives s u a m) := by
  induction m generalizing a with
  | zero => trivial
  | succ m ih =>
    refine ⟨?_, ih (a + 1)⟩
    intro _ b hb
    by_cases hu : u (a + 1) <;> simp [hu] at hb
    rw [hb]

theorem lastOr_streamPubs (s : Nat → B) (a n : Nat) (held : Option B) (hheld : n = 0 → held = some (s a)) :
    lastOr held ((streamPubs s a n).map (·.data)) = some (s (a + n)) := by
  induction n generalizing a held with
  | zero => exact hheld rfl
  | succ n ih =>
    show lastOr (some (s (a + 1))) ((streamPubs s (a + 1) n).map (·.data)) = some (s (a + (n + 1)))
    rw [ih (a + 1) _ fun _ => rfl, Nat.add_assoc, Nat.add_comm 1 n]

/-- **stream_delta_reconstructs** — positioned subscription without tags filter, C01's contiguity:
the client saved position `a`, the reply recovers offsets `a+1 … a+n`, then offsets
`a+n+1 … a+n+m` arrive live, each with `prevPub` = the publication one offset below (or none).
If the client holds the payload of its saved position whenever nothing is recovered (`n = 0`),
it reconstructs exactly the published payload of every offset, in order. -/
theorem stream_delta_reconstructs (c : Codec B) (hc : c.RoundTrip) (he : c.EscOK)
    (s : Nat → B) (u : Nat → Bool) (a n m : Nat) (held : Option B)
    (hheld : n = 0 → held = some (s a)) :
    Client.recvAll c { held := held } (makeRecovered c (streamPubs s a n) ++ liveRun c true (streamLives s u (a + n) m))
      = some ((streamPubs s a n).map (·.data) ++ (streamLives s u (a + n) m).map (·.2.data)) := by
  apply recovered_then_live_reconstructs c hc he
  rw [lastOr_streamPubs s a n held hheld]
  exact chained_streamLives s u (a + n) m

/-- fresh (not recovered) subscription: `flagDeltaAllowed` is unset, the first live publication is
sent in full whatever the client holds, the rest chains -/
theorem fresh_stream_reconstructs (c : Codec B) (hc : c.RoundTrip) (he : c.EscOK)
    (s : Nat → B) (u : Nat → Bool) (a m : Nat) (held : Option B) :
    Client.recvAll c { held := held } (liveRun c false (streamLives s u a m))
      = some ((streamLives s u a m).map (·.2.data)) := by
  apply live_reconstructs c hc he
  cases m with
  | zero => trivial
  | succ m => exact ⟨fun h => Bool.noConfusion h, chained_streamLives s u (a + 1) m⟩

/-- non-positioned subscription behind a channel medium with `KeepLatestPublication`: the delta base
is the medium's `latestPublication` (the previous broadcast on this node) when the publication was
published with `UseDelta`, else none -/
def mediumLives : Option B → List (Bool × Pub B) → List (Option B × Pub B)
  | _, [] => []
  | latest, (u, p) :: rest => (if u then latest else none, p) :: mediumLives (some p.data) rest

theorem chained_mediumLives (b : B) (ps : List (Bool × Pub B)) :
    Chained true (some b) (mediumLives (some b) ps) := by
  induction ps generalizing b with
  | nil => trivial
  | cons e rest ih =>
    obtain ⟨u, p⟩ := e
    refine ⟨?_, ih p.data⟩
    intro _ b' hb
    cases u <;> simp at hb
    rw [hb]

/-- a subscriber that joins at any moment (whatever the medium's latest publication and whatever the
client holds) and then receives every broadcast reconstructs every publication: first one full,
then deltas against the previous broadcast -/
theorem medium_stream_reconstructs (c : Codec B) (hc : c.RoundTrip) (he : c.EscOK)
    (latest held : Option B) (ps : List (Bool × Pub B)) :
    Client.recvAll c { held := held } (liveRun c false (mediumLives latest ps)) = some (ps.map (·.2.data)) := by
  have : (mediumLives latest ps).map (·.2.data) = ps.map (·.2.data) := by
    induction ps generalizing latest with
    | nil => rfl
    | cons e rest ih => obtain ⟨u, p⟩ := e; simp [mediumLives, ih]
  rw [← this]
  apply live_reconstructs c hc he
  cases ps with
  | nil => trivial
  | cons e rest =>
    obtain ⟨u, p⟩ := e
    exact ⟨fun h => Bool.noConfusion h, chained_mediumLives p.data rest⟩

/-- the hypotheses of `stream_delta_reconstructs` are satisfiable by a codec that really patches:
`create b t = []` when `t = b`, else `0 :: t`. -/
def exCodec : Codec (List Nat) where
  create := fun b t => if b = t then [] else 0 :: t
  apply := fun b d => match d with | [] => some b | _ :: t => some t
  len := List.length
  escape := id
  unescape := id

theorem exCodec_ok : exCodec.RoundTrip ∧ exCodec.EscOK := by
  refine ⟨?_, fun _ => rfl⟩
  intro b t
  by_cases h : b = t <;> simp [exCodec, h]

example : (makeRecovered exCodec (streamPubs (fun o => [o / 2]) 0 3)).map (·.delta) = [false, false, true] := by decide

/-! ## full payload whenever there is no base -/

theorem full_when_flag_unset (c : Codec B) (prev : Option B) (p : Pub B) :
    (liveStep c false prev p).1.delta = false ∧ (liveStep c false prev p).1.data = c.escape p.data := by
  simp [liveStep, encodeFull, encodeAgainst]

theorem full_when_no_prev (c : Codec B) (flag : Bool) (p : Pub B) :
    (liveStep c flag none p).1.delta = false ∧ (liveStep c flag none p).1.data = c.escape p.data := by
  cases flag <;> simp [liveStep, encodeFull, encodeAgainst]

theorem full_first_recovered (c : Codec B) (p : Pub B) (ps : List (Pub B)) :
    ((makeRecovered c (p :: ps)).head?.map (·.delta)) = some false := by
  simp [makeRecovered, encodeFull, encodeAgainst]

theorem full_when_patch_not_smaller (c : Codec B) (b : B) (p : Pub B)
    (h : c.len (c.create b p.data) ≥ c.len p.data) :
    (encodeAgainst c (some b) p).delta = false ∧ (encodeAgainst c (some b) p).data = c.escape p.data := by
  simp [encodeAgainst, h]

/-- **full_when_no_base**: a delta is put on the wire only by `encodeAgainst` with a base, i.e.
never with `flagDeltaAllowed` unset, never without a reported previous publication, never as the
first publication of a recovered list. -/
theorem full_when_no_base (c : Codec B) (flag : Bool) (prev : Option B) (p : Pub B)
    (hd : (liveStep c flag prev p).1.delta = true) :
    flag = true ∧ ∃ b, prev = some b ∧ c.len (c.create b p.data) < c.len p.data := by
  cases flag with
  | false => simp [liveStep, encodeFull, encodeAgainst] at hd
  | true =>
    cases prev with
    | none => simp [liveStep, encodeAgainst] at hd
    | some b =>
      refine ⟨rfl, b, rfl, ?_⟩
      by_cases hlen : c.len (c.create b p.data) ≥ c.len p.data
      · simp [liveStep, encodeAgainst, hlen] at hd
      · omega

/-! ## map subscriptions: one base per key -/

/-- `makeRecoveredMapPubsDeltaFossil` — per-key bases, removals forget the key — is reconstructed from
any client state that contains the server's `prevByKey`. -/
theorem map_recovered_go (c : Codec B) (hc : c.RoundTrip) (he : c.EscOK)
    (srv : List (Nat × B)) (cl : MapClient B) (ps : List (Pub B)) (hsub : Sub srv cl.vals) :
    ∃ cl', MapClient.recvAll c cl (makeRecoveredMapGo c srv ps) = some (cl', ps.map (·.data)) := by
  induction ps generalizing srv cl with
  | nil => exact ⟨cl, rfl⟩
  | cons p ps ih =>
    unfold makeRecoveredMapGo
    by_cases hrm : p.removed = true
    · rw [if_pos hrm]
      obtain ⟨cl', h'⟩ := ih (erase srv p.key) { vals := erase cl.vals p.key } (sub_erase srv cl.vals p.key hsub)
      exact ⟨cl', MapClient.recvAll_cons (mapRecv_removed c he cl _ p.data rfl rfl) h'⟩
    · rw [if_neg hrm]
      obtain ⟨cl', h'⟩ := ih (insert srv p.key p.data) { vals := insert cl.vals p.key p.data }
        (sub_insert srv cl.vals p.key p.data hsub)
      exact ⟨cl', MapClient.recvAll_cons
        (mapRecv_encodeAgainst c hc he cl _ p (eq_false_of_ne_true hrm) (hsub p.key)) h'⟩

/-- **map_delta_per_key** (recovered list): `prevByKey` starts empty, as in the code, so the recovered list
is reconstructed from every client state. -/
theorem map_delta_per_key (c : Codec B) (hc : c.RoundTrip) (he : c.EscOK) (cl : MapClient B) (ps : List (Pub B)) :
    ∃ cl', MapClient.recvAll c cl (makeRecoveredMap c ps) = some (cl', ps.map (·.data)) :=
  map_recovered_go c hc he [] cl ps (fun _ _ h => by simp [lookup] at h)

/-- base condition for live map publications (`flagDeltaAllowed` is set from the start by
`buildMapChannelFlags`): the reported previous value of the key is what the client holds for it -/
def MapChained : List (Nat × B) → List (Option B × Pub B) → Prop
  | _, [] => True
  | vals, (prev, p) :: rest =>
    (p.removed = true → prev = none) ∧ (∀ b, prev = some b → lookup vals p.key = some b) ∧
      MapChained (if p.removed then erase vals p.key else insert vals p.key p.data) rest

theorem map_live_per_key (c : Codec B) (hc : c.RoundTrip) (he : c.EscOK) (cl : MapClient B)
    (ls : List (Option B × Pub B)) (hch : MapChained cl.vals ls) :
    ∃ cl', MapClient.recvAll c cl (liveRun c true ls) = some (cl', ls.map (·.2.data)) := by
  induction ls generalizing cl with
  | nil => exact ⟨cl, rfl⟩
  | cons e rest ih =>
    obtain ⟨prev, p⟩ := e
    obtain ⟨h0, h1, h2⟩ := hch
    by_cases hrm : p.removed = true
    · rw [if_pos hrm] at h2
      obtain ⟨cl', h'⟩ := ih { vals := erase cl.vals p.key } h2
      refine ⟨cl', MapClient.recvAll_cons ?_ h'⟩
      rw [h0 hrm]
      exact mapRecv_removed c he cl _ p.data hrm rfl
    · rw [if_neg hrm] at h2
      obtain ⟨cl', h'⟩ := ih { vals := insert cl.vals p.key p.data } h2
      exact ⟨cl', MapClient.recvAll_cons (mapRecv_encodeAgainst c hc he cl prev p (eq_false_of_ne_true hrm) h1) h'⟩

/-! ## keyed (shared poll) delta -/
open Keyed in
/-- **keyed_delta_base_ok**: `keyedWritePublication` sends the prepared delta only when the
connection's version of the key equals the version the patch was built against (and a full
payload was delivered before: `deltaReady`). -/
theorem keyed_delta_base_ok (c : Codec B) (ks : KeyState) (v : Nat) (data : B) (prep : Prep B)
    (ks' : KeyState) (w : WPub B) (h : write c ks v data prep = (ks', .wire w true)) :
    ks.version = prep.prevVersion ∧ ks.deltaReady = true ∧ prep.deltaSub = true ∧ ks.version < v := by
  unfold write at h
  by_cases hv : v ≤ ks.version
  · simp [hv] at h
  · simp only [hv, if_false, Prod.mk.injEq, Sent.wire.injEq] at h
    obtain ⟨_, _, hu⟩ := h
    simp only [Bool.and_eq_true, decide_eq_true_eq] at hu
    exact ⟨hu.2, hu.1.2, hu.1.1.1, by omega⟩

open Keyed in
/-- and then the client, which holds the data of its version whenever `deltaReady`, reconstructs
the new data; the invariant is re-established (`sd` = the server's data per version) -/
theorem keyed_reconstructs (c : Codec B) (hc : c.RoundTrip) (he : c.EscOK) (sd : Nat → B)
    (ks : KeyState) (held : Option B) (hinv : ks.deltaReady = true → held = some (sd ks.version))
    (v pv : Nat) (dflt : B) (prev : Option Nat) :
    let prep := buildPrep c (sd v) (prev.map fun pv => (sd pv, pv)) dflt
    match write c ks v (sd v) prep with
    | (_, .skipped) => v ≤ ks.version
    | (ks', .wire w _) => Client.recv c { held := held } w = some (sd v) ∧ ks'.version = v ∧ ks'.deltaReady = true := by
  intro prep
  unfold write
  by_cases hv : v ≤ ks.version
  · simp [hv]
  · simp only [hv, if_false]
    refine ⟨?_, by simp⟩
    cases prev with
    | none => simp [prep, buildPrep, Client.recv, he (sd v)]
    | some pv' =>
      by_cases hr : ks.deltaReady = true
      · by_cases hver : ks.version = pv'
        · have hh := hinv hr
          subst hver
          by_cases hlen : c.len (c.create (sd ks.version) (sd v)) < c.len (sd v)
          · simp [prep, buildPrep, hr, hlen, Client.recv, hh, he (c.create (sd ks.version) (sd v)), hc (sd ks.version) (sd v)]
          · simp [prep, buildPrep, hr, hlen, Client.recv, he (sd v)]
        · simp [prep, buildPrep, hr, hver, Client.recv, he (sd v)]
      · simp [prep, buildPrep, hr, Client.recv, he (sd v)]

/-! ## what the current code does NOT guarantee (decided counter-witnesses = known findings) -/

/-- symbolic table: every patch is smaller than its target; entry 2 = patch not valid UTF-8 -/
def tblSmall : Nat → Nat → Nat := fun _ _ => 1
def tblUtf8 : Nat → Nat → Nat := fun _ _ => 2

/-- C14-1: in the JSON protocol a patch that is not valid UTF-8 does not survive `json.Escape`:
`EscOK` is false, and a two-publication live run is not reconstructed although the client holds the
right base. -/
theorem finding_json_escape_not_injective : ¬ (tokCodec tblUtf8 true).EscOK :=
  fun h => absurd (h (.patch (.pay 0) (.pay 1))) (by decide)

example : Client.recvAll (tokCodec tblUtf8 true) { held := none }
    (liveRun (tokCodec tblUtf8 true) false [(none, { off := 1, data := .pay 0 }), (some (.pay 0), { off := 2, data := .pay 1 })])
    = none := by decide

/-- C14-2: `isStreamRecovered` withholds filtered publications from the recovered list, but the
first live delta is built against the broker's previous publication — here offset 2 (payload 1),
withheld by the filter; the client holds payload 0 and cannot apply it. -/
def recoveredFiltered (c : Codec B) (ps : List (Pub B)) : List (WPub B) := makeRecovered c (ps.filter (·.pass))

theorem finding_filtered_recovery_breaks_chain :
    Client.recvAll (tokCodec tblSmall false) { held := none }
      (recoveredFiltered (tokCodec tblSmall false)
          [{ off := 1, data := .pay 0 }, { off := 2, data := .pay 1, pass := false }]
        ++ liveRun (tokCodec tblSmall false) true [(some (.pay 1), { off := 3, data := .pay 2 })]) = none := by
  decide

/-- C14-3: recovery succeeds with nothing to recover (client position = stream top) and sets
`flagDeltaAllowed`; a client that never received the publication at its position (it subscribed
there) gets the next publication as a delta without a base. -/
theorem finding_empty_recovery_delta_without_base :
    Client.recvAll (tokCodec tblSmall false) { held := none }
      (makeRecovered (tokCodec tblSmall false) []
        ++ liveRun (tokCodec tblSmall false) true [(some (.pay 0), { off := 6, data := .pay 1 })]) = none := by
  decide

/-- C14-4: map subscription with a tags filter: the state entry of key 7 was withheld, the live
update of key 7 is a delta against it (`flagDeltaAllowed` is set from the start for maps). -/
theorem finding_map_filtered_state_delta :
    MapClient.recvAll (tokCodec tblSmall false) { vals := [] }
      (liveRun (tokCodec tblSmall false) true [(some (.pay 0), { off := 2, data := .pay 1, key := 7 })]) = none := by
  decide

/-- … while the same runs ARE reconstructed when the client holds the base (the theorems above) -/
example : Client.recvAll (tokCodec tblSmall false) { held := some (.pay 0) }
    (liveRun (tokCodec tblSmall false) true [(some (.pay 0), { off := 6, data := .pay 1 })]) = some [.pay 1] := by decide

end CentrifugeVerif.C14
