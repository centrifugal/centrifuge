import CentrifugeVerif.Proofs.WSMask
import CentrifugeVerif.Proofs.WSHeader
import CentrifugeVerif.Proofs.WSTrunc
import CentrifugeVerif.Proofs.WSRoundtrip
/-!
# C30 — WebSocket messages round-trip through writer and reader
-/
namespace CentrifugeVerif.WS
open Writer

/-- Unmasking undoes masking (RFC 6455 §5.3: the same algorithm in both directions), from any key
position. -/
theorem mask_involutive (k : Key) (pos : Nat) (bs : Bytes) :
    xorMask k pos (xorMask k pos bs) = bs := xorMask_involutive k pos bs

/-- The key position carries across chunks: masking `a ++ b` from `pos` is masking `a` from `pos`
and `b` from the position `maskBytes` returned for `a` (`(pos + |a|) & 3`). -/
theorem mask_append (k : Key) (pos : Nat) (a b : Bytes) :
    xorMask k pos (a ++ b) = xorMask k pos a ++ xorMask k ((pos + a.length) % 4) b := by
  rw [xorMask_append, xorMask_congr k (p := (pos + a.length) % 4) (q := pos + a.length) (by omega)]

/-- The word-at-a-time `maskBytes` of mask.go computes the byte-wise definition and returns the
byte-wise position, for every key, start position, buffer alignment and length. -/
theorem maskWordsGo_eq (k : Key) (pos align : Nat) (b : Bytes) :
    maskWordsGo k pos align b = (xorMask k pos b, (pos + b.length) % 4) := by
  unfold maskWordsGo
  split
  · rfl
  · rename_i hlen
    simp only [Nat.not_lt] at hlen
    generalize hn : (if align % 8 == 0 then 0 else 8 - align % 8) = n
    have hn8 : n ≤ 8 := by subst hn; split <;> omega
    have hnl : n ≤ b.length := by omega
    simp only []
    generalize hnw : (b.drop n).length / 8 * 8 = nw
    have hnwl : nw ≤ (b.drop n).length := by subst hnw; exact Nat.div_mul_le_self _ _
    have hnw4 : nw % 4 = 0 := by subst hnw; omega
    congr 1
    · rw [xorMask_rotated, Nat.add_zero]
      conv => rhs; rw [← List.take_append_drop n b, xorMask_append]
      rw [List.append_assoc]
      congr 1
      simp only [List.length_take, Nat.min_eq_left hnl]
      conv => rhs; rw [← List.take_append_drop nw (b.drop n), xorMask_append]
      congr 1
      simp only [List.length_take, Nat.min_eq_left hnwl]
      exact xorMask_congr k (by omega) _
    · simp only [List.length_drop] at hnwl ⊢
      omega

/-- The header `flushFrame` writes parses back to the same FIN, RSV1, opcode, mask bit and payload
length, with RSV2 = RSV3 = 0, for every opcode, every length below 2^63 (7-, 16- and 64-bit forms)
and whatever follows it on the wire. -/
theorem header_roundtrip (final rsv1 masked : Bool) (op : Nat) (hop : op < 16) (len : Nat)
    (hlen : len < 2 ^ 63) (rest : Bytes) :
    ∃ b0 b1 ext, encHeader (firstByte final rsv1 op) masked len = b0 :: b1 :: ext ∧
      (parseHdr b0 b1).fin = final ∧ (parseHdr b0 b1).rsv1 = rsv1 ∧ (parseHdr b0 b1).rsv2 = false ∧
      (parseHdr b0 b1).rsv3 = false ∧ (parseHdr b0 b1).opcode = op ∧ (parseHdr b0 b1).masked = masked ∧
      Spec.extLen (parseHdr b0 b1).len7 (ext ++ rest) = some (len, rest) :=
  encHeader_parse final rsv1 masked op hop len hlen rest

/-- `truncWriter`: however the compressed stream is cut into `Write` calls (empty ones included),
the bytes passed on to the message writer are the stream without its last four bytes, and those
four bytes are what `flateWriteWrapper.Close` compares with `00 00 ff ff`. -/
theorem truncWriter_drops_last4 (chunks : List Bytes) (d tail : Bytes)
    (h : chunks.flatten = d ++ tail) (ht : tail.length = 4) :
    (twWrites {} chunks).2.flatten = d ∧ (twWrites {} chunks).1.held = tail :=
  twWrites_tail chunks d tail h (by rw [h, List.length_append]; omega)

/-- shorter streams are kept back entirely -/
theorem truncWriter_short (chunks : List Bytes) (h : chunks.flatten.length ≤ 4) :
    (twWrites {} chunks).2.flatten = [] ∧ (twWrites {} chunks).1.held = chunks.flatten :=
  twWrites_tail chunks [] chunks.flatten rfl (by omega)

example : (twWrites {} [[1, 2], [], [3, 4, 5, 6, 7, 8, 9], [10]]).2.flatten = [1, 2, 3, 4, 5, 6] ∧
    (twWrites {} [[1, 2], [], [3, 4, 5, 6, 7, 8, 9], [10]]).1.held = [7, 8, 9, 10] := by decide

/-! ## Round trip -/

/-- what makes a write operation admissible for the round-trip theorem: a data message type, fewer
than 2^63 bytes, and for a compressed message the codec hypothesis — whatever chunks flate emits,
they concatenate to a stream `dfl ++ 00 00 ff ff` which the peer's inflate maps back to the data -/
def Writer.WOp.Admissible (peer : Cfg) : WOp → Prop
  | .compressed t d chunks => isDataOp t = true ∧ peer.deflate = true ∧
      ∃ dfl, chunks.flatten = dfl ++ deflateTail ∧ peer.inflate (dfl ++ deflateTail) = some d ∧
        dfl.length < two63
  | op => isDataOp op.typ = true ∧ op.data.length < two63

/-- **Round trip.**  For every script of data-message writes (`WriteMessage`, `NextWriter` with any
pieces via `Write` or `WriteString`, prepared messages, compressed messages under the codec
hypothesis with any chunking of the compressed stream), every write buffer size, both sides and
any mask keys: every write succeeds, and the specification's decoder (strict RFC 6455 §5 rules,
configured as the opposite side) reads from the bytes on the wire exactly the written messages, same
types and bytes, in order, followed only by "incomplete" (the stream ends).  Since that decoder
reports a protocol error for an unmasked client frame, a masked server frame, a reserved bit or a
bad fragmentation, the wire is well-formed in particular. -/
theorem write_then_read (peer : Cfg) (accept : Nat → Bool) (cfg : WCfg)
    (hside : peer.server = !cfg.server) (hrl : peer.readLimit = 0) (hlim : peer.inflatedLimit = 0)
    (hB : cfg.bufSize > 0) (ops : List WOp) (hadm : ∀ op ∈ ops, op.Admissible peer) :
    (writeAll cfg {} ops).2 = true ∧
    Spec.decode peer accept (writeAll cfg {} ops).1.wire =
      ops.map (fun op => Event.msg op.typ op.data) ++ [.incomplete] := by
  obtain ⟨h1, h2⟩ := writeAll_decodes peer accept cfg ops (fun op hmem c evs hd hopen => by
    have hop := hadm op hmem
    cases op with
    | message t d => exact writeMessagePlain_sync hside hrl hop.1 hB d hd hopen hop.2
    | streamed t ps =>
      exact writeStreamed_sync (comp := false) hside hrl nofun hB hop.1 ps hd hopen hop.2 rfl
    | strings t ps => exact writeStrings_sync hside hrl hop.1 hB ps hd hopen hop.2
    | prepared t d => exact writePrepared_sync hside hrl hop.1 d hd hopen hop.2
    | compressed t d chunks =>
      obtain ⟨ht, hdefl, dfl, hch, hcodec, hl⟩ := hop
      exact writeCompressed_sync hside hrl ht hB hdefl hlim d dfl chunks hch hcodec hd hopen hl)
    {} [] (decodesTo_nil peer accept) rfl
  refine ⟨h1, ?_⟩
  simpa [Spec.decode, Spec.decodeQ] using h2 []

/-- non-vacuity: a client with a 2-byte write buffer streams "abc" and writes "de" -/
example : (writeAll { server := false, bufSize := 2, compress := false, keyAt := fun _ => ⟨1, 2, 3, 4⟩ } {}
      [.streamed 1 [[0x61], [0x62, 0x63]], .message 2 [0x64, 0x65]]).1.wire =
    [0x01, 0x82, 1, 2, 3, 4, 0x60, 0x60, 0x80, 0x81, 1, 2, 3, 4, 0x62,
     0x82, 0x82, 1, 2, 3, 4, 0x65, 0x67] := by decide

/-- non-vacuity of the codec hypothesis: "a" deflates (sync flush) to `4a 04 00 00 00 ff ff`, flate
hands it over in two pieces, the peer's inflate knows that stream -/
example : (WOp.compressed 1 [0x61] [[0x4a, 0x04], [0x00, 0x00, 0x00, 0xff, 0xff]]).Admissible
    { server := false, deflate := true, readLimit := 0, inflatedLimit := 0,
      inflate := fun b => if b = [0x4a, 0x04, 0x00, 0x00, 0x00, 0xff, 0xff] then some [0x61] else none } :=
  ⟨rfl, rfl, [0x4a, 0x04, 0x00], rfl, by decide, by decide⟩

end CentrifugeVerif.WS
