import CentrifugeVerif.Proofs.Recovery
import CentrifugeVerif.Proofs.RecoveryHub
import CentrifugeVerif.Proofs.RecoveryBuffered
/-!
# C02 — stream recovery is exact or explicitly refused

Property theorems over `Model/Recovery.lean` (`streamSubscribe` = the stream-mode recovery branch of
`subscribeCmd` over `Node.recoverHistory` / `historyHub.getLocked` / `memstream.Stream.Get` /
`isStreamRecovered` / `MergePublications`).  They hold for **every** stream state satisfying
`RStream.Inv` (retained list = contiguous suffix of the epoch's publish log ending at `top`,
`top + 1 < 2^64`; proved inductive for the hub mini-model in `Proofs/RecoveryHub.lean`), every
request offset below `2^64` (so also `MaxUint64`, where `offset + 1` wraps), every request epoch
(`0` = empty string), every `RecoveryMaxPublicationLimit` (`0` = unlimited), every filter predicate
and both values of the reject flag.  The theorems that take no `buffered` argument are about a
subscribe during which nothing was buffered; `recovered_true_iff_buffered`,
`recovered_pubs_exact_buffered`, `recovered_false_empty` and `hub_recovered_true_iff_window` hold for
whatever was buffered concurrently (the merge itself is C39).
-/
namespace CentrifugeVerif.Recovery
open CentrifugeVerif.Merge

/-- the epoch of the request is acceptable: empty, or the stream's epoch -/
def epochOK (s : RStream) (ep : Nat) : Prop := ep = 0 ∨ ep = s.epoch

/-- the publications of the epoch after `off` that the filters let through, oldest first: what the
property calls "the channel's publications after that offset up to the current top (minus those the
subscription's filters withhold)" -/
def expectedPubs (s : RStream) (off : Nat) (pass : Pub → Bool) : List MPub :=
  ((s.log.filter (fun p => decide (off < p.offset))).filter pass).map toPlain

/-- With publications buffered concurrently (any list), the decision
is the same unless the merge detects a gap and the client is disconnected with insufficient state. -/
theorem recovered_true_iff_buffered (limit : Nat) (s : RStream) (hi : s.Inv) (req : Req) (hoff : req.offset < U64)
    (pass : Pub → Bool) (buffered : List MPub) :
    streamSubscribe limit s req pass buffered = .insufficient ∨
    ((streamSubscribe limit s req pass buffered).recovered = true ↔
      epochOK s req.epoch ∧ req.offset ≤ s.top ∧ gapRetained s req.offset ∧ ¬ truncated limit s req.offset) := by
  by_cases hc : Recoverable limit s req.offset req.epoch
  · rw [streamSubscribe_recoverable hi hc]
    exact (finish_cases ..).imp_right fun h => iff_of_true h hc
  · rw [streamSubscribe_not_recoverable hi hoff hc]
    cases req.reject
    · exact (finish_cases ..).imp_right fun h => iff_of_false (by rw [h]; exact Bool.false_ne_true) hc
    · exact Or.inr (iff_of_false Bool.false_ne_true hc)

/-- `recovered = true` is reported exactly when the epoch is acceptable,
the requested offset is not beyond the top, every offset in `(offset, top]` is still retained, and
the recovery publication limit did not truncate the answer. -/
theorem recovered_true_iff (limit : Nat) (s : RStream) (hi : s.Inv) (req : Req) (hoff : req.offset < U64)
    (pass : Pub → Bool) :
    (streamSubscribe limit s req pass []).recovered = true ↔
      epochOK s req.epoch ∧ req.offset ≤ s.top ∧ gapRetained s req.offset ∧ ¬ truncated limit s req.offset := by
  rcases recovered_true_iff_buffered limit s hi req hoff pass [] with h | h
  · -- nothing buffered: the merge cannot fail
    rcases streamSubscribe_cases limit s req pass [] with h1 | ⟨r, rp, h1⟩ <;> rw [h1] at h
    · cases h
    · exact absurd h (finish_nobuf _ _ _ _ _ _ _ _)
  · exact h

/-- In particular `recovered = true` is never reported when a publication after the requested offset
is missing from history, when the epoch differs, or when the limit truncated the result. -/
theorem recovered_never_when (limit : Nat) (s : RStream) (hi : s.Inv) (req : Req) (hoff : req.offset < U64)
    (pass : Pub → Bool)
    (h : (∃ o, req.offset < o ∧ o ≤ s.top ∧ ∀ p ∈ s.items, p.offset ≠ o) ∨
         (req.epoch ≠ 0 ∧ req.epoch ≠ s.epoch) ∨ truncated limit s req.offset) :
    (streamSubscribe limit s req pass []).recovered = false := by
  rw [← Bool.not_eq_true, recovered_true_iff limit s hi req hoff pass]
  rintro ⟨h1, _, h3, h4⟩
  rcases h with ⟨o, ho1, ho2, ho3⟩ | ⟨he1, he2⟩ | ht
  · obtain ⟨p, hp, hpo⟩ := h3 o ho1 ho2
    exact ho3 p hp hpo
  · exact h1.elim he1 he2
  · exact h4 ht

/-- Exactness with traffic during the subscribe.  `news` are the
publications made after the history read (offsets `top+1, top+2, …`); the subscriber's buffer holds
copies (`toM`: placeholders for filtered ones) of publications of the epoch — the fresh ones, all of
them (`hnew`), and possibly late copies of older ones (`hbuf`).  Then the subscribe either ends with
insufficient state (the merge found a gap, e.g. a late copy far below the recovered range), or, when
the position is recoverable, reports `recovered = true` with **exactly** the epoch's publications after
the requested offset up to the *new* top, minus filtered ones, each once, in order — the stale copies
at or below the requested offset are not delivered again (`dropStale`). -/
theorem recovered_pubs_exact_buffered (limit : Nat) (s : RStream) (hi : s.Inv) (req : Req)
    (hoff : req.offset < U64) (pass : Pub → Bool) (news : List Pub) (buffered : List MPub)
    (hnews : offs news = List.range' (s.top + 1) news.length)
    (hbuf : ∀ b ∈ buffered, ∃ p ∈ s.log ++ news, b = toM pass p)
    (hnew : ∀ p ∈ news, toM pass p ∈ buffered)
    (hc : epochOK s req.epoch ∧ req.offset ≤ s.top ∧ gapRetained s req.offset ∧ ¬ truncated limit s req.offset) :
    streamSubscribe limit s req pass buffered = .insufficient ∨
    ((streamSubscribe limit s req pass buffered).recovered = true ∧
     (streamSubscribe limit s req pass buffered).pubs =
       (((s.log ++ news).filter (fun p => decide (req.offset < p.offset))).filter pass).map toPlain) := by
  rw [streamSubscribe_recoverable hi hc]
  refine (finish_stream_exact hi req.offset pass news buffered hnews hbuf hnew).imp_right fun h => ?_
  rw [h]
  exact ⟨rfl, rfl⟩

/-- When `recovered = true` the reply carries exactly the publications of
the epoch after the requested offset, in order, minus the filtered ones; the reply offset is the
requested one, the epoch the stream's, and the position the client is put at is the stream top. -/
theorem recovered_pubs_exact (limit : Nat) (s : RStream) (hi : s.Inv) (req : Req) (hoff : req.offset < U64)
    (pass : Pub → Bool) (h : (streamSubscribe limit s req pass []).recovered = true) :
    streamSubscribe limit s req pass [] =
      .reply true (expectedPubs s req.offset pass) req.offset s.epoch s.top true := by
  have hc := (recovered_true_iff limit s hi req hoff pass).mp h
  rw [streamSubscribe_recoverable hi hc]
  -- the case of `finish_stream_exact` with no traffic during the subscribe
  have := finish_stream_exact hi req.offset pass [] [] rfl (fun _ hb => nomatch hb) (fun _ hp => nomatch hp)
  rw [List.append_nil] at this
  exact this.resolve_left (finish_nobuf _ _ _ _ _ _ _ _)

/-- every delivered publication is a retained one (nothing is invented) -/
theorem recovered_pubs_retained (limit : Nat) (s : RStream) (hi : s.Inv) (req : Req) (hoff : req.offset < U64)
    (pass : Pub → Bool) (h : (streamSubscribe limit s req pass []).recovered = true) :
    ∀ m ∈ (streamSubscribe limit s req pass []).pubs,
      ∃ p ∈ s.items, pass p = true ∧ req.offset < p.offset ∧ m = toPlain p := by
  have hc := (recovered_true_iff limit s hi req hoff pass).mp h
  rw [recovered_pubs_exact limit s hi req hoff pass h]
  intro m hm
  simp only [Outcome.pubs, expectedPubs, List.mem_map, List.mem_filter, decide_eq_true_eq] at hm
  obtain ⟨p, ⟨⟨hpl, hgt⟩, hpass⟩, rfl⟩ := hm
  -- the retained list is the log after `lo`, and `lo ≤ offset`
  have hlo := (gap_iff hi hc.2.1).mp hc.2.2.1
  exact ⟨p, hi.items_eq ▸ (hi.mem_log_drop s.lo p).mpr ⟨hpl, Nat.lt_of_le_of_lt hlo hgt⟩, hpass, hgt, rfl⟩

/-- Whenever `recovered = false` is reported (or the subscribe fails) no
recovered publication is delivered — for any buffered publications. -/
theorem recovered_false_empty (limit : Nat) (s : RStream) (req : Req) (pass : Pub → Bool)
    (buffered : List MPub) (h : (streamSubscribe limit s req pass buffered).recovered = false) :
    (streamSubscribe limit s req pass buffered).pubs = [] := by
  rcases streamSubscribe_cases limit s req pass buffered with h1 | ⟨r, rp, h1⟩
  · rw [h1]; rfl
  · rw [h1] at h ⊢
    exact finish_false_empty _ _ _ _ _ _ _ _ _ h

/-- The subscribe fails with `ErrorUnrecoverablePosition` exactly when the
client demanded it (reject flag) and the position is not recoverable; otherwise a reply is sent. -/
theorem unrecoverable_iff (limit : Nat) (s : RStream) (hi : s.Inv) (req : Req) (hoff : req.offset < U64)
    (pass : Pub → Bool) :
    streamSubscribe limit s req pass [] = .unrecoverable ↔
      req.reject = true ∧
        ¬ (epochOK s req.epoch ∧ req.offset ≤ s.top ∧ gapRetained s req.offset ∧ ¬ truncated limit s req.offset) := by
  by_cases hc : Recoverable limit s req.offset req.epoch
  · rw [streamSubscribe_recoverable hi hc]
    exact iff_of_false (finish_ne_unrecoverable _ _ _ _ _ _ _ _ _) fun h => h.2 hc
  · rw [streamSubscribe_not_recoverable hi hoff hc]
    cases req.reject
    · exact iff_of_false (finish_ne_unrecoverable _ _ _ _ _ _ _ _ _) fun h => Bool.false_ne_true h.1
    · exact iff_of_true rfl ⟨rfl, hc⟩

/-- without the reject flag the outcome is always a reply -/
theorem refused_reply (limit : Nat) (s : RStream) (hi : s.Inv) (req : Req) (hoff : req.offset < U64)
    (pass : Pub → Bool) (hr : req.reject = false)
    (h : (streamSubscribe limit s req pass []).recovered = false) :
    streamSubscribe limit s req pass [] = .reply false [] s.top s.epoch s.top true := by
  have hc : ¬ Recoverable limit s req.offset req.epoch := fun hc => by
    rw [(recovered_true_iff limit s hi req hoff pass).mpr hc] at h; cases h
  rw [streamSubscribe_not_recoverable hi hoff hc, hr]
  exact finish_nil ..

/-- The hypothesis `RStream.Inv` of the theorems above holds for the stream
read by a subscribe in *every reachable state* of the hub mini-model: any sequence of publish (any
history size / TTL), RemoveHistory, sweeper ticks (TTL expiry keeps top, meta expiry deletes the stream
so that the next access creates a fresh epoch with top 0) and subscribes (with cache-empty handler
publishes), provided fewer than 2^64 - 2 publications were made. -/
theorem stream_inv_reachable (ops : List HubOp) (now m l : Nat)
    (hb : (Hub.run { now := now, cfgMeta := m, cfgLimit := l } ops).nextId + 1 < U64) (mt : Nat) :
    ((Hub.run { now := now, cfgMeta := m, cfgLimit := l } ops).access mt).2.Inv :=
  (hinv_access (hinv_run ops (hinv_init now m l) hb) mt).2.1

/-- `recovered_true_iff` at hub level: a client subscribe with `Recover`
in stream mode against any hub state satisfying the invariant (so: any reachable one). -/
theorem hub_recovered_true_iff (h : Hub) (hi : h.HInv) (sp : SubParams) (hm : sp.cacheMode = false)
    (hr : sp.recover = true) (hw : sp.window = []) (hoff : sp.req.offset < U64) :
    (h.subscribe sp).out.recovered = true ↔
      epochOK (h.access 0).2 sp.req.epoch ∧ sp.req.offset ≤ (h.access 0).2.top ∧
      gapRetained (h.access 0).2 sp.req.offset ∧ ¬ truncated h.cfgLimit (h.access 0).2 sp.req.offset := by
  rw [subscribe_stream_out h sp hm hr, hw]
  exact recovered_true_iff _ _ (hinv_access hi 0).2.1 _ hoff _

/-- the same with arbitrary traffic (fresh publications, late copies) arriving while the subscribe
is in flight: the decision is unchanged unless the merge disconnects with insufficient state -/
theorem hub_recovered_true_iff_window (h : Hub) (hi : h.HInv) (sp : SubParams) (hm : sp.cacheMode = false)
    (hr : sp.recover = true) (hoff : sp.req.offset < U64) :
    (h.subscribe sp).out = .insufficient ∨
    ((h.subscribe sp).out.recovered = true ↔
      epochOK (h.access 0).2 sp.req.epoch ∧ sp.req.offset ≤ (h.access 0).2.top ∧
      gapRetained (h.access 0).2 sp.req.offset ∧ ¬ truncated h.cfgLimit (h.access 0).2 sp.req.offset) := by
  rw [subscribe_stream_out h sp hm hr]
  exact recovered_true_iff_buffered _ _ (hinv_access hi 0).2.1 _ hoff _ _

/-! ### Non-vacuity: concrete states satisfying `Inv`, exercising the branches -/

-- `recovered_pubs_exact_buffered` on a concrete instance: one fresh publication (offset 6) and a late
-- copy of offset 2 (= the requested offset) arrive while the subscribe recovers from 2
example : streamSubscribe 0 (((((((RStream.new 7).add 1 1 9).add 2 2 9).add 1 3 9).add 1 4 9).add 2 5 9))
    ⟨2, 7, false⟩ (fun _ => true) [⟨6, false, 6⟩, ⟨2, false, 2⟩] =
    .reply true [⟨3, false, 3⟩, ⟨4, false, 4⟩, ⟨5, false, 5⟩, ⟨6, false, 6⟩] 2 7 6 true := by decide
-- a late copy far below the recovered range makes the merge report a gap
example : streamSubscribe 0 (((((((RStream.new 7).add 1 1 9).add 2 2 9).add 1 3 9).add 1 4 9).add 2 5 9))
    ⟨3, 7, false⟩ (fun _ => true) [⟨1, false, 1⟩] = .insufficient := by decide

/-- five publications, history size 3: offsets 3,4,5 retained, top 5, epoch 7 -/
def exS : RStream :=
  (((((RStream.new 7).add 1 1 3).add 2 2 3).add 1 3 3).add 1 4 3).add 2 5 3

example : exS.Inv := ⟨by decide, by decide, by decide, by decide, by decide⟩

-- recovered from a retained position, with a filter (tag = 1): offset 5 (tag 2) is withheld
example : streamSubscribe 0 exS ⟨2, 7, false⟩ (fun p => p.tag == 1) [] =
    .reply true [⟨3, false, 3⟩, ⟨4, false, 4⟩] 2 7 5 true := by decide
-- trimmed position (offset 2 is gone): refused, and with the reject flag an error
example : streamSubscribe 0 exS ⟨1, 7, false⟩ (fun _ => true) [] = .reply false [] 5 7 5 true := by decide
example : streamSubscribe 0 exS ⟨1, 7, true⟩ (fun _ => true) [] = .unrecoverable := by decide
-- limit 2 truncates a gap of 3
example : streamSubscribe 2 exS ⟨2, 7, false⟩ (fun _ => true) [] = .reply false [] 5 7 5 true := by decide
example : truncated 2 exS 2 := by decide
-- foreign epoch, empty epoch, offset = top, offset beyond top
example : streamSubscribe 0 exS ⟨2, 9, false⟩ (fun _ => true) [] = .reply false [] 5 7 5 true := by decide
example : (streamSubscribe 0 exS ⟨2, 0, false⟩ (fun _ => true) []).recovered = true := by decide
example : streamSubscribe 0 exS ⟨5, 7, false⟩ (fun _ => true) [] = .reply true [] 5 7 5 true := by decide
example : (streamSubscribe 0 exS ⟨6, 7, false⟩ (fun _ => true) []).recovered = false := by decide
-- expired / removed stream keeps top: only the client at top is recovered
example : (streamSubscribe 0 exS.clear ⟨5, 7, false⟩ (fun _ => true) []).recovered = true := by decide
example : (streamSubscribe 0 exS.clear ⟨4, 7, false⟩ (fun _ => true) []).recovered = false := by decide

end CentrifugeVerif.Recovery
